/-
  Props/C19Gen.lean — the C19 theorems stated ABOUT THE CODE IN /repo:
  about `adjustments_Pll_Do`, the Lean definition regenerated from the Go AST of `(*Pll).Do`
  (core/sync/adjustments/pll.go) on every run (Gen/Leaf.lean), not about the hand-written model.

  They are corollaries of the theorems of Props/C19.lean through the tie `C19_leaf_Do`
  (Props/LeafC19.lean: generated definition = model, for all inputs), carried to histories:
  a history is any list of calls `Do(offset, weight)` together with what `l.clk.Epoch()`,
  `l.clk.Now()` and `math.Pow` returned during each call; `gtrace` folds the generated definition
  over it (a panic — `none` — leaves the receiver as it was: in all four panic branches `Do` has
  not written to it).

  What the statements are about, exactly: the translator's reading of `Do` (tagged switch,
  `l.mode++`, one parameter per `Epoch()`/`Now()` call site, `math.Pow` a function applied to its arguments, `Step`/`Adjust` as recorded calls,
  panics as `none`, log statements skipped), over the software double `F64` (tied to the hardware
  by harness f64) and `Int64`. Offsets are `Int64` here, so the model's hypothesis "offsets are
  int64 values" is not needed.
-/
import ScionTime.Props.LeafC19
import ScionTime.Props.C19
namespace ScionTime.Props.C19Gen
open ScionTime ScionTime.F64 ScionTime.Pll ScionTime.Gen.Leaf ScionTime.LeafTieC19 ScionTime.Props.C19

/-- one call `l.Do(off, w)` with what the clock and `math.Pow` returned during it -/
structure Call where
  epoch : UInt64
  now : Int
  off : Int64
  w : F64
  pw : F64

/-- the same call as an input of the model -/
def Call.toIn (x : Call) : Input := ⟨x.epoch.toNat, x.now, x.off.toInt, x.w, x.pw⟩

abbrev Res := Option (S_Pll × List Go.ClkAction)

/-- The generated `(*Pll).Do` in a call during which both readings of `l.clk.Epoch()` returned `e`
    and `math.Pow`, at the arguments the code passes, returned `pw`. EVERY call of the generated
    definition is such an instance (`C19_gen_every_call` below: any two epoch readings, any function
    for `math.Pow`), so the theorems of this file, stated for `genDo`, are about every call. -/
abbrev genDo (l : S_Pll) (off : Int64) (w : F64) (e : UInt64) (now : Int) (pw : F64) : Res :=
  adjustments_Pll_Do l off w e e now (fun _ _ => pw)

/-- every call of the regenerated `Do` — two epoch readings `e1`, `e2`, any function `pf` for
    `math.Pow` — is `genDo` on the receiver after the epoch test, under the epoch kept, with the value
    of `pf` at `(stiffenRate, dt)` -/
theorem C19_gen_every_call (l : S_Pll) (off : Int64) (w : F64) (e1 e2 : UInt64) (now : Int) (pf : F64 → F64 → F64) :
    adjustments_Pll_Do l off w e1 e2 now pf =
      genDo (readEpoch l e1 e2).1 off w (readEpoch l e1 e2).2 now (pf stiffenRate (dtOf l now)) := by
  rw [C19_leaf_Do_pow_args, C19_leaf_Do_two_readings]

/-- the generated `(*Pll).Do` on one call -/
def doCall (l : S_Pll) (x : Call) : Res := genDo l x.off x.w x.epoch x.now x.pw

/-- receiver after a call (a panic has not written to it) -/
def next (l : S_Pll) : Res → S_Pll
  | some (l', _) => l'
  | none => l

/-- (receiver before, call, result) for every call of a history -/
def gtrace (l : S_Pll) : List Call → List (S_Pll × Call × Res)
  | [] => []
  | x :: xs => (l, x, doCall l x) :: gtrace (next l (doCall l x)) xs

/-- `NewPLL`: `&Pll{clk: clk}`, every field its zero value (`time.Time{}` = year 1) -/
def gInit : S_Pll :=
  { epoch := 0, mode := 0, t0 := zeroTime, t := zeroTime, a := fzero, b := fzero, i := fzero }

theorem pl_gInit : pl gInit = init := rfl

theorem genDo_agree (l : S_Pll) (off : Int64) (w pw : F64) (e : UInt64) (now : Int) :
    Agree (genDo l off w e now pw) (step (pl l) e.toNat now off.toInt w pw) :=
  C19_leaf_Do_const l off w e now pw

theorem genDo_some {l l' : S_Pll} {off : Int64} {w pw : F64} {e : UInt64} {now : Int}
    {acts : List Go.ClkAction} (h : genDo l off w e now pw = some (l', acts)) :
    step (pl l) e.toNat now off.toInt w pw = .ok (pl l') (acts.map act) :=
  agree_some (h ▸ genDo_agree l off w pw e now)

theorem genDo_none {l : S_Pll} {off : Int64} {w pw : F64} {e : UInt64} {now : Int}
    (h : genDo l off w e now pw = none) : ∃ k, step (pl l) e.toNat now off.toInt w pw = .panic k :=
  agree_none (h ▸ genDo_agree l off w pw e now)

theorem genDo_of_ok {l : S_Pll} {off : Int64} {w pw : F64} {e : UInt64} {now : Int} {s : State}
    {a : List Action} (h : step (pl l) e.toNat now off.toInt w pw = .ok s a) :
    ∃ l' acts, genDo l off w e now pw = some (l', acts) ∧ s = pl l' ∧ a = acts.map act :=
  agree_ok (h ▸ genDo_agree l off w pw e now)

theorem doCall_agree (l : S_Pll) (x : Call) : Agree (doCall l x) (stepIn (pl l) x.toIn) :=
  genDo_agree l x.off x.w x.pw x.epoch x.now

theorem doCall_some {l l' : S_Pll} {x : Call} {acts : List Go.ClkAction} (h : doCall l x = some (l', acts)) :
    stepIn (pl l) x.toIn = .ok (pl l') (acts.map act) :=
  agree_some (h ▸ doCall_agree l x)

theorem doCall_of_ok {l : S_Pll} {x : Call} {s : State} {a : List Action} (h : stepIn (pl l) x.toIn = .ok s a) :
    ∃ l' acts, doCall l x = some (l', acts) ∧ s = pl l' ∧ a = acts.map act :=
  agree_ok (h ▸ doCall_agree l x)

theorem pl_next (l : S_Pll) (x : Call) : pl (next l (doCall l x)) = (stepIn (pl l) x.toIn).next (pl l) := by
  have h := doCall_agree l x
  cases hd : doCall l x with
  | none => rw [hd] at h; obtain ⟨k, hk⟩ := agree_none h; rw [hk]; rfl
  | some r => rw [hd] at h; rw [agree_some h]; rfl

/-- every entry of a history of the generated definition is an entry of the model's history of the
    translated inputs: same state, same input, agreeing outcome -/
theorem gtrace_mem {l : S_Pll} {xs : List Call} {τ : S_Pll × Call × Res} (h : τ ∈ gtrace l xs) :
    (pl τ.1, τ.2.1.toIn, stepIn (pl τ.1) τ.2.1.toIn) ∈ trace (pl l) (xs.map Call.toIn) ∧
      τ.2.2 = doCall τ.1 τ.2.1 := by
  induction xs generalizing l with
  | nil => cases h
  | cons x xs ih =>
    rcases List.mem_cons.mp h with rfl | h
    · -- a bare `rfl` for the second part would unfold the generated definition
      exact ⟨List.mem_cons_self .., by simp only⟩
    · have := ih h
      rw [pl_next] at this
      exact ⟨List.mem_cons_of_mem _ this.1, this.2⟩

theorem act_inj {a b : Go.ClkAction} (h : act a = act b) : a = b := by
  cases a <;> cases b <;> simp only [act, Action.step.injEq, Action.adjust.injEq, reduceCtorEq] at h
  · rw [Int64.toInt_inj.mp h]
  · rw [Int64.toInt_inj.mp h.1, Int64.toInt_inj.mp h.2.1, h.2.2]

theorem map_act_singleton {acts : List Go.ClkAction} {a : Go.ClkAction} (h : acts.map act = [act a]) :
    acts = [a] := by
  cases acts with
  | nil => simp at h
  | cons b bs =>
    cases bs with
    | nil =>
      simp only [List.map_cons, List.map_nil, List.cons.injEq, and_true] at h
      rw [act_inj h]
    | cons c cs => simp at h

theorem mem_step {acts : List Go.ClkAction} {x : Int64} (h : Go.ClkAction.step x ∈ acts) :
    Action.step x.toInt ∈ acts.map act := List.mem_map_of_mem (f := act) h

theorem mem_adjust {acts : List Go.ClkAction} {o d : Int64} {f : F64} (h : Go.ClkAction.adjust o d f ∈ acts) :
    Action.adjust o.toInt d.toInt f ∈ acts.map act := List.mem_map_of_mem (f := act) h

theorem no_step_of_map {acts : List Go.ClkAction} (h : ∀ x, Action.step x ∉ acts.map act) :
    ∀ x, Go.ClkAction.step x ∉ acts := fun _ hx => h _ (mem_step hx)

theorem off_range (o : Int64) : minI64 ≤ o.toInt ∧ o.toInt ≤ maxI64 := by
  have h1 := Int64.le_toInt o
  have h2 := Int64.toInt_lt o
  unfold minI64 maxI64
  constructor <;> omega

theorem mode_iff (l : S_Pll) (k : Nat) (hk : k < 4) : (pl l).mode = k ↔ l.mode = UInt64.ofNat k := by
  rw [← mode_beq l k hk, beq_iff_eq]

theorem epoch_iff (l : S_Pll) (e : UInt64) : e.toNat = (pl l).epoch ↔ e = l.epoch :=
  ⟨fun h => UInt64.toNat_inj.mp h, fun h => by rw [h]; rfl⟩

/-- The code steps the clock only in mode 1 of the current epoch, more than 2 s after the epoch's
    first update, with weight > 3 and |offset| > 1 ms; the `Step` is the only call of that update,
    moves the controller to mode 2, and its argument is the measured offset (`MinInt64 + 1` for
    `MinInt64`). For every call and every receiver state. -/
theorem C19_gen_step_only_when {l l' : S_Pll} {off : Int64} {w pw : F64} {e : UInt64} {now : Int}
    {acts : List Go.ClkAction} {x : Int64}
    (h : genDo l off w e now pw = some (l', acts)) (hx : Go.ClkAction.step x ∈ acts) :
    e = l.epoch ∧ l.mode = 1 ∧ timeSub now l.t0 > 2000000000 ∧ gt w (ofInt 3) = true ∧
    (off.toInt > 1000000 ∨ off.toInt < -1000000) ∧
    x = (if off = Int64.minValue then Int64.minValue + 1 else off) ∧ l'.mode = 2 ∧ acts = [.step x] := by
  have hm := genDo_some h
  have := C19_step_only_when (off_range off) hm (mem_step hx)
  obtain ⟨h1, h2, h3, h4, h5, h6, h7, h8⟩ := this
  refine ⟨(epoch_iff l e).mp h1, (mode_iff l 1 (by omega)).mp h2, h3, h4, h5, ?_,
    (mode_iff l' 2 (by omega)).mp h7, map_act_singleton h8⟩
  apply Int64.toInt_inj.mp
  rw [h6]
  by_cases hmin : off = Int64.minValue
  · subst hmin; decide
  · have : off.toInt ≠ minI64 := fun hh => hmin (Int64.toInt_inj.mp (by rw [hh]; rfl))
    rw [if_neg hmin, if_neg this]

/-- For every offset but `MinInt64` the clock is stepped by exactly the measured offset. -/
theorem C19_gen_step_exact {l l' : S_Pll} {off : Int64} {w pw : F64} {e : UInt64} {now : Int}
    {acts : List Go.ClkAction} {x : Int64} (hoff : off ≠ Int64.minValue)
    (h : genDo l off w e now pw = some (l', acts)) (hx : Go.ClkAction.step x ∈ acts) : x = off := by
  rw [(C19_gen_step_only_when h hx).2.2.2.2.2.1, if_neg hoff]

/-- non-vacuity: 2 s + 1 ns after the epoch start, weight 4, 5 ms: the code steps by 5 ms -/
example : (genDo { gInit with mode := 1, t0 := 0, t := 0 } 5000000 (ofInt 4) 0 2000000001 fzero).map (·.2)
    = some [.step 5000000] := by decide +kernel

/-- In mode 2 or 3, with the clock epoch unchanged, the code never steps and the mode does not go
    back. -/
theorem C19_gen_no_step_after_step_phase {l l' : S_Pll} {off : Int64} {w pw : F64} {e : UInt64} {now : Int}
    {acts : List Go.ClkAction} (he : e = l.epoch) (hm : l.mode = 2 ∨ l.mode = 3)
    (h : genDo l off w e now pw = some (l', acts)) :
    l.mode.toNat ≤ l'.mode.toNat ∧ ∀ x, Go.ClkAction.step x ∉ acts := by
  have hs := genDo_some h
  have hm' : 2 ≤ (pl l).mode := by
    rcases hm with hm | hm
    · rw [(mode_iff l 2 (by omega)).mpr hm]; omega
    · rw [(mode_iff l 3 (by omega)).mpr hm]; omega
  have := C19_no_step_after_step_phase (now := now) (off := off.toInt) (w := w) (pw := pw)
    ((epoch_iff l e).mpr he) hm'
  rw [hs] at this
  exact ⟨this.1, no_step_of_map this.2⟩

/-- Tracking (mode 3) never steps and stays in mode 3 while the clock epoch is unchanged. -/
theorem C19_gen_tracking_no_step {l l' : S_Pll} {off : Int64} {w pw : F64} {e : UInt64} {now : Int}
    {acts : List Go.ClkAction} (he : e = l.epoch) (hm : l.mode = 3)
    (h : genDo l off w e now pw = some (l', acts)) :
    l'.mode = 3 ∧ l'.epoch = l.epoch ∧ ∀ x, Go.ClkAction.step x ∉ acts := by
  have hs := genDo_some h
  have := C19_tracking_no_step (now := now) (off := off.toInt) (w := w) (pw := pw)
    ((epoch_iff l e).mpr he) ((mode_iff l 3 (by omega)).mpr hm)
  rw [hs] at this
  exact ⟨(mode_iff l' 3 (by omega)).mp this.1, UInt64.toNat_inj.mp this.2.1, no_step_of_map this.2.2⟩

/-- History form: from a receiver in mode 3, for as long as the clock epoch does not change, every
    call starts in mode 3 and none steps — for any readings, weights, offsets, floats. -/
theorem C19_gen_tracking_stays (l : S_Pll) (xs : List Call) (hm : l.mode = 3)
    (he : ∀ x ∈ xs, x.epoch = l.epoch) :
    ∀ τ ∈ gtrace l xs, τ.1.mode = 3 ∧ ∀ l' acts, τ.2.2 = some (l', acts) → ∀ x, Go.ClkAction.step x ∉ acts := by
  intro τ hτ
  obtain ⟨hmem, hd⟩ := gtrace_mem hτ
  obtain ⟨h3, hns⟩ := C19_tracking_stays (pl l) _ ((mode_iff l 3 (by omega)).mpr hm)
    (List.forall_mem_map.mpr fun x hx => congrArg UInt64.toNat (he x hx)) _ hmem
  exact ⟨(mode_iff τ.1 3 (by omega)).mp h3,
    fun l' acts ho => no_step_of_map (hns _ _ (doCall_some (hd ▸ ho)))⟩

theorem pl_inj {l l' : S_Pll} (h : pl l = pl l') : l = l' := by
  cases l; cases l'
  simp only [pl, State.mk.injEq] at h
  obtain ⟨h1, h2, h3, h4, h5, h6, h7⟩ := h
  rw [UInt64.toNat_inj.mp h1, UInt64.toNat_inj.mp h2, h3, h4, h5, h6, h7]

theorem genDo_of_ok_nil {l l0 : S_Pll} {off : Int64} {w pw : F64} {e : UInt64} {now : Int}
    (h : step (pl l) e.toNat now off.toInt w pw = .ok (pl l0) []) : genDo l off w e now pw = some (l0, []) := by
  obtain ⟨l', acts, hd, hs, ha⟩ := genDo_of_ok h
  rw [hd, pl_inj hs, List.map_eq_nil_iff.mp ha.symm]

/-- Whatever the receiver's state, a call that sees a new clock epoch makes no call on the clock and
    leaves the controller in mode 1 with `t0 = t = now` (gains and integrator kept) — never a panic. -/
theorem C19_gen_epoch_restarts (l : S_Pll) (off : Int64) (w pw : F64) {e : UInt64} (now : Int) (he : e ≠ l.epoch) :
    genDo l off w e now pw = some ({ l with epoch := e, mode := 1, t0 := now, t := now }, []) :=
  genDo_of_ok_nil (C19_epoch_restarts (pl l) now off.toInt w pw fun h => he ((epoch_iff l e).mp h))

/-- The first call on a fresh controller does the same. -/
theorem C19_gen_first_update (off : Int64) (w pw : F64) (e : UInt64) (now : Int) :
    genDo gInit off w e now pw = some ({ gInit with epoch := e, mode := 1, t0 := now, t := now }, []) :=
  genDo_of_ok_nil (C19_first_update e.toNat now off.toInt w pw)

/-- The code calls `Adjust` only in mode 3 of the current epoch; it is the only call of that update
    and its frequency argument is the integrator after the update. -/
theorem C19_gen_adjust_only_tracking {l l' : S_Pll} {off : Int64} {w pw : F64} {e : UInt64} {now : Int}
    {acts : List Go.ClkAction} {o d : Int64} {f : F64}
    (h : genDo l off w e now pw = some (l', acts)) (ha : Go.ClkAction.adjust o d f ∈ acts) :
    e = l.epoch ∧ l.mode = 3 ∧ l'.mode = 3 ∧ acts = [.adjust o d f] ∧ f = l'.i ∧
    gt (ceil (durationSeconds (timeSub now l.t))) fzero = true := by
  have hs := genDo_some h
  obtain ⟨h1, h2, h3, h4, h5, h6⟩ := C19_adjust_only_tracking hs (mem_adjust ha)
  exact ⟨(epoch_iff l e).mp h1, (mode_iff l 3 (by omega)).mp h2, (mode_iff l' 3 (by omega)).mp h3,
    map_act_singleton h4, h5, h6⟩

/-- `Adjust` is never asked for a non-positive duration: with a reading not before the previous one
    and less than 9 223 372 036 s after it, the duration is `D` seconds, `D = ⌈dt⌉`,
    `1 ≤ D ≤ ⌊gap/10⁹⌋ + 1`, at least one second, no int64 overflow. -/
theorem C19_gen_adjust_duration_pos {l l' : S_Pll} {off : Int64} {w pw : F64} {e : UInt64} {now : Int}
    {acts : List Go.ClkAction} {o d : Int64} {f : F64}
    (hmono : l.t ≤ now) (hgap : now - l.t ≤ 9223372035999999999)
    (h : genDo l off w e now pw = some (l', acts)) (ha : Go.ClkAction.adjust o d f ∈ acts) :
    ∃ D : Int, D = (toRat (durationSeconds (timeSub now l.t))).ceil ∧ 1 ≤ D ∧
      D ≤ (now - l.t) / 1000000000 + 1 ∧ d.toInt = toDuration (.fin (D : Rat)) ∧
      1000000000 ≤ d.toInt ∧ d.toInt ≤ 9223372036854774784 :=
  C19_adjust_duration_pos (s := pl l) hmono hgap (genDo_some h) (mem_adjust ha)

/-- `slew_bound`: gains in their range (an invariant of every history, `C19_gen_gain_invariant`),
    `0 ≤ pow ≤ 1`, a reading not before the previous one and at most 7 999 999 999 s after it:
    the slew handed to `Adjust` satisfies `|slew| ≤ 500 000 ns · D`, `D = ⌈dt⌉` whole seconds —
    whatever the offset and the weight (all three gain regimes). -/
theorem C19_gen_slew_bound {l l' : S_Pll} {off : Int64} {w pw : F64} {e : UInt64} {now : Int}
    {acts : List Go.ClkAction} {o d : Int64} {f : F64}
    (hg : Gain (pl l)) (hpw : Bd 1 pw) (hmono : l.t ≤ now) (hgap : now - l.t ≤ 7999999999000000000)
    (h : genDo l off w e now pw = some (l', acts)) (ha : Go.ClkAction.adjust o d f ∈ acts) :
    ∃ D : Int, D = (toRat (durationSeconds (timeSub now l.t))).ceil ∧ 1 ≤ D ∧
      D ≤ (now - l.t) / 1000000000 + 1 ∧
      -(500000 * D) ≤ o.toInt ∧ o.toInt ≤ 500000 * D ∧ d.toInt = toDuration (.fin (D : Rat)) :=
  C19_slew_bound (s := pl l) hg hpw (off_range off) hmono hgap
    (genDo_some h) (mem_adjust ha)

/-- non-decreasing readings and bounded gaps, stated on calls -/
def NonDecr (xs : List Call) : Prop := NonDecreasing (xs.map Call.toIn)
def GapLe (g : Int) (xs : List Call) : Prop := Consec (fun x y => y.now - x.now ≤ g) (xs.map Call.toIn)

/-- The mode stays in 0..3 in every history of the code: `panic("unexpected PLL mode")` is
    unreachable from `NewPLL` (any readings, epochs, floats). -/
theorem C19_gen_mode_invariant (xs : List Call) :
    ∀ τ ∈ gtrace gInit xs, τ.1.mode.toNat ≤ 3 := by
  intro τ hτ
  have h := (gtrace_mem hτ).1
  rw [pl_gInit] at h
  exact ((C19_mode_invariant (xs.map Call.toIn)).1 _ h).1

/-- With non-decreasing clock readings no call of any history panics. -/
theorem C19_gen_no_panic (xs : List Call) (hmono : NonDecr xs) :
    ∀ τ ∈ gtrace gInit xs, ∃ l' acts, τ.2.2 = some (l', acts) := by
  intro τ hτ
  obtain ⟨h, hd⟩ := gtrace_mem hτ
  rw [pl_gInit] at h
  have hrun : stepIn (pl τ.1) τ.2.1.toIn ∈ run init (xs.map Call.toIn) := by
    rw [run_eq_trace, List.mem_map]; exact ⟨_, h, rfl⟩
  obtain ⟨s', a, hs⟩ := C19_no_panic_nondecreasing _ hmono _ hrun
  obtain ⟨l', acts, hd', _⟩ := doCall_of_ok hs
  exact ⟨l', acts, by rw [hd, hd']⟩

/-- The gains stay in `[0, 0.33]`, `[0, 0.33/60]` in every history with `math.Pow` results in [0,1]. -/
theorem C19_gen_gain_invariant (xs : List Call) (hpw : ∀ x ∈ xs, Bd 1 x.pw) :
    ∀ τ ∈ gtrace gInit xs, Gain (pl τ.1) := by
  intro τ hτ
  have h := (gtrace_mem hτ).1
  rw [pl_gInit] at h
  exact C19_gain_invariant _ (List.forall_mem_map.mpr hpw) _ h

/-- THE PROPERTY ABOUT THE CODE, over histories. For every history of calls of the regenerated
    `(*Pll).Do` from `NewPLL` at non-decreasing clock readings — consecutive readings at most
    7 999 999 999 s apart, arbitrary int64 offsets, arbitrary weights (NaN, infinities), arbitrary
    clock epochs changing at any point, `math.Pow` results in [0,1], fewer than 2⁵³ calls — every
    call returns (no panic), and
    * `Step` is called only in mode 1 of the current epoch, more than 2 s after the epoch's first
      update, with weight > 3 and |offset| > 1 ms, by the measured offset (`MinInt64+1` for `MinInt64`);
    * `Adjust` is called only in mode 3, with a duration of at least one second, a finite frequency,
      and a slew of at most 500 000 ns per whole second `D = ⌈dt⌉`, `D ≤ ⌊gap/10⁹⌋ + 1`. -/
theorem C19_gen_history (xs : List Call) (hmono : NonDecr xs) (hgap : GapLe 7999999999000000000 xs)
    (hpw : ∀ x ∈ xs, Bd 1 x.pw) (hlen : xs.length < 2 ^ 53) :
    ∀ τ ∈ gtrace gInit xs, ∃ l' acts, τ.2.2 = some (l', acts) ∧
      (∀ x, Go.ClkAction.step x ∈ acts →
        τ.1.mode = 1 ∧ τ.2.1.epoch = τ.1.epoch ∧ timeSub τ.2.1.now τ.1.t0 > 2000000000 ∧
        gt τ.2.1.w (ofInt 3) = true ∧ (τ.2.1.off.toInt > 1000000 ∨ τ.2.1.off.toInt < -1000000) ∧
        x = (if τ.2.1.off = Int64.minValue then Int64.minValue + 1 else τ.2.1.off)) ∧
      (∀ o d f, Go.ClkAction.adjust o d f ∈ acts →
        τ.1.mode = 3 ∧ τ.2.1.epoch = τ.1.epoch ∧ 1000000000 ≤ d.toInt ∧ isFinite f = true ∧
        ∃ D : Int, 1 ≤ D ∧ D ≤ (τ.2.1.now - τ.1.t) / 1000000000 + 1 ∧
          -(500000 * D) ≤ o.toInt ∧ o.toInt ≤ 500000 * D ∧ d.toInt = toDuration (.fin (D : Rat))) := by
  intro τ hτ
  obtain ⟨hmem, hd⟩ := gtrace_mem hτ
  rw [pl_gInit] at hmem
  obtain ⟨s', a, hok, hstep, hadj⟩ := C19_history _ hmono hgap (List.forall_mem_map.mpr hpw)
    (List.forall_mem_map.mpr fun x _ => off_range x.off) (by rw [List.length_map]; exact hlen) _ hmem
  simp only at hok hstep hadj
  obtain ⟨l', acts, hd', hs', ha'⟩ := doCall_of_ok hok
  subst ha'
  refine ⟨l', acts, by rw [hd, hd'], ?_, ?_⟩
  · intro x hx
    rw [hd] at *
    simp only [doCall] at hd'
    have := C19_gen_step_only_when hd' hx
    exact ⟨this.2.1, this.1, this.2.2.1, this.2.2.2.1, this.2.2.2.2.1, this.2.2.2.2.2.1⟩
  · intro o d f ha
    obtain ⟨h1, h2, h3, h4, D, h5⟩ := hadj _ _ _ (mem_adjust ha)
    exact ⟨(mode_iff τ.1 3 (by omega)).mp h1, (epoch_iff τ.1 τ.2.1.epoch).mp h2, h3, h4, D, h5⟩

/-- A history meeting every hypothesis of `C19_gen_history` in which all of it happens in the
    generated code: start-up, a step by the measured 5 ms, tracking, a clamped slew in the
    stiffening regime (weight 1000; 1 s offset after 16 s: 8 ms over 16 s), a restart on a new
    epoch. -/
def demo : List Call :=
  [⟨7, 0, 5000000, ofInt 1000, ofInt 1⟩, ⟨7, 2000000001, 5000000, ofInt 1000, ofInt 1⟩,
   ⟨7, 9000000000, 100, ofInt 1000, ofInt 1⟩, ⟨7, 25000000000, 1000000000, ofInt 1000, ofInt 1⟩,
   ⟨8, 26000000000, 1000000000, ofInt 1000, ofInt 1⟩]

example : NonDecr demo ∧ GapLe 7999999999000000000 demo ∧ (∀ x ∈ demo, Bd 1 x.pw) := by
  refine ⟨by simp [demo, NonDecr, NonDecreasing, Call.toIn], by simp [demo, GapLe, Consec, Call.toIn], ?_⟩
  intro x hx; simp [demo] at hx
  rcases hx with rfl | rfl | rfl | rfl | rfl <;> exact ⟨by decide +kernel, by decide +kernel, by decide +kernel⟩

example : (gtrace gInit demo).map (fun τ => match τ.2.2 with
      | some (l, acts) => (l.mode, acts.map (fun (a : Go.ClkAction) => match a with
          | .step x => [x] | .adjust o d _ => [o, d]))
      | none => (99, []))
    = [(1, []), (2, [[5000000]]), (3, []), (3, [[8000000, 16000000000]]), (1, [])] := by
  decide +kernel

end ScionTime.Props.C19Gen
