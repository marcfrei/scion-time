/-
  Kernel-checked ties (C17): the Ntimed filter itself — `(*NtimedFilter).Do`, `(*NtimedFilter).Reset`
  and `combine` of core/client/filter_ntimed.go — as regenerated from /repo's Go source on every run
  (Gen/Leaf.lean; the leaf translator threads the pointer receiver through and returns it, and
  handles named and multiple results, `var` zero values, constants declared in the body,
  math.Sqrt, `timebase.Epoch()` as an extra parameter — one per call site —, log-only blocks
  skipped) is the hand-written model of Model/Filters.lean: same new state and same returned
  offset, for every state, every four instants and every epoch value (all doubles incl. NaN).
  So the theorems of Props/C17.lean / C17Num.lean about `ntimedDo` are theorems about the code
  in /repo; the differential run is the check of the software double and of the prelude.
-/
import ScionTime.Gen.Leaf
import ScionTime.Model.Filters
import ScionTime.Proofs.GoPrelude
import ScionTime.Proofs.C17
import ScionTime.Proofs.LeafC17
namespace ScionTime.LeafTieC17
open ScionTime ScionTime.Gen.Leaf ScionTime.GoLemmas ScionTime.Filters

/-- view of a generated filter state as the model's -/
def nt (f : S_NtimedFilter) : Ntimed :=
  { epoch := f.epoch.toNat, alo := f.alo, amid := f.amid, ahi := f.ahi, alolo := f.alolo, ahihi := f.ahihi, navg := f.navg }

theorem k0 : F64.ofInt 0 = c0 := by decide +kernel
theorem k1 : F64.ofInt 1 = c1 := by decide +kernel
theorem k2 : F64.ofInt 2 = c2 := by decide +kernel
theorem k3 : F64.ofInt 3 = c3 := by decide +kernel
theorem k20 : F64.ofInt 20 = c20 := by decide +kernel
theorem k0001 : F64.ofConst 1 1000 = c0001 := rfl

theorem C17_leaf_Reset (f : S_NtimedFilter) (e : UInt64) :
    nt (client_NtimedFilter_Reset f e) = ntimedReset e.toNat (nt f) := by
  simp only [client_NtimedFilter_Reset, ntimedReset, nt, k0]

theorem C17_leaf_combine (lo mid hi : Int64) (trust : F64.F64) :
    client_combine lo mid hi trust =
      (Int64.ofInt (combine lo.toInt mid.toInt hi.toInt trust).1, (combine lo.toInt mid.toInt hi.toInt trust).2) := by
  simp only [client_combine, combine, k1, k2, k0001, Int64.ofInt_toInt]

theorem sub_eq (t u : Int) : Go.Time.sub t u = timeSub t u := rfl

theorem combine_fst (a b c : Int) (t : F64.F64) : (combine a b c t).fst = b := rfl

theorem inv_eq (d : Int64) : (timemath_Inv d).toInt = inv64 d.toInt := by
  unfold timemath_Inv inv64 minI64 maxI64
  by_cases h : d = Int64.minValue
  · subst h; decide
  · rw [if_neg (mt eq_of_beq h), if_neg (Int64Arith.neg_toInt h).1, (Int64Arith.neg_toInt h).2]

/-- `Do` reads `timebase.Epoch()` TWICE — once in its own test `f.epoch != timebase.Epoch()`, once
    more inside `f.Reset()` — and each reading is a parameter of its own (`e1`, `e2`).
    With two different readings the call is the call on the filter
    reset under the second reading, under that reading alone; so `C17_leaf_Do` (one value) covers
    every call, and a third reading added to the code changes the generated signature. -/
theorem C17_leaf_Do_two_readings (f : S_NtimedFilter) (cTx sRx sTx cRx : Int) (e1 e2 : UInt64) :
    client_NtimedFilter_Do f cTx sRx sTx cRx e1 e2 =
      if (f.epoch != e1) = true then
        client_NtimedFilter_Do (client_NtimedFilter_Reset f e2) cTx sRx sTx cRx e2 e2
      else client_NtimedFilter_Do f cTx sRx sTx cRx e1 e1 := by
  cases he : (f.epoch != e1)
  · simp only [client_NtimedFilter_Do, he, Bool.false_eq_true, if_false]
  · have h2 : ((client_NtimedFilter_Reset f e2).epoch != e2) = false := by
      simp [client_NtimedFilter_Reset]
    simp only [client_NtimedFilter_Do, he, h2, if_true, Bool.false_eq_true, if_false]

theorem C17_leaf_Do (f : S_NtimedFilter) (cTx sRx sTx cRx : Int) (e : UInt64) :
    let r := client_NtimedFilter_Do f cTx sRx sTx cRx e e
    let m := ntimedDo e.toNat (nt f) ⟨cTx, sRx, sTx, cRx⟩
    nt r.1 = m.1 ∧ r.2.toInt = m.2 := by
  -- with a stale epoch both sides are the call on the reset filter: assume the epoch is current
  suffices same : ∀ g : S_NtimedFilter, g.epoch = e →
      nt (client_NtimedFilter_Do g cTx sRx sTx cRx e e).1
        = (ntimedDo e.toNat (nt g) ⟨cTx, sRx, sTx, cRx⟩).1 ∧
      (client_NtimedFilter_Do g cTx sRx sTx cRx e e).2.toInt
        = (ntimedDo e.toNat (nt g) ⟨cTx, sRx, sTx, cRx⟩).2 by
    by_cases he : f.epoch = e
    · exact same f he
    · have h := same (client_NtimedFilter_Reset f e) rfl
      rw [C17_leaf_Reset, ntimedDo_reset _ _ _ (mt UInt64.toNat_inj.mp he)] at h
      intro r m
      have hr : r = client_NtimedFilter_Do (client_NtimedFilter_Reset f e) cTx sRx sTx cRx e e :=
        (C17_leaf_Do_two_readings f cTx sRx sTx cRx e e).trans (if_pos (bne_iff_ne.mpr he))
      rw [hr]; exact h
  intro g hg
  have heb : (g.epoch != e) = false := by rw [hg]; exact bne_self_eq_false e
  have hen : ntimedEnter e.toNat (nt g) = nt g := ntimedEnter_same _ _ (by rw [← hg]; rfl)
  -- the model's `Do` as one expression, then the generated one with its leaves rewritten into
  -- the model's
  simp only [ntimedDo, ntimedDoFull, hen, ntimedNavg, ntimedNoise, ntimedBranch, ntimedLo, ntimedHi,
    ntimedMid, ite_pair, combine_fst]
  simp only [client_NtimedFilter_Do, heb, Bool.false_eq_true, if_false, ite_navg, ite_pair, branch_ne4,
    sub_eq, k0, k1, k2, k3, k20, nt, C17_leaf_combine, inv_eq, combine_fst,
    timemath_Duration, F64.toDuration, ofInt_toInt64]
  -- the two sides still differ in the `Decidable` instances, which mention `nt g`
  exact ⟨rfl, rfl⟩

/-- the tie for every pair of readings -/
theorem C17_leaf_Do_all (f : S_NtimedFilter) (cTx sRx sTx cRx : Int) (e1 e2 : UInt64) :
    let r := client_NtimedFilter_Do f cTx sRx sTx cRx e1 e2
    let m := if f.epoch.toNat ≠ e1.toNat then ntimedDo e2.toNat (ntimedReset e2.toNat (nt f)) ⟨cTx, sRx, sTx, cRx⟩
             else ntimedDo e1.toNat (nt f) ⟨cTx, sRx, sTx, cRx⟩
    nt r.1 = m.1 ∧ r.2.toInt = m.2 := by
  intro r m
  rw [show r = _ from C17_leaf_Do_two_readings f cTx sRx sTx cRx e1 e2]
  by_cases he : f.epoch = e1
  · rw [if_neg (by rw [he]; simp), show m = _ from if_neg (fun h => h (congrArg _ he))]
    exact C17_leaf_Do f cTx sRx sTx cRx e1
  · rw [if_pos (bne_iff_ne.mpr he), show m = _ from if_pos (mt UInt64.toNat_inj.mp he),
      ← C17_leaf_Reset]
    exact C17_leaf_Do _ cTx sRx sTx cRx e2

/-- non-vacuity: a fresh filter's first sample under epoch 7 (reset path), evaluated through the
    generated definition -/
def fresh0 : S_NtimedFilter :=
  { epoch := 0, alo := c0, amid := c0, ahi := c0, alolo := c0, ahihi := c0, navg := c0 }

example : (client_NtimedFilter_Do fresh0 1000 2000 3000 5000 7 7).1.epoch = 7 ∧
    (client_NtimedFilter_Do (client_NtimedFilter_Do fresh0 1000 2000 3000 5000 7 7).1 11000 12000 13000 15000 7 7).1.navg
      = F64.ofInt 2 := by
  decide +kernel

end ScionTime.LeafTieC17
