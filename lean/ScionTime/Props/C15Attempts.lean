/-
  C15 — "the reported offset is the fault-tolerant midpoint over one value per participating
  client": which participants contribute is decided by the per-path goroutine's attempt loop in
  MeasureClockOffsetSCION (up to three exchanges per round for a client configured for
  interleaved mode). Model: `Multipath.attemptLoop` (the loop's `err` / `nerr` bookkeeping,
  statement by statement). Proved for every outcome sequence: the goroutine reports a
  measurement (nil error) iff at least one attempt succeeded, and the value it reports is that
  of the LAST successful attempt — whatever fails afterwards. The driver feeds the model from
  outcome patterns (`succ=[<off>:<pattern>]`), the harness's path servers refuse exactly the
  attempts the pattern says, and the round's result is compared (seeded change C15-12: "report
  the most recent error" — refuted below).
-/
import ScionTime.Model.Multipath
namespace ScionTime.Props.C15Attempts
open ScionTime.Multipath

/-- `nerr = j` as long as every attempt has failed; from the first success on `nerr < j`, so no
    later failure is recorded as the error.  The last disjunct is false unless `outs` is empty: it is
    the base case of the induction. -/
theorem attemptLoopGo_errNil (outs : List Bool) (err val : Option Nat) (nerr j : Nat)
    (hle : nerr ≤ j) (hinv : err.isNone = true ↔ (nerr < j ∨ j = 0)) :
    (attemptLoopGo outs err val nerr j).1 =
      (outs.any id || decide (nerr < j) || (outs.isEmpty && err.isNone)) := by
  fun_induction attemptLoopGo outs err val nerr j with
  | case1 err val nerr j =>
    by_cases h : nerr < j <;> simp [h, hinv]
  | case2 rest err val nerr j ih =>
    rw [ih (by omega) (by simp; omega)]
    simp; omega
  | case3 rest err val nerr j ih =>
    by_cases hj : nerr = j
    · subst hj
      rw [ih (by omega) (by simp)]
      simp
    · have hlt : nerr < j := by omega
      rw [ih (by omega) (by simp [hj, hinv, hlt])]
      simp [hj, hlt]

/-- The goroutine reports a measurement iff at least one of its attempts succeeded (an empty
    attempt list cannot occur: n is 1 or 3). -/
theorem C15_attempt_loop_reports_iff_any_success (outs : List Bool) (hne : outs ≠ []) :
    (attemptLoop outs).1 = outs.any id := by
  unfold attemptLoop
  rw [attemptLoopGo_errNil outs none none 0 0 (by omega) (by simp)]
  cases outs with
  | nil => exact absurd rfl hne
  | cons a l => simp

/-- Every pattern of three attempts, decided outright: the reported value is the last
    successful attempt's, and a success is never lost to a later failure. -/
theorem C15_attempt_loop_three_complete :
    ∀ a b c : Bool, attemptLoop [a, b, c] =
      ((a || b || c), if c then some 2 else if b then some 1 else if a then some 0 else none) := by
  decide

/-- The seeded variant (`err = e` on every failure) loses an earlier success: first attempt
    answered, second refused — HEAD reports the measurement, the variant reports the error. -/
theorem C15_attempt_loop_last_error_refuted :
    attemptLoop [true, false] = (true, some 0) ∧ attemptLoopLastErr [true, false] = (false, some 0) := by
  decide

end ScionTime.Props.C15Attempts
