/-
  C08 (fragment) — no network input can crash or hang the NTS decoders and the listeners' NTS
  reply path: for *every* byte string the outcome is a value or an error — never a Go panic, never
  a non-terminating loop. All definitions are total (structural recursion on fuel = input length
  + 1); `Res.hang` is the model's "fuel exhausted / loop does not advance" outcome and `Res.Safe`
  excludes it together with every panic. Models: Model/Nts.lean, Cookies.lean, NtsPool.lean.
-/
import ScionTime.Proofs.NtsTotal
import ScionTime.Proofs.NtsReply
import ScionTime.Model.NtsPool
import ScionTime.Props.C11
import ScionTime.Gen.Server
namespace ScionTime.C08Nts
open ScionTime.Nts

/-- The listeners' NTS branch is modelled by `serverReply` (and transcribed by the harness, which
    cannot call the listeners without sockets). Pin: the sequence of calls into net/nts and
    net/ntske, and the bound of the cookie loop, in `runIPServer` and `runSCIONServer` are the ones
    the model follows (regenerated from the sources on every run). -/
theorem C08Nts_pin_ntsBranch :
    Gen.Server.ntsBranch_runIPServer = "nts.DecodePacket;ntsreq.FirstCookie;encryptedCookie.Decode;provider.Get;encryptedCookie.Decrypt;nts.ProcessRequest;provider.Current;range(len(ntsreq.Cookies)+len(ntsreq.CookiePlaceholders));serverCookie.EncryptWithNonce;encryptedCookie.Encode;nts.NewResponsePacket;nts.EncodePacket" ∧
    Gen.Server.ntsBranch_runSCIONServer = Gen.Server.ntsBranch_runIPServer :=
  ⟨rfl, rfl⟩

/-- `nts.DecodePacket`: total on all inputs (this is also the fuel lemma: `b.length + 1` steps
    suffice, every iteration consumes at least 4 bytes). -/
theorem C08Nts_decodePacket_total (b : Bytes) : (decodePacket b).Safe := decodePacket_safe b

/-- `ServerCookie.Decode`, `EncryptedServerCookie.Decode`: total on all inputs. -/
theorem C08Nts_cookieDecode_total (b : Bytes) : (scDecode b).Safe ∧ (ecDecode b).Safe :=
  ⟨decodeTLV_safe _ _ _ b, decodeTLV_safe _ _ _ b⟩

/-- `EncryptedServerCookie.Decrypt`: total for every AEAD, cookie and key — including nonces of
    any length (the library's panic is not reachable) and keys of any size. -/
theorem C08Nts_decrypt_total (A : AEAD) (ec : Triple) (key : Bytes) : (decryptCookie A ec key).Safe :=
  decryptCookie_safe A ec key

/-- `ProcessRequest` (authenticate + its walk over the decrypted fields): total. -/
theorem C08Nts_processRequest_total (A : AEAD) (b key : Bytes) (d : Decoded) : (processRequest A b key d).Safe := by
  unfold processRequest processRequestG
  split
  · simp
  · split
    · simp
    · exact authenticate_safe A b key d

/-- `ProcessResponse`: total. -/
theorem C08Nts_processResponse_total (A : AEAD) (b key : Bytes) (d : Decoded) (reqId : Bytes) :
    (processResponse A b key d reqId).Safe := by
  unfold processResponse processResponseG
  split
  · simp
  · exact authenticate_safe A b key d

/-- The client's handling of any datagram as a response (DecodePacket, ProcessResponse,
    StoreCookie): total, and a rejected datagram leaves the client state untouched. -/
theorem C08Nts_client_response_total (A : AEAD) (st : NtsPool.Client) (b : Bytes) :
    (NtsPool.response A st b).2.Safe ∧ ((NtsPool.response A st b).2 ≠ .ok () → (NtsPool.response A st b).1 = st) := by
  refine ⟨?_, C11.C11_response_refused_no_trace A st b⟩
  have h := Safe_bind (decodePacket b) _ (decodePacket_safe b) fun d _ => C08Nts_processResponse_total A b st.s2c d st.reqId
  unfold NtsPool.response
  cases hq : (decodePacket b >>= fun d => processResponse A b st.s2c d st.reqId) with
  | ok _ | err _ => trivial
  | panic _ | hang => rw [hq] at h; exact h.elim

/-- Environment assumption of the reply path: whatever decodes as a cookie and opens under a
    server key was issued by this project's NTS-KE/NTP server — it carries a 16-bit algorithm
    and two 32-byte AES-SIV-CMAC-256 keys. (Unforgeability of the AEAD plus the
    behaviour of `core/server/ntske.go`; not a property of the bytes received.) -/
def IssuedOnly (A : AEAD) : Prop :=
  ∀ ec key sc, decryptCookie A ec key = .ok sc → sc.x.length = 32 ∧ sc.y.length = 32 ∧ sc.num < 65536

/-- **The listeners' NTS branch is total**: for every datagram, key table, current key and
    random stream, decode → first cookie → cookie decode → key lookup → decrypt → ProcessRequest →
    fresh cookies → NewResponsePacket → EncodePacket ends in a reply or in dropping the request;
    a reply is at most `MaxPacketLen` bytes. (Lawful, Sized, OpenSized: the AEAD's laws.) -/
theorem C08Nts_reply_total (A : AEAD) (hl : A.Lawful) (hs : A.Sized) (ho : A.OpenSized) (hi : IssuedOnly A)
    (keys : Nat → Option Bytes) (curId : Nat) (curKey b hdr rnd : Bytes) (hh : hdr.length = ntpPacketLen) :
    (serverReply A keys curId curKey b hdr rnd).Safe ∧
      ∀ r, serverReply A keys curId curKey b hdr rnd = .ok r → r.length ≤ maxPacketLen := by
  have herr : ∀ e, (Res.err e : Res Bytes).Safe ∧ ∀ r : Bytes, Res.err e = .ok r → r.length ≤ maxPacketLen :=
    fun e => ⟨trivial, fun r h => by cases h⟩
  unfold serverReply serverReplyG
  refine Safe_bind_len _ _ _ (decodePacket_safe b) fun d hd => ?_
  refine Safe_bind_len _ _ _ (by unfold firstCookie; split <;> trivial) fun c0 hc => ?_
  refine Safe_bind_len _ _ _ (decodeTLV_safe _ _ _ c0) fun ec he => ?_
  cases hk : keys ec.num with
  | none => exact herr _
  | some key =>
  refine Safe_bind_len _ _ _ (decryptCookie_safe A ec key) fun sc hsc => ?_
  refine Safe_bind_len _ _ _ (C08Nts_processRequest_total A b sc.y d) fun cs hr => ?_
  obtain ⟨hx, hy, hnum⟩ := hi ec key sc hsc
  generalize hfr : freshCookies A sc curKey curId (cs.length + d.nph) rnd = fr
  obtain ⟨fresh, rnd'⟩ := fr
  simp only []
  by_cases hcur : keyOk curKey = true
  · obtain ⟨r, _, hok, hrl, _⟩ := C11.C11_server_reply_ok A hl hs ho keys curId curKey b hdr rnd d c0 ec sc key cs hh hd hc he hk hsc hr
      hx hy hnum hcur
    simp only [serverReply, serverReplyG, hd, hc, he, hk, hsc, hr, Res.bind_ok, hfr] at hok
    rw [hok]
    exact ⟨trivial, fun r' h => by injection h with h; exact h ▸ hrl⟩
  · have hemp := freshCookies_nokey A sc curKey curId (by simpa using hcur) (cs.length + d.nph) rnd
    rw [hfr] at hemp
    subst hemp
    exact herr _

/-! ### the pinned commit: the same statements are false (`decide`d counterexamples) -/

/-- F2: an extension field with length 0 — `DecodePacket` never advances. Header + `03 04 00 00`
    + 24 bytes: reachable unauthenticated on every NTP listener. -/
theorem C08Nts_decodePacket_hang_old :
    decodePacketOld (zeros 48 ++ [3, 4, 0, 0] ++ zeros 24) = .hang ∧
    decodePacket (zeros 48 ++ [3, 4, 0, 0] ++ zeros 24) = .err .extLen := by decide

/-- F3: cookie TLVs cut short or with a length beyond the buffer — index / slice panic. -/
theorem C08Nts_cookieDecode_panic_old :
    ecDecodeOld [4] = .panic .index ∧ ecDecodeOld [4, 1, 0, 2] = .panic .index ∧
    ecDecodeOld [5, 1, 0, 9, 0] = .panic .slice ∧ scDecodeOld [2, 1, 0xff, 0xff] = .panic .slice ∧
    ecDecode [4] = .err .cookieData ∧ ecDecode [4, 1, 0, 2] = .err .cookieData ∧
    ecDecode [5, 1, 0, 9, 0] = .err .cookieData ∧ scDecode [2, 1, 0xff, 0xff] = .err .cookieData := by decide

/-- a toy AEAD (tag = 16 zero bytes, `Open` always succeeds) for the concrete counterexamples -/
def toyAEAD : AEAD where
  sealF _ _ p _ := p ++ zeros 16
  openF _ _ c _ := some (c.take (c.length - 16))

/-- a request as a hostile client holding a valid cookie sends it: identifier of `n` bytes -/
def craftedRequest (n : Nat) : Bytes :=
  let ck := ecEncode ⟨1, zeros 16, scEncode ⟨15, zeros 32, zeros 32⟩ ++ zeros 16⟩
  zeros 48 ++ field extUniqueIdentifier (zeros n) ++ field extCookie ck ++ authField (zeros 16) (zeros 16)

/-- F15: a 4-byte unique identifier passes `DecodePacket` and `ProcessRequest` at the pinned
    commit, and the listener then dies in `EncodePacket` with `panic(errShortUniqueID)`;
    after the fix the request is dropped. -/
theorem C08Nts_short_uid_old :
    serverReplyOld toyAEAD (fun _ => some (zeros 32)) 1 (zeros 32) (craftedRequest 4) (zeros 48) [] = .panic .shortUid ∧
    serverReply toyAEAD (fun _ => some (zeros 32)) 1 (zeros 32) (craftedRequest 4) (zeros 48) [] = .err .shortUid := by
  decide +kernel

/-- F15b: a 1000-byte unique identifier leaves no room for the reply — index
    out of range in `EncodePacket` at the pinned commit; dropped after the fix. -/
theorem C08Nts_long_uid_old :
    serverReplyOld toyAEAD (fun _ => some (zeros 32)) 1 (zeros 32) (craftedRequest 1000) (zeros 48) [] = .panic .index ∧
    serverReply toyAEAD (fun _ => some (zeros 32)) 1 (zeros 32) (craftedRequest 1000) (zeros 48) [] = .err .tooLarge := by
  decide +kernel

end ScionTime.C08Nts
