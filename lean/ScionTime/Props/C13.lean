/-
  C13 — SCION packet authentication and reply addressing (server side).
  Property theorems over the model `ScionTime/Model/ScionSrv.lean` of
  core/server/server_scion.go `runSCIONServer` and net/scion/auth.go.

  Proved here: the *decision logic* of the listener over an abstract parsed packet, for all
  packets and configurations.  Oracles (trusted, exercised by the loopback tie of
  harness/cmd/c13): `spao.ComputeAuthCMAC` (`Pkt.mac`), `Path.Reverse` (`Pkt.rev`), the NTP/NTS
  layer's verdict (`Pkt.ntpOk`), gopacket/slayers parsing and serialisation.  The client side
  (acceptance of responses) is in C05's model.
-/
import ScionTime.Proofs.ScionSrv
import ScionTime.Gen.Scion
namespace ScionTime.C13
open ScionTime.ScionSrv

/-! ## constants of /repo (Gen is regenerated on every run) -/

theorem C13_pin_EndhostPort : Gen.Scion.EndhostPort = (EndhostPort : Int) := by decide
theorem C13_pin_PacketAuthOptDataLen : Gen.Scion.PacketAuthOptDataLen = (optDataLen : Int) := by decide
theorem C13_pin_PacketAuthMetadataLen : Gen.Scion.PacketAuthMetadataLen = (metadataLen : Int) := by decide
theorem C13_pin_PacketAuthMACLen : Gen.Scion.PacketAuthMACLen = (macLen : Int) := by decide
theorem C13_pin_PacketAuthAlgorithm : Gen.Scion.PacketAuthAlgorithm = (algorithm : Int) := by decide
theorem C13_pin_PacketAuthSPIClient : Gen.Scion.PacketAuthSPIClient = (spiClient : Int) := by decide
theorem C13_pin_PacketAuthSPIServer : Gen.Scion.PacketAuthSPIServer = (spiServer : Int) := by decide
theorem C13_pin_optDataLen_sum : optDataLen = metadataLen + macLen := by decide

/-- The two directions use different SPIs (a reflected request is not a valid response). -/
theorem C13_spi_distinct : Gen.Scion.PacketAuthSPIClient ≠ Gen.Scion.PacketAuthSPIServer := by decide

/-- Bit layout: type host-host (1) in bit 17, direction in bit 16, protocol 123 in the low bits;
    client = receiver side (1), server = sender side (0). -/
theorem C13_spi_layout_client :
    Gen.Scion.PacketAuthSPIClient = ((1 <<< 17 ||| 1 <<< 16 ||| 123 : Nat) : Int) := by decide
theorem C13_spi_layout_server :
    Gen.Scion.PacketAuthSPIServer = ((1 <<< 17 ||| 0 <<< 16 ||| 123 : Nat) : Int) := by decide
theorem C13_spi_layout_gen :
    Gen.Scion.PacketAuthSPIClient =
      Gen.Scion.drkeyTypeHostHost * 2 ^ 17 + Gen.Scion.drkeyDirectionReceiverSide * 2 ^ 16 + Gen.Scion.DRKeyProtocolTS ∧
    Gen.Scion.PacketAuthSPIServer =
      Gen.Scion.drkeyTypeHostHost * 2 ^ 17 + Gen.Scion.drkeyDirectionSenderSide * 2 ^ 16 + Gen.Scion.DRKeyProtocolTS ∧
    Gen.Scion.PacketAuthSPIClient - Gen.Scion.PacketAuthSPIServer = 2 ^ 16 := by decide

/-! ## net/scion/auth.go: metadata (prepare spi alg) = (spi, alg) -/

/-- `PacketAuthOptMetadata` reads back what `PreparePacketAuthOpt` wrote, for every 28-byte
    option, every 32-bit SPI and every algorithm byte; the MAC field is zeroed. -/
theorem C13_meta_prepare (d : List Nat) (spi alg : Nat)
    (hd : d.length = optDataLen) (hs : spi < 4294967296) (ha : alg < 256) :
    ∃ x, authPrepare d spi alg = .ok x ∧ x.length = optDataLen ∧
      authMeta x = .ok (spi, alg) ∧ authMAC x = .ok (List.replicate 16 0) := by
  have h28 : d.drop optDataLen = [] := List.drop_of_length_le (Nat.le_of_eq hd)
  unfold authPrepare
  rw [if_neg (by omega), h28]
  refine ⟨_, rfl, rfl, ?_, rfl⟩
  unfold authMeta
  rw [if_neg (fun h => h rfl)]
  simp only [List.cons_append, List.getD_cons_succ, List.getD_cons_zero]
  rw [Nat.mod_eq_of_lt ha]
  congr
  omega

example : authMeta [0, 3, 0, 123, 0, 0, 0, 0, 0, 0, 0, 0, 1, 2, 3, 4, 5, 6, 7, 8, 9, 10, 11, 12, 13, 14, 15, 16]
    = .ok (spiClient, algorithm) := by decide

/-- Option data of any other length: `PacketAuthOptMetadata`/`PacketAuthOptMAC` panic
    (the listener must therefore check the length first — see C08Scion). -/
theorem C13_meta_panics_iff (d : List Nat) :
    (∃ c, authMeta d = .panic c) ↔ d.length ≠ optDataLen := by
  unfold authMeta; split <;> simp_all

theorem C13_verified_iff (cfg : Cfg) (p : Pkt) :
    verified cfg p ↔
      cfg.fetcher = true ∧ p.e2e = true ∧
      ∃ d, p.auth = some d ∧ d.length = optDataLen ∧ authMeta d = .ok (spiClient, algorithm) ∧
        fetchKey true cfg = .ok ∧ p.mac = some (d.drop metadataLen) := by
  constructor
  · exact authCheck_spec
  · rintro ⟨hf, he, d, hd, hlen, hm, hk, hmac⟩
    unfold verified
    rw [authCheck_client_spi hf he hd hlen hm, hk, hmac]
    exact if_pos rfl

example : verified (serverCfg 10123 10123 46 true true false)
    { lastHop := 0, tc := 0, srcIA := 1, dstIA := 2, srcType := 0, dstType := 0,
      srcAddr := [10, 0, 0, 1], dstAddr := [10, 0, 0, 2], pathType := 0, path := [], rev := some (0, []),
      l4 := .udp, srcPort := 5000, dstPort := 10123, udpLenOk := true, e2e := true,
      auth := some ([0, 3, 0, 123, 0, 0, 0, 0, 0, 0, 0, 0] ++ List.replicate 16 7),
      mac := some (List.replicate 16 7), payload := [], ntpOk := true } := by unfold verified; decide

/-- **A request that carries an authenticator for the time-service DRKey (client SPI, expected
    algorithm) whose MAC differs from the one the server computes (or whose MAC cannot be
    computed) is never answered** — whenever authentication is enabled (fetcher present) and
    the key is obtainable.  It is dropped, or (not addressed to this service at all) forwarded
    untouched to another end-host port. -/
theorem C13_bad_mac_never_served (cfg : Cfg) (p : Pkt) (d : List Nat)
    (hl4 : p.l4 = .udp) (hf : cfg.fetcher = true) (he : p.e2e = true) (ha : p.auth = some d)
    (hlen : d.length = optDataLen) (hmeta : authMeta d = .ok (spiClient, algorithm))
    (hkey : fetchKey true cfg = .ok) (hmac : p.mac ≠ some (d.drop metadataLen)) :
    (∀ r, handle cfg p ≠ .reply r) ∧
    ((∃ reason, handle cfg p = .drop reason) ∨
     (∃ f, handle cfg p = .forward f ∧ p.dstPort ≠ cfg.localHostPort)) := by
  have hac : ∀ a, authCheck true cfg p ≠ .go a := by
    intro a
    rw [authCheck_client_spi hf he ha hlen hmeta, hkey]
    cases hm : p.mac with
    | none => nofun
    | some m =>
      exact ite_ind (P := (· ≠ AuthRes.go a)) (fun h : d.drop metadataLen = m => absurd (h ▸ hm) hmac)
        fun _ => nofun
  cases ho : handle cfg p with
  | drop reason => exact ⟨nofun, .inl ⟨reason, rfl⟩⟩
  | panic c => exact (handle_spec ho).elim
  | forward f => exact ⟨nofun, .inr ⟨f, rfl, (handle_spec ho).2.2.2.2.2.1⟩⟩
  | reply r =>
    rcases handle_spec ho with ⟨_, _, _, _, h, _⟩ | ⟨a, _, _, _, _, _, _, _, _, h, _⟩
    · nomatch hl4.symm.trans h
    · exact absurd h (hac a)

/-- non-vacuity: a request to the service port with one MAC bit wrong meets the hypotheses
    (and is dropped). -/
example : handle (serverCfg 10123 10123 46 true true false)
    { lastHop := 0, tc := 0, srcIA := 1, dstIA := 2, srcType := 0, dstType := 0,
      srcAddr := [10, 0, 0, 1], dstAddr := [10, 0, 0, 2], pathType := 0, path := [], rev := some (0, []),
      l4 := .udp, srcPort := 5000, dstPort := 10123, udpLenOk := true, e2e := true,
      auth := some ([0, 3, 0, 123, 0, 0, 0, 0, 0, 0, 0, 0] ++ List.replicate 16 7),
      mac := some (6 :: List.replicate 15 7), payload := [], ntpOk := true } = .drop "bad-mac" := by decide +kernel

/-- What the code does when the key is *not* obtainable (fetch error): the request is served
    without authentication, whatever its MAC — recorded, not endorsed. -/
theorem C13_no_key_served_unauthenticated (cfg : Cfg) (p : Pkt) (d : List Nat)
    (hf : cfg.fetcher = true) (he : p.e2e = true) (ha : p.auth = some d)
    (hlen : d.length = optDataLen) (hmeta : authMeta d = .ok (spiClient, algorithm))
    (hkey : fetchKey true cfg = .error) :
    authCheck true cfg p = .go false := by
  rw [authCheck_client_spi hf he ha hlen hmeta, hkey]

/-! ## the key is that of the addressed host, whatever was served before -/

/-- **A request whose MAC was computed under another key than the one of its own addressing
    (`keyOf`: server IA, addressed server host, client IA, client host) — e.g. under the key of
    another local host address of the same server — is never served.**  `macF k p` is the MAC
    oracle as a function of the key; `Pkt.mac` is `macF (keyOf p) p`; that distinct keys give
    distinct MACs is the (assumed) strength of AES-CMAC, stated as hypothesis `hdiff`. -/
theorem C13_key_of_addressed_host (macF : KeyId → Pkt → Option (List Nat))
    (cfg : Cfg) (p : Pkt) (d : List Nat) (k' : KeyId)
    (horacle : p.mac = macF (keyOf p) p)
    (hother : macF k' p = some (d.drop metadataLen))
    (hdiff : macF k' p ≠ macF (keyOf p) p)
    (hl4 : p.l4 = .udp) (hf : cfg.fetcher = true) (he : p.e2e = true) (ha : p.auth = some d)
    (hlen : d.length = optDataLen) (hmeta : authMeta d = .ok (spiClient, algorithm))
    (hkey : fetchKey true cfg = .ok) :
    ∀ r, handle cfg p ≠ .reply r := by
  have hmac : p.mac ≠ some (d.drop metadataLen) := by
    rw [horacle, ← hother]; exact fun h => hdiff h.symm
  exact (C13_bad_mac_never_served cfg p d hl4 hf he ha hlen hmeta hkey hmac).1

/-- **An honest request is served and answered with an authenticator**: verified under the key
    of its own addressing, to the service port of a listener, acceptable to the NTP layer, over
    a reversible path. -/
theorem C13_honest_request_served (cfg : Cfg) (p : Pkt) (rt : Nat) (rp : List Nat)
    (hv : verified cfg p) (hl4 : p.l4 = .udp) (hu : p.udpLenOk = true)
    (hs : addrOk p.srcAddr = true) (hd : addrOk p.dstAddr = true)
    (hp : p.dstPort = cfg.localHostPort) (hne : cfg.localHostPort ≠ EndhostPort)
    (hn : p.ntpOk = true) (hr : p.rev = some (rt, rp)) :
    handle cfg p = .reply (ntpReply cfg p true true rt rp) ∧
    (ntpReply cfg p true true rt rp).auth.isSome = true := by
  have hac : authCheck true cfg p = .go true := hv
  obtain ⟨_, _, d, hda, _⟩ := (C13_verified_iff cfg p).mp hv
  constructor
  · unfold handle handleG
    simp [hl4, hu, hs, hd, hp, hne, hac, hn, hr]
  · simp [ntpReply, hda]

/-- The outcome for a datagram does not depend on the datagrams handled before it: the i-th
    outcome of any history is `handle` of the i-th datagram alone (in particular two requests
    that differ only in the addressed host are each checked against their own oracle MAC). -/
theorem C13_history_independent (cfg : Cfg) (before after : List Pkt) (p : Pkt) :
    (serve cfg (before ++ p :: after))[before.length]? = some (handle cfg p) := by
  simp [serve]

/-- non-vacuity for `C13_key_of_addressed_host`: hosts A = 10.2.0.1 and B = 10.2.0.2 with an
    oracle that gives distinct MACs for distinct server hosts; the request addressed to B with
    the MAC under A's key is dropped, the honest one to B is served (see also the key histories
    of harness/cmd/c13 on the real listener with real-derivation keys). -/
example :
    let macF : KeyId → Pkt → Option (List Nat) := fun k _ => some (List.replicate 16 (k.serverHost.getD 3 0))
    let toB (macByte : Nat) : Pkt :=
      { lastHop := 0, tc := 0, srcIA := 1, dstIA := 2, srcType := 0, dstType := 0,
        srcAddr := [10, 1, 0, 9], dstAddr := [10, 2, 0, 2], pathType := 0, path := [], rev := some (0, []),
        l4 := .udp, srcPort := 5000, dstPort := 10123, udpLenOk := true, e2e := true,
        auth := some ([0, 3, 0, 123, 0, 0, 0, 0, 0, 0, 0, 0] ++ List.replicate 16 macByte),
        mac := some (List.replicate 16 2), payload := [], ntpOk := true }
    (toB 1).mac = macF (keyOf (toB 1)) (toB 1) ∧
    macF { keyOf (toB 1) with serverHost := [10, 2, 0, 1] } (toB 1) = some (List.replicate 16 1) ∧
    handle (serverCfg 10123 10123 46 false false true) (toB 1) = .drop "bad-mac" ∧
    (match handle (serverCfg 10123 10123 46 false false true) (toB 2) with
      | .reply r => r.auth.isSome | _ => false) = true := by decide +kernel

/-- Shape of every reply: built by `scmpReply` (SCMP echo/traceroute request) or by
    `ntpReply` (accepted NTP request) from the reversed path the oracle returned. -/
theorem C13_reply_shape (cfg : Cfg) (p : Pkt) (r : Reply) (h : handle cfg p = .reply r) :
    (∃ t c rt rp, p.l4 = .scmp t c ∧ (t = scmpEchoRequest ∨ t = scmpTracerouteRequest) ∧
        p.rev = some (rt, rp) ∧ r = scmpReply p true t rt rp) ∨
    (∃ a rt rp, p.l4 = .udp ∧ p.udpLenOk = true ∧ addrOk p.srcAddr = true ∧ addrOk p.dstAddr = true ∧
        p.dstPort = cfg.localHostPort ∧ cfg.localHostPort ≠ EndhostPort ∧
        authCheck true cfg p = .go a ∧ p.ntpOk = true ∧
        p.rev = some (rt, rp) ∧ r = ntpReply cfg p true a rt rp) :=
  handle_spec h

/-- **Every reply (NTP, SCMP echo, SCMP traceroute) goes to the previous hop, with source and
    destination ISD-AS, address type and host address exchanged, over the path `Reverse()`
    returned (type and bytes).** -/
theorem C13_reply_addressing (cfg : Cfg) (p : Pkt) (r : Reply) (h : handle cfg p = .reply r) :
    r.nextHop = p.lastHop ∧
    r.srcIA = p.dstIA ∧ r.dstIA = p.srcIA ∧
    r.srcType = p.dstType ∧ r.dstType = p.srcType ∧
    r.srcAddr = p.dstAddr ∧ r.dstAddr = p.srcAddr ∧
    p.rev = some (r.pathType, r.path) := by
  rcases C13_reply_shape cfg p r h with
    ⟨_, _, _, _, _, _, hrev, rfl⟩ | ⟨_, _, _, _, _, _, _, _, _, _, _, hrev, rfl⟩ <;>
  simp [scmpReply, ntpReply, mkReply, hrev]

/-- SCMP: only echo and traceroute requests are answered, with the matching reply type, code 0,
    the payload echoed intact, the request's traffic class, and no authenticator. -/
theorem C13_reply_scmp (cfg : Cfg) (p : Pkt) (r : Reply) (t c : Nat)
    (hl4 : p.l4 = .scmp t c) (h : handle cfg p = .reply r) :
    ((t = scmpEchoRequest ∧ r.l4 = .scmp scmpEchoReply 0) ∨
     (t = scmpTracerouteRequest ∧ r.l4 = .scmp scmpTracerouteReply 0)) ∧
    r.payload = .echo p.payload ∧ r.tc = p.tc ∧ r.auth = none := by
  rcases C13_reply_shape cfg p r h with ⟨_, _, rt, rp, hl4', ht, _, rfl⟩ | ⟨_, _, _, hl4', _⟩
  · cases hl4.symm.trans hl4'
    rcases ht with rfl | rfl <;> simp [scmpReply, mkReply, scmpTracerouteRequest, scmpEchoRequest]
  · cases hl4.symm.trans hl4'

/-- NTP: only a UDP datagram to the service port, on a listener whose service port is not the
    end-host port, with acceptable lengths/addresses and a payload the NTP layer accepts is
    answered; ports exchanged, traffic class `dscp << 2`. -/
theorem C13_reply_udp (cfg : Cfg) (p : Pkt) (r : Reply)
    (hl4 : p.l4 = .udp) (h : handle cfg p = .reply r) :
    r.l4 = .udp ∧ r.srcPort = p.dstPort ∧ r.dstPort = p.srcPort ∧
    p.dstPort = cfg.localHostPort ∧ cfg.localHostPort ≠ EndhostPort ∧
    r.tc = tcOfDscp cfg.dscp ∧ r.payload = .ntpResponse ∧ p.ntpOk = true ∧ p.udpLenOk = true ∧
    addrOk p.srcAddr = true ∧ addrOk p.dstAddr = true := by
  rcases C13_reply_shape cfg p r h with ⟨_, _, _, _, hl4', _⟩ | ⟨_, _, _, _, h1, h2, h3, h4, h5, _, h6, _, rfl⟩
  · cases hl4.symm.trans hl4'
  · simp [ntpReply, h1, h2, h3, h4, h5, h6]

/-- The reply carries an authenticator iff the request verified (and is an NTP request); it then
    has the server SPI, the expected algorithm and zeroed timestamp/sequence bytes (the MAC
    itself is the oracle's). -/
theorem C13_reply_auth_iff (cfg : Cfg) (p : Pkt) (r : Reply) (h : handle cfg p = .reply r) :
    (r.auth.isSome ↔ verified cfg p ∧ p.l4 = .udp) ∧
    (∀ m, r.auth = some m → m = [0, 2, 0, 123, 0, 0, 0, 0, 0, 0, 0, 0]) := by
  rcases C13_reply_shape cfg p r h with ⟨_, _, _, _, hl4, _, _, rfl⟩ | ⟨a, _, _, hl4, _, _, _, _, _, hac, _, _, rfl⟩
  · simp [scmpReply, mkReply, hl4]
  · cases a with
    | false => simp [ntpReply, verified, hac]
    | true =>
      obtain ⟨_, _, d, hd, hlen, _⟩ := (C13_verified_iff cfg p).mp hac
      simp [ntpReply, hd, replyAuthMeta_eq hlen, verified, hac, hl4]

/-- SPI decoded from the bytes of `C13_reply_auth_iff` is the server SPI. -/
theorem C13_reply_auth_spi :
    (123 + 0 * 256 + 2 * 65536 + 0 * 16777216 : Nat) = spiServer ∧ spiServer ≠ spiClient := by decide

example : (match handle (serverCfg 10123 30041 46 true true false)
    { lastHop := 1, tc := 9, srcIA := 1, dstIA := 2, srcType := 0, dstType := 3,
      srcAddr := [10, 0, 0, 1], dstAddr := List.replicate 16 1, pathType := 2, path := [1, 2], rev := some (1, [2, 1]),
      l4 := .scmp 128 0, srcPort := 0, dstPort := 0, udpLenOk := true, e2e := false,
      auth := none, mac := none, payload := [5, 6], ntpOk := false } with
    | .reply r => r.pathType == 1 && r.l4 == .scmp 129 0 && r.nextHop == 1
    | _ => false) = true := by decide +kernel

/-- **A packet is forwarded iff it is a UDP datagram for another port than the service port,
    received on the end-host port, and not addressed to the end-host port itself.** -/
theorem C13_forward_iff (cfg : Cfg) (p : Pkt) :
    (∃ f, handle cfg p = .forward f) ↔
      (p.l4 = .udp ∧ p.udpLenOk = true ∧ addrOk p.srcAddr = true ∧ addrOk p.dstAddr = true ∧
       p.dstPort ≠ cfg.localHostPort ∧ cfg.connPort = EndhostPort ∧ p.dstPort ≠ EndhostPort) := by
  constructor
  · rintro ⟨f, h⟩
    exact (handle_spec h).2
  · rintro ⟨hl4, hu, hs, hd, hp, hc, he⟩
    unfold handle handleG
    simp [hl4, hu, hs, hd, hp, hc, he]

/-- What is forwarded: the packet as received (header, ports, payload unchanged), to the
    destination host and UDP destination port of the packet; never to the end-host port, never
    the listener's own service port. -/
theorem C13_forward_fields (cfg : Cfg) (p : Pkt) (f : Fwd) (h : handle cfg p = .forward f) :
    f.toAddr = p.dstAddr ∧ f.toPort = p.dstPort ∧ f.pkt = p ∧
    f.toPort ≠ EndhostPort ∧ f.toPort ≠ cfg.localHostPort ∧ cfg.connPort = EndhostPort := by
  obtain ⟨rfl, _, _, _, _, hp, hc, he⟩ := handle_spec h
  exact ⟨rfl, rfl, rfl, he, hp, hc⟩

/-- The socket group bound to the service port never forwards. -/
theorem C13_service_socket_never_forwards (cfg : Cfg) (p : Pkt) (hc : cfg.connPort ≠ EndhostPort) :
    ∀ f, handle cfg p ≠ .forward f := by
  intro f h
  exact hc (C13_forward_fields cfg p f h).2.2.2.2.2

/-- The dispatcher (`StartSCIONDispatcher`) never serves NTP: UDP is forwarded or dropped. -/
theorem C13_dispatcher_never_serves (p : Pkt) (hl4 : p.l4 = .udp) :
    ∀ r, handle dispatcherCfg p ≠ .reply r := by
  intro r h
  have := C13_reply_udp dispatcherCfg p r hl4 h
  exact this.2.2.2.2.1 rfl

example : (match handle (serverCfg 10123 30041 46 true true false)
    { lastHop := 1, tc := 9, srcIA := 1, dstIA := 2, srcType := 0, dstType := 0,
      srcAddr := [10, 0, 0, 1], dstAddr := [127, 0, 13, 3], pathType := 0, path := [], rev := some (0, []),
      l4 := .udp, srcPort := 7, dstPort := 30040, udpLenOk := true, e2e := false,
      auth := none, mac := none, payload := [5, 6], ntpOk := false } with
    | .forward f => f.toPort == 30040 && f.toAddr == [127, 0, 13, 3]
    | _ => false) = true := by decide +kernel

end ScionTime.C13
