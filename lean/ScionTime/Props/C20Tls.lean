/-
  C20, caller side: net/ntske's Fetcher and the NTS-KE servers do not choose
  a TLS policy; they use the `tls.Config` their callers hand them. The callers are in
  timeservice.go: `configureIPClientNTS`, `configureSCIONClientNTS` (clients of reference
  clocks, peers and the tool) and `tlsConfig` (servers). Stated over Model/MainCfg.lean: every
  client configured for NTS gets MinVersion TLS 1.3, ALPN exactly ["ntske/1"], the host part of
  the NTS-KE server as ServerName, the port part as the Fetcher's port, and certificate
  verification switched off exactly when the configuration says so.

  Tied to the real functions on every run by harness/cmd/cmain (part ctor).
-/
import ScionTime.Model.MainCfg
import ScionTime.Gen.Client
import ScionTime.Gen.Ntske

namespace ScionTime.Props.C20Tls
open ScionTime.MainCfg

/-! ### pins (harness/extract/x_cmain.go) -/

/-- the `tls.Config` literals of the three functions -/
theorem C20Tls_pin_literals :
    Gen.Client.main_configureIPClientNTS_tls =
      "NextProtos:[]string{\"ntske/1\"} | InsecureSkipVerify:ntskeInsecureSkipVerify | ServerName:ntskeHost | MinVersion:tls.VersionTLS13" ∧
    Gen.Client.main_configureSCIONClientNTS_tls =
      "NextProtos:[]string{\"ntske/1\"} | InsecureSkipVerify:ntskeInsecureSkipVerify | ServerName:ntskeHost | MinVersion:tls.VersionTLS13" ∧
    Gen.Client.main_tlsConfig_tls =
      "ServerName:cfg.NTSKEServerName | NextProtos:[]string{\"ntske/1\"} | GetCertificate:certCache.loadCert | MinVersion:tls.VersionTLS13" :=
  ⟨rfl, rfl, rfl⟩

/-- everything else the two client functions assign, in order -/
theorem C20Tls_pin_assigns :
    Gen.Client.main_configureIPClientNTS_assigns =
      "c.Auth.Enabled=true | c.Auth.NTSKEFetcher.TLSConfig={..} | c.Auth.NTSKEFetcher.Port=ntskePort | c.Auth.NTSKEFetcher.Log=log" ∧
    Gen.Client.main_configureSCIONClientNTS_assigns =
      "c.Auth.NTSEnabled=true | c.Auth.NTSKEFetcher.TLSConfig={..} | c.Auth.NTSKEFetcher.Port=ntskePort | c.Auth.NTSKEFetcher.Log=log | c.Auth.NTSKEFetcher.QUIC.Enabled=true | c.Auth.NTSKEFetcher.QUIC.DaemonAddr=daemonAddr | c.Auth.NTSKEFetcher.QUIC.LocalAddr=localAddr | c.Auth.NTSKEFetcher.QUIC.RemoteAddr=remoteAddr" :=
  ⟨rfl, rfl⟩

/-- the ALPN protocol the callers offer is the one the Fetcher insists on (net/ntske `alpn`),
    and `tls.VersionTLS13` is 0x0304 -/
theorem C20Tls_pin_alpn : (clientTLS "h" false).nextProtos = [Gen.Ntske.alpn] ∧ versionTLS13 = 0x0304 :=
  ⟨rfl, rfl⟩

/-- the TLS policy of a client configuration -/
def Policy (t : TLSCfg) (host : String) (insecure : Bool) : Prop :=
  t.minVersion = versionTLS13 ∧ t.maxVersion = 0 ∧ t.nextProtos = ["ntske/1"] ∧ t.serverName = host ∧
  t.insecureSkipVerify = insecure

/-- `configureIPClientNTS` succeeds exactly when the NTS-KE server splits into host and port;
    then the client authenticates (`Auth.Enabled`), its Fetcher uses the policy above with that
    host, and that port; nothing else of the client changes -/
theorem C20Tls_ip_client (c : IPClient) (server : String) (insecure : Bool) :
    (splitHostPort server = none → configureIPClientNTS c server insecure = .fatal msgSplit) ∧
    (∀ host port, splitHostPort server = some (host, port) →
      ∃ c', configureIPClientNTS c server insecure = .ok c' ∧ c'.authEnabled = true ∧
        Policy c'.fetcher.tls host insecure ∧ c'.fetcher.port = port ∧ c'.fetcher.quic = c.fetcher.quic ∧
        c'.dscp = c.dscp ∧ c'.interleavedMode = c.interleavedMode ∧ c'.filter = c.filter) := by
  constructor
  · intro h; simp [configureIPClientNTS, h]
  · intro host port h
    simp only [configureIPClientNTS, h, Res.ok.injEq, exists_eq_left', true_and, and_true]
    exact ⟨rfl, rfl, rfl, rfl, rfl⟩

/-- the same for the SCION client, which runs the key exchange over QUIC to the configured
    daemon / local / remote addresses (`Auth.NTSEnabled`; `Auth.Enabled` is SPAO's and untouched) -/
theorem C20Tls_scion_client (c : SCIONClient) (server : String) (insecure : Bool) (daemon l r : String) :
    (splitHostPort server = none → configureSCIONClientNTS c server insecure daemon l r = .fatal msgSplit) ∧
    (∀ host port, splitHostPort server = some (host, port) →
      ∃ c', configureSCIONClientNTS c server insecure daemon l r = .ok c' ∧ c'.ntsEnabled = true ∧
        c'.authEnabled = c.authEnabled ∧ Policy c'.fetcher.tls host insecure ∧ c'.fetcher.port = port ∧
        c'.fetcher.quic = true ∧ c'.fetcher.quicDaemon = daemon ∧ c'.fetcher.quicLocal = l ∧ c'.fetcher.quicRemote = r ∧
        c'.dscp = c.dscp ∧ c'.interleavedMode = c.interleavedMode ∧ c'.filter = c.filter ∧
        c'.prevReference = c.prevReference) := by
  constructor
  · intro h; simp [configureSCIONClientNTS, h]
  · intro host port h
    simp only [configureSCIONClientNTS, h, Res.ok.injEq, exists_eq_left', true_and, and_true]
    exact ⟨rfl, rfl, rfl, rfl, rfl⟩

/-- **No downgrade by configuration plumbing**: verification is skipped only if the
    configuration asked for it, and the minimum version is TLS 1.3 whatever the arguments -/
theorem C20Tls_never_below_tls13 (c : IPClient) (s : SCIONClient) (server : String) (insecure : Bool)
    (daemon l r : String) :
    (∀ c', configureIPClientNTS c server insecure = .ok c' →
      c'.fetcher.tls.minVersion = 0x0304 ∧ (c'.fetcher.tls.insecureSkipVerify = true ↔ insecure = true)) ∧
    (∀ s', configureSCIONClientNTS s server insecure daemon l r = .ok s' →
      s'.fetcher.tls.minVersion = 0x0304 ∧ (s'.fetcher.tls.insecureSkipVerify = true ↔ insecure = true)) := by
  constructor
  · intro c' h
    simp only [configureIPClientNTS] at h
    split at h
    · cases h
    · cases h; simp [clientTLS, versionTLS13]
  · intro s' h
    simp only [configureSCIONClientNTS] at h
    split at h
    · cases h
    · cases h; simp [clientTLS, versionTLS13]

/-- the IP reference clock: with "nts" among the authentication modes its client carries that
    policy (or the constructor refuses the configuration); without it no TLS configuration at all -/
theorem C20Tls_refclk_ip (a : CtorArgs) :
    (a.authModes.contains authModeNTS = true →
      (splitHostPort a.ntskeServer = none ∧ newRefClockIP a = .fatal msgSplit) ∨
      ∃ host port k, splitHostPort a.ntskeServer = some (host, port) ∧ newRefClockIP a = .ok k ∧
        k.ntpc.authEnabled = true ∧ Policy k.ntpc.fetcher.tls host a.insecure ∧ k.ntpc.fetcher.port = port ∧
        k.ntpc.interleavedMode = true ∧ k.ntpc.dscp = a.dscp) ∧
    (a.authModes.contains authModeNTS = false →
      ∃ k, newRefClockIP a = .ok k ∧ k.ntpc.authEnabled = false ∧ k.ntpc.fetcher = {} ∧
        k.ntpc.interleavedMode = true ∧ k.ntpc.dscp = a.dscp) := by
  constructor
  · intro hn
    cases hsp : splitHostPort a.ntskeServer with
    | none => left; exact ⟨rfl, by simp only [newRefClockIP, hn, if_true, configureIPClientNTS, hsp]⟩
    | some hp =>
      obtain ⟨host, port⟩ := hp
      right
      refine ⟨host, port, ?_⟩
      simp only [newRefClockIP, hn, if_true, configureIPClientNTS, hsp, Res.ok.injEq, exists_eq_left', true_and,
        and_true]
      exact ⟨rfl, rfl, rfl, rfl, rfl⟩
  · intro hn
    simp only [newRefClockIP, hn, Bool.false_eq_true, if_false, Res.ok.injEq, exists_eq_left', and_self]

/-! ### splitting the NTS-KE server (Go's net.SplitHostPort) -/

/-- instances: name, IPv4, bracketed IPv6 (brackets removed, zone kept), empty host, empty port;
    refused: no port, bare IPv6, text after the bracket, several colons, stray brackets, empty -/
theorem C20Tls_split_instances :
    splitHostPort "ke.example:4460" = some ("ke.example", "4460") ∧
    splitHostPort "10.0.0.1:10123" = some ("10.0.0.1", "10123") ∧
    splitHostPort "[::1]:4460" = some ("::1", "4460") ∧
    splitHostPort "[fe80::1%25eth0]:123" = some ("fe80::1%25eth0", "123") ∧
    splitHostPort ":4460" = some ("", "4460") ∧ splitHostPort "host:" = some ("host", "") ∧
    splitHostPort "nohost" = none ∧ splitHostPort "::1:4460" = none ∧ splitHostPort "[::1]" = none ∧
    splitHostPort "[::1]4460" = none ∧ splitHostPort "[::1]:44:60" = none ∧ splitHostPort "a:b:c" = none ∧
    splitHostPort "x]:1" = none ∧ splitHostPort "[x:1" = none ∧ splitHostPort "[a]b:1" = none ∧
    splitHostPort "" = none := by decide +kernel

/-- `ntskeServerFromRemoteAddr`: the text between the first and the second comma (for a SCION
    address `IA,host:port` that is the host:port part); no comma: panic -/
theorem C20Tls_ntske_server_instances :
    ntskeServerFromRemoteAddr "1-ff00:0:112,10.0.0.1:10123" = .ok "10.0.0.1:10123" ∧
    ntskeServerFromRemoteAddr "0-0,[::1]:123" = .ok "[::1]:123" ∧
    ntskeServerFromRemoteAddr "a,b,c" = .ok "b" ∧ ntskeServerFromRemoteAddr "a," = .ok "" ∧
    ntskeServerFromRemoteAddr "abc" = .panic "remote address has wrong format" ∧
    ntskeServerFromRemoteAddr "" = .panic "remote address has wrong format" := by decide +kernel

/-- `tlsConfig`: refused unless server name, certificate file and key file are all given; then
    TLS 1.3 minimum, ALPN ["ntske/1"], the configured name, certificate through the reloading
    callback (no static certificate), verification settings untouched -/
theorem C20Tls_server (name cert key : String) :
    ((name = "" ∨ cert = "" ∨ key = "") → ∃ m, tlsConfig name cert key = .fatal m) ∧
    (¬ (name = "" ∨ cert = "" ∨ key = "") →
      ∃ t, tlsConfig name cert key = .ok t ∧ Policy t name false) := by
  constructor
  · intro h
    simp only [tlsConfig, h, if_true, Res.fatal.injEq, exists_eq']
  · intro h
    simp only [tlsConfig, h, if_false, Res.ok.injEq, exists_eq_left']
    exact ⟨rfl, rfl, rfl, rfl, rfl⟩

/-- non-vacuity -/
example : ∃ t, tlsConfig "ke.example" "/etc/cert.pem" "/etc/key.pem" = .ok t ∧ Policy t "ke.example" false :=
  (C20Tls_server _ _ _).2 (by decide)

end ScionTime.Props.C20Tls
