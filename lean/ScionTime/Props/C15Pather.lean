/-
  Props/C15Pather.lean — C15 across ROUNDS: `MeasureClockOffsetSCION` consumes its path list in
  place (swap-removes, Sample's picks). The round model takes the list by value; here the writes
  are made explicit (`arrayAfter`, memory of arrays by address) and it is proved that a round's
  result is a function of the array's contents, that its writes land in the array it was handed
  and nowhere else, and that with `Pather.Paths` handing out a copy (net/scion/pather.go) the
  Pather's table is the same before and after any history of rounds — every round of a history is
  offered the same table, so the per-round theorems of Props/C15.lean (distinct paths, an
  interleaved client keeps its path while it is still offered, …) apply round after round with
  "offered" = the table. The aliased variant (Paths returns the table itself) is refuted with a
  decided two-round history: a path is lost and another one doubled in the table, a client
  whose path the table originally offered is reset, and two clients probe the same path.
-/
import ScionTime.Proofs.Multipath
import ScionTime.Gen.Scion
namespace ScionTime.C15Pather
open ScionTime.Sample ScionTime.Multipath List

/-- `Pather.Paths` returns a copy (harness/extract/x_c15.go) -/
theorem C15Pather_pin_copy :
    Gen.Scion.Pather_Paths_returns = "nil | append(make([]snet.Path, 0, len(paths)), paths...)" := rfl

/-- the by-value round of Props/C15.lean is `roundP` on the offered positions -/
theorem C15Pather_round_is_roundP (ftm : List Int → Int) (f11 f12 : Bool) (cs : List Client)
    (offered : List Fp) (c : Bool) (s : Stream) (succ : List (Option Int)) :
    round ftm f11 f12 cs offered c s succ = roundP ftm f11 f12 cs (offeredPaths offered) c s succ := rfl

/-- the in-place writes are writes THROUGH the slice: the caller's array keeps its length,
    whatever the clients, paths and random stream -/
theorem C15Pather_array_length (f : Bool) (cs : List Client) (ps : List Path) (c : Bool) (s : Stream) :
    (arrayAfter f cs ps c s).length = ps.length := by
  have h := stickyLoop_tail_length f cs ps []
  simp only [arrayAfter]
  split <;> simp only [length_append, applyPicks_length] <;> simpa using h

/-- **A round reads its array's contents and writes only that array.** The result of
    `MeasureClockOffsetSCION(…, ps)` is the by-value round on the contents of `ps`'s array (two
    memories that agree at that address give the same result), and every other array of the
    memory is the same afterwards. -/
theorem C15Pather_round_frame (ftm : List Int → Int) (f11 f12 : Bool) (m : Mem) (a : Nat)
    (cs : List Client) (c : Bool) (s : Stream) (succ : List (Option Int)) :
    (roundAt ftm f11 f12 m a cs c s succ).1 = roundP ftm f11 f12 cs (m.getD a []) c s succ ∧
    (∀ m' : Mem, m'.getD a [] = m.getD a [] →
      (roundAt ftm f11 f12 m' a cs c s succ).1 = (roundAt ftm f11 f12 m a cs c s succ).1) ∧
    (∀ b, b ≠ a → (roundAt ftm f11 f12 m a cs c s succ).2.getD b [] = m.getD b []) ∧
    (roundAt ftm f11 f12 m a cs c s succ).2.length = m.length := by
  refine ⟨rfl, ?_, ?_, by simp [roundAt]⟩
  · intro m' h; simp only [roundAt, h]
  · intro b hb
    simp only [roundAt, getD_eq_getElem?_getD]
    rw [getElem?_set_ne (Ne.symm hb)]

/-- **With the copy, a round leaves the Pather's table as it was** and is offered exactly the
    table: result = by-value round on the table's contents; the table (and every other array
    that existed) is unchanged; the only new thing in memory is the consumed copy. -/
theorem C15Pather_copy_round (ftm : List Int → Int) (f11 f12 : Bool) (m : Mem) (table : Nat)
    (cs : List Client) (c : Bool) (s : Stream) (succ : List (Option Int)) :
    let o := refclkRound pathsCopy ftm f11 f12 m table cs c s succ
    o.1 = roundP ftm f11 f12 cs (m.getD table []) c s succ ∧
    (∀ b, b < m.length → o.2.getD b [] = m.getD b []) ∧ o.2.length = m.length + 1 := by
  simp only [refclkRound, pathsCopy]
  obtain ⟨h1, _, h3, h4⟩ := C15Pather_round_frame ftm f11 f12 (m ++ [m.getD table []]) m.length cs c s succ
  refine ⟨?_, ?_, by rw [h4]; simp⟩
  · rw [h1]; simp [getD_eq_getElem?_getD]
  · intro b hb
    rw [h3 b (by omega)]
    simp only [getD_eq_getElem?_getD]
    rw [getElem?_append_left hb]

/-- **Round after round**: over any history of rounds on one Pather (any clients' states,
    streams, outcomes), the table is untouched and round k's result is the by-value round on
    the table — the paths offered never depend on what earlier rounds did. -/
theorem C15Pather_copy_history (ftm : List Int → Int) (f11 f12 : Bool) (table : Nat) :
    ∀ (rs : List RoundIn) (m : Mem), table < m.length →
      (refclkHistory pathsCopy ftm f11 f12 m table rs).1 =
        rs.map (fun r => roundP ftm f11 f12 r.cs (m.getD table []) r.cancelled r.s r.succ) ∧
      (∀ b, b < m.length → (refclkHistory pathsCopy ftm f11 f12 m table rs).2.getD b [] = m.getD b [])
  | [], m, _ => by simp [refclkHistory]
  | r :: rs, m, ht => by
    obtain ⟨h1, h2, h3⟩ := C15Pather_copy_round ftm f11 f12 m table r.cs r.cancelled r.s r.succ
    have ih := C15Pather_copy_history ftm f11 f12 table rs
      (refclkRound pathsCopy ftm f11 f12 m table r.cs r.cancelled r.s r.succ).2 (by omega)
    simp only [refclkHistory, map_cons]
    refine ⟨?_, ?_⟩
    · rw [ih.1, h1, h2 table ht]
    · intro b hb
      rw [ih.2 b (by omega), h2 b hb]

/-- three clients of a reference clock in interleaved mode, on the paths f0, f1, f2 they were
    assigned in an earlier round -/
def ilClients : List Client := [⟨true, true, true, "f0"⟩, ⟨true, true, true, "f1"⟩, ⟨true, true, true, "f2"⟩]

def tbl : List Path := offeredPaths ["f0", "f1", "f2"]

def rin : RoundIn := { cs := ilClients, s := [1, 2, 3, 4, 5, 6, 7, 8, 9, 10, 11, 12, 13, 14, 15, 16], succ := [some 10, some 20, some 30] }

/-- a stand-in for the fault-tolerant midpoint that the kernel can evaluate (the theorems above
    hold for every `ftm`) -/
def sumF (l : List Int) : Int := l.foldl (· + ·) 0

/-- with the copy: both rounds keep every client on its path (0, 1, 2), nobody is reset, the
    table is [f0, f1, f2] afterwards (non-vacuity of the history theorem: `ok` results) -/
example :
    let o := refclkHistory pathsCopy sumF true true [tbl] 0 [rin, rin]
    o.1.map (·.assigned) = [[some 0, some 1, some 2], [some 0, some 1, some 2]] ∧
    o.1.map (·.reset) = [[false, false, false], [false, false, false]] ∧
    o.1.map (·.res) = [.ok 60, .ok 60] ∧ o.2.getD 0 [] = tbl := by decide +kernel

/-- **`ps` aliasing breaks the property.** If `Paths` handed out the table itself, the first
    of these two rounds (every client keeps its path: three swap-removes) would leave the table
    as [f2, f1, f2] — path 0 lost, path 2 twice — and in the second round client 0, whose path
    the Pather's source still offers, is reset and moved, and clients 0 and 2 probe the same
    path (position 2 of the original table): "pairwise distinct paths" and "keeps its path
    while it is still offered" both fail, silently (both rounds return an offset). -/
theorem C15Pather_alias_refuted :
    let o := refclkHistory pathsAlias sumF true true [tbl] 0 [rin, rin]
    (refclkHistory pathsAlias sumF true true [tbl] 0 [rin]).2.getD 0 [] = [(2, "f2"), (1, "f1"), (2, "f2")] ∧
    o.1.map (·.assigned) = [[some 0, some 1, some 2], [some 2, some 1, some 2]] ∧
    o.1.map (·.reset) = [[false, false, false], [true, false, false]] ∧
    o.1.map (·.res) = [.ok 60, .ok 60] := by decide +kernel

end ScionTime.C15Pather
