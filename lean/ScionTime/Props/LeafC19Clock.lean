/-
  Kernel-checked ties (C19, C18): the clock object of driver/clocks/sysclk_linux.go as regenerated
  from /repo's Go source on every run (Gen/LeafClocks.lean; leaf translator, eighth generation:
  harness/extract/leaf8.go) against the hand-written model Model/SysClock.lean.

  Regenerated: `setOffset`, `setFrequency` (the two `clock_adjtime` wrappers: the `unix.Timex` literal
  with its `Modes` constants read from the x/sys version go.mod names, `unixutil.TimevalFromNsec`,
  `unixutil.ScaledPPMFromFreq`, the call recorded WITH the structure handed to the kernel, the
  `logbase.Fatal` on error), `(*SystemClock).Epoch`, `Step`, `Adjust` (methods under
  `c.mu.Lock(); defer c.mu.Unlock()` = atomic state transformers; `c.adjustment` a pointer with
  identity; `&adjustment{…}` an allocation; the `go func…` a recorded start), the goroutine's body
  (`clocks_SystemClock_Adjust_go`: `sleep`, then the pointer comparison under the lock) and `Sleep`.

  Views: `sc c w pending` reads a generated clock `c`, the world `w` (allocation counter = the
  model's ghost `nextId`) and the list of started goroutines as a `SysClock.State`; `enc` renders a
  model action as the recorded system action(s): `setOffset o` ↦ `clock_adjtime(CLOCK_REALTIME,
  {Modes: ADJ_SETOFFSET|ADJ_NANO, Time: TimevalFromNsec(o)})`, `setFrequency f` ↦
  `clock_adjtime(CLOCK_REALTIME, {Modes: ADJ_FREQUENCY, Freq: ScaledPPMFromFreq(f)})`.

  PROVED, for all clocks, worlds, arguments (hypothesis: each `clock_adjtime` returned no error —
  in the other case the wrapper ends the process in `logbase.Fatal`: `setOffset_fatal`,
  `setFrequency_fatal`, and for `Step` with no slew registered `C19_leaf_clock_Step_fatal`):
    `C19_leaf_clock_Step`, `C19_leaf_clock_Adjust`, `C19_leaf_clock_expire`, `C19_leaf_clock_Sleep`,
    `C19_leaf_clock_Epoch`: same new state, same actions in the same order, panic exactly when the
    model panics;
    `C18_leaf_setOffset_timex`, `C18_leaf_setFrequency_timex`: the structure handed to the kernel —
    nanosecond mode, `Time.Usec ∈ [0, 10^9)`, `Sec·10^9 + Usec` = the requested offset (every int64),
    every other field zero; `Freq` = the scaled-ppm conversion of the requested frequency.
  Gap (stated): on a panic the generated outcome carries the message only; that `Step` has already
  set the time when it panics with "epoch overflow" is the model's statement and the live run's
  (harness c19clk), not this tie's.
-/
import ScionTime.Gen.LeafClocks
import ScionTime.Model.SysClock
import ScionTime.Props.LeafC18
import ScionTime.Props.C18
namespace ScionTime.LeafTieC19Clock
open ScionTime ScionTime.Gen.Leaf ScionTime.Go ScionTime.GoLemmas ScionTime.Int64Arith

def adjOf (r : Go.Ref S_adjustment) : SysClock.Adj :=
  { id := r.id, duration := r.val.duration.toInt, afterFreq := r.val.afterFreq }

/-- the generated clock, the world's allocation counter and the started goroutines as a model state -/
def sc (c : S_SystemClock) (w : Go.World) (pending : List SysClock.Adj) : SysClock.State :=
  { epoch := c.epoch.toNat, adjustment := c.adjustment.map adjOf, nextId := w.heap, pending := pending }

/-- `unix.Timex{Modes: unix.ADJ_SETOFFSET | unix.ADJ_NANO, Time: unixutil.TimevalFromNsec(o)}` -/
def offsetTimex (o : Int64) : Go.Timex := { Modes := 0x2100, Time := unixutil_TimevalFromNsec o }

/-- `unix.Timex{Modes: unix.ADJ_FREQUENCY, Freq: unixutil.ScaledPPMFromFreq(f)}` -/
def freqTimex (f : F64.F64) : Go.Timex := { Modes := 2, Freq := unixutil_ScaledPPMFromFreq f }

def goName : String := "clocks_SystemClock_Adjust_go"

/-- a model action as the recorded system actions (the debug record `sleepLog` is not an action) -/
def enc : SysClock.Action → List Go.SysAction
  | .setOffset o => [.clockAdjtime 0 (offsetTimex (Int64.ofInt o))]
  | .setFrequency f => [.clockAdjtime 0 (freqTimex f)]
  | .sleepLog _ => []
  | .sleep d => [.sleep (Int64.ofInt d)]
  | .spawn id _ => [.spawn goName [some id]]

theorem setOffset_ok (o : Int64) (w : Go.World) :
    clocks_setOffset o w false = .ok (w.act (.clockAdjtime 0 (offsetTimex o))) := rfl

theorem setOffset_fatal (o : Int64) (w : Go.World) :
    clocks_setOffset o w true = .panic "fatal: unix.ClockAdjtime failed" := rfl

theorem setFrequency_ok (f : F64.F64) (w : Go.World) :
    clocks_setFrequency f w false = .ok (w.act (.clockAdjtime 0 (freqTimex f))) := rfl

theorem setFrequency_fatal (f : F64.F64) (w : Go.World) :
    clocks_setFrequency f w true = .panic "fatal: unix.ClockAdjtime failed" := rfl

/-- **What `setOffset` hands to the kernel** (C18 "the pair passed to the kernel", C19 "sane
    actuation"), for EVERY int64 offset: one `clock_adjtime(CLOCK_REALTIME, tx)` with
    `tx.Modes = ADJ_SETOFFSET|ADJ_NANO` (0x100 | 0x2000: nanosecond mode), `0 ≤ tx.Time.Usec < 10^9`,
    `tx.Time.Sec·10^9 + tx.Time.Usec` = the offset, and every other field zero. -/
theorem C18_leaf_setOffset_timex (o : Int64) (w : Go.World) :
    ∃ tx, clocks_setOffset o w false = .ok { w with acts := w.acts ++ [.clockAdjtime 0 tx] } ∧
      tx.Modes = 0x100 ||| 0x2000 ∧
      0 ≤ tx.Time.2.toInt ∧ tx.Time.2.toInt < 1000000000 ∧
      tx.Time.1.toInt * 1000000000 + tx.Time.2.toInt = o.toInt ∧
      tx = { Modes := tx.Modes, Time := tx.Time } := by
  refine ⟨offsetTimex o, setOffset_ok o w, (by show (0x2100 : UInt32) = _; decide), ?_, ?_, ?_, rfl⟩
  all_goals
    simp only [offsetTimex, LeafTieC18.C18_leaf_TimevalFromNsec]
    have h := C18.C18_timeval_normal o
    omega

/-- **What `setFrequency` hands to the kernel**: `tx.Modes = ADJ_FREQUENCY`, `tx.Freq` = the
    scaled-ppm conversion of the requested frequency (the model's `scaledPPMFromFreq`: ·65536·10^6,
    truncated as amd64 does), every other field zero. -/
theorem C18_leaf_setFrequency_timex (f : F64.F64) (w : Go.World) :
    ∃ tx, clocks_setFrequency f w false = .ok { w with acts := w.acts ++ [.clockAdjtime 0 tx] } ∧
      tx.Modes = 0x2 ∧ tx.Freq.toInt = FreqDrift.scaledPPMFromFreq f ∧
      tx = { Modes := tx.Modes, Freq := tx.Freq } :=
  ⟨freqTimex f, setFrequency_ok f w, rfl, LeafTieC18.C18_leaf_ScaledPPMFromFreq f, rfl⟩

theorem C19_leaf_clock_Epoch (c : S_SystemClock) (w : Go.World) (p : List SysClock.Adj) :
    (clocks_SystemClock_Epoch c).toNat = SysClock.epoch (sc c w p) := rfl

theorem epoch_max (e : UInt64) : (e == (18446744073709551615 : UInt64)) = decide (e.toNat = SysClock.maxU64) := by
  by_cases h : e = 18446744073709551615
  · subst h; decide
  · have h2 : ¬ e.toNat = SysClock.maxU64 := fun hh => h (UInt64.toNat_inj.mp (by rw [hh]; rfl))
    simp [h, h2]

theorem epoch_succ (e : UInt64) (h : ¬ e.toNat = SysClock.maxU64) : (e + 1).toNat = e.toNat + 1 := by
  have hl := UInt64.toNat_lt e
  unfold SysClock.maxU64 at h
  rw [UInt64.toNat_add]
  have : (1 : UInt64).toNat = 1 := rfl
  rw [this]
  omega

/-- **`(*SystemClock).Step`**: with both `clock_adjtime` calls succeeding, the regenerated method and
    `SysClock.step` reach the same state and perform the same system actions in the same order
    (restoring `afterFreq` first when a slew is registered, then the offset); it panics exactly when
    the model does ("epoch overflow"). -/
theorem C19_leaf_clock_Step (c : S_SystemClock) (o : Int64) (w : Go.World) (p : List SysClock.Adj) :
    match SysClock.step (sc c w p) o.toInt with
    | .ok s acts => ∃ c' w', clocks_SystemClock_Step c o w false false = .ok (c', w') ∧
        sc c' w' p = s ∧ w'.acts = w.acts ++ acts.flatMap enc
    | .panic _ _ _ => clocks_SystemClock_Step c o w false false = .panic "epoch overflow" := by
  have hoo : Int64.ofInt o.toInt = o := Int64.ofInt_toInt o
  by_cases he : c.epoch.toNat = SysClock.maxU64 <;> cases hadj : c.adjustment <;>
    simp [SysClock.step, SysClock.cancelActs, sc, hadj, he, clocks_SystemClock_Step, Go.Out.bind, setOffset_ok,
      setFrequency_ok, epoch_max, Go.World.act, enc, hoo, Go.Ref.deref?, Go.Out.ofOption, adjOf]
  · exact ⟨_, _, ⟨rfl, rfl⟩, ⟨epoch_succ _ he, rfl, rfl⟩, rfl⟩
  · exact ⟨_, _, ⟨rfl, rfl⟩, ⟨epoch_succ _ he, rfl, rfl⟩, rfl⟩

/-- a failing `clock_adjtime` in `setOffset` ends the process (`logbase.Fatal`); stated for a clock
    with no slew registered -/
theorem C19_leaf_clock_Step_fatal (c : S_SystemClock) (o : Int64) (w : Go.World) (h : c.adjustment = none) :
    clocks_SystemClock_Step c o w false true = .panic "fatal: unix.ClockAdjtime failed" := by
  simp [clocks_SystemClock_Step, h, Go.Out.bind, setOffset_fatal]

theorem lt_zero_iff (d : Int64) : d < 0 ↔ d.toInt < 0 := Int64.lt_iff_toInt_lt

theorem norm_eq (d : Int64) (h : ¬ d < 0) :
    (if ((d / 1000000000) * 1000000000 == (0 : Int64)) = true then (1000000000 : Int64)
      else (d / 1000000000) * 1000000000).toInt = SysClock.normDuration d.toInt := by
  have hk : (1000000000 : Int64).toInt = 1000000000 := by decide
  have h0 : (0 : Int64).toInt = 0 := by decide
  have hu := Int64.toInt_lt d
  have hd : 0 ≤ d.toInt := by rw [lt_zero_iff] at h; omega
  have hdiv := Int.tdiv_eq_ediv_of_nonneg hd (b := 1000000000)
  have hq : (d / 1000000000).toInt = d.toInt.tdiv 1000000000 := by rw [toInt_div_pos d _ (by decide), hk]
  have hm : ((d / 1000000000) * 1000000000).toInt = d.toInt.tdiv 1000000000 * 1000000000 := by
    rw [toInt_mul_of_fits, hq, hk] <;> rw [hq, hk] <;> omega
  have hb : ((d / 1000000000) * 1000000000 == (0 : Int64)) = true ↔ d.toInt.tdiv 1000000000 * 1000000000 = 0 := by
    rw [beq_iff_eq, ← Int64.toInt_inj, hm, h0]
  unfold SysClock.normDuration SysClock.second
  simp only [hb]
  split
  · exact hk
  · exact hm

/-- **`(*SystemClock).Adjust`**: same state (the registered slew with the allocation's identity, the
    whole-second duration, `afterFreq`), same actions (`setFrequency` with
    `frequency + offset.Seconds()/duration.Seconds()`, then the goroutine's start), the same panic. -/
theorem C19_leaf_clock_Adjust (c : S_SystemClock) (o d : Int64) (f : F64.F64) (w : Go.World) (p : List SysClock.Adj) :
    match SysClock.adjust (sc c w p) o.toInt d.toInt f with
    | .ok s acts => ∃ c' w' a, clocks_SystemClock_Adjust c o d f w false = .ok (c', w') ∧
        s.pending = p ++ [a] ∧ sc c' w' (p ++ [a]) = s ∧ w'.acts = w.acts ++ acts.flatMap enc
    | .panic _ _ _ => clocks_SystemClock_Adjust c o d f w false = .panic "invalid duration value" := by
  by_cases hd : d < 0
  · have hd' := (lt_zero_iff d).mp hd
    simp [SysClock.adjust, hd', clocks_SystemClock_Adjust, hd]
  · have hd' := mt (lt_zero_iff d).mpr hd
    have hn := norm_eq d hd
    simp only [SysClock.adjust, hd', if_false, clocks_SystemClock_Adjust, hd, decide_false, Bool.false_eq_true,
      setFrequency_ok, Go.Out.bind, Go.World.alloc, Go.World.act]
    refine ⟨_, _, _, rfl, rfl, ?_, ?_⟩
    · simp only [sc, adjOf, Option.map, hn]
      cases c.adjustment <;> rfl
    · simp only [List.flatMap_cons, List.flatMap_nil, enc, List.append_nil, List.singleton_append,
        SysClock.slewFrequency, ← hn, Go.Ref.id?, Option.map, goName, sc, List.append_assoc]

/-- **The goroutine `Adjust` starts** (`sleep(log, adj.duration)`, then under the clock's mutex
    `if adj == adj.clock.adjustment { setFrequency(log, adj.afterFreq) }`) against `SysClock.expire`:
    for a started goroutine `r` it sleeps its duration and then performs exactly the model's actions —
    `afterFreq` is restored iff the registered adjustment is still THIS object (pointer identity). -/
theorem C19_leaf_clock_expire (c : S_SystemClock) (r : Go.Ref S_adjustment) (w : Go.World) (p : List SysClock.Adj)
    (hp : p.find? (fun a => a.id = r.id) = some (adjOf r)) :
    ∃ acts w', SysClock.expire (sc c w p) r.id =
        some (.ok { sc c w p with pending := p.filter (fun b => b.id ≠ r.id) } acts) ∧
      clocks_SystemClock_Adjust_go c (some r) w false = .ok w' ∧
      w'.acts = w.acts ++ [.sleep r.val.duration] ++ acts.flatMap enc ∧ w'.heap = w.heap := by
  cases hadj : c.adjustment with
  | none =>
    refine ⟨[], { w with acts := w.acts ++ [.sleep r.val.duration] }, ?_, ?_, ?_, rfl⟩
    · simp [SysClock.expire, sc, hp, hadj]
    · simp [clocks_SystemClock_Adjust_go, Go.Ref.deref?, Go.Out.ofOption, Go.Out.bind, hadj, Go.Ref.same, Go.Ref.id?,
        Go.World.act]
    · simp
  | some cur =>
    by_cases hid : cur.id = r.id
    · refine ⟨[.setFrequency r.val.afterFreq],
        { w with acts := w.acts ++ [.sleep r.val.duration] ++ [.clockAdjtime 0 (freqTimex r.val.afterFreq)] }, ?_, ?_, ?_, rfl⟩
      · simp [SysClock.expire, sc, hp, hadj, adjOf, hid]
      · simp [clocks_SystemClock_Adjust_go, Go.Ref.deref?, Go.Out.ofOption, Go.Out.bind, hadj, Go.Ref.same,
          Go.Ref.id?, hid, setFrequency_ok, Go.World.act]
      · simp [enc]
    · refine ⟨[], { w with acts := w.acts ++ [.sleep r.val.duration] }, ?_, ?_, ?_, rfl⟩
      · simp [SysClock.expire, sc, hp, hadj, adjOf, hid]
      · have hid' : ¬ r.id = cur.id := fun h => hid h.symm
        simp [clocks_SystemClock_Adjust_go, Go.Ref.deref?, Go.Out.ofOption, Go.Out.bind, hadj, Go.Ref.same,
          Go.Ref.id?, hid', Go.World.act]
      · simp

/-- a nil adjustment handed to the goroutine would be a nil dereference (never happens: `Adjust`
    passes the pointer it has just stored) -/
theorem C19_leaf_clock_expire_nil (c : S_SystemClock) (w : Go.World) :
    clocks_SystemClock_Adjust_go c none w false = .panic "nil dereference" := rfl

theorem C19_leaf_clock_Sleep (c : S_SystemClock) (d : Int64) (w : Go.World) (p : List SysClock.Adj) :
    match SysClock.sleep (sc c w p) d.toInt with
    | .ok _ acts => ∃ w', clocks_SystemClock_Sleep c d w = .ok w' ∧ w'.acts = w.acts ++ acts.flatMap enc ∧ w'.heap = w.heap
    | .panic _ _ _ => clocks_SystemClock_Sleep c d w = .panic "invalid duration value" := by
  by_cases hd : d < 0
  · have hd' := (lt_zero_iff d).mp hd
    simp [SysClock.sleep, hd', clocks_SystemClock_Sleep, hd]
  · have hd' := mt (lt_zero_iff d).mpr hd
    simp [SysClock.sleep, hd', clocks_SystemClock_Sleep, hd, Go.World.act, enc, Int64.ofInt_toInt]

def c0 : S_SystemClock := { drift := F64.ofInt 0, epoch := 0, adjustment := none }
def w0 : Go.World := { heap := 0, acts := [] }

/-- `Step(-1 ns)`: the kernel gets `{Sec: -1, Usec: 999999999}` in nanosecond mode; the epoch is 1 -/
example : (match clocks_SystemClock_Step c0 (-1) w0 false false with
    | .ok (c, w) => some (c.epoch, c.adjustment.isNone, w)
    | _ => none) =
    some (1, true, { heap := 0, acts := [.clockAdjtime 0 { Modes := 0x2100, Time := (-1, 999999999) }] }) := by
  decide +kernel

/-- `Adjust(8 ms, 16.5 s, 0)`: frequency 8 ms / 16 s = 500 ppm = 32768000 scaled ppm, the slew is
    registered as object 0 with 16 s, the goroutine is started with it; the goroutine, run on that
    state, sleeps 16 s and restores frequency 0; run after a `Step` it only sleeps. -/
def demoAdj := clocks_SystemClock_Adjust c0 8000000 16500000000 (F64.ofInt 0) w0 false

example : (match demoAdj with
    | .ok (c, w) => some (c.adjustment.map (fun r => (r.id, r.val.duration)), w.heap, w.acts)
    | _ => none) =
    some (some (0, 16000000000), 1,
      [.clockAdjtime 0 { Modes := 2, Freq := 32768000 }, .spawn goName [some 0]]) := by
  decide +kernel

example : (match demoAdj with
    | .ok (c, w) => (match clocks_SystemClock_Adjust_go c c.adjustment { w with acts := [] } false with
        | .ok w' => some w'.acts | _ => none)
    | _ => none) = some [.sleep 16000000000, .clockAdjtime 0 { Modes := 2, Freq := 0 }] := by
  decide +kernel

example : (match demoAdj with
    | .ok (c, w) => (match clocks_SystemClock_Adjust_go { c with adjustment := none } c.adjustment { w with acts := [] } false with
        | .ok w' => some w'.acts | _ => none)
    | _ => none) = some [.sleep 16000000000] := by
  decide +kernel

end ScionTime.LeafTieC19Clock
