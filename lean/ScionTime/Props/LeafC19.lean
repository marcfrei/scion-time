/-
  Kernel-checked tie (C19): `(*Pll).Do` of core/sync/adjustments/pll.go as regenerated from
  /repo's Go source on every run (Gen/Leaf.lean, leaf translator: tagged switch, `l.mode++`,
  `l.clk.Epoch()` (twice) / `l.clk.Now()` as parameters — one per CALL SITE —, `math.Pow` as a
  function-typed parameter applied to the translated arguments of each call site,
  `l.clk.Step` / `l.clk.Adjust` as recorded actions, the four panics as `none`, log statements
  skipped) agrees with the hand-written model `Pll.step` that every C19 theorem is about: same new
  state, same calls on the clock in the same order, panic exactly when the model panics.

  PROVED (`C19_leaf_Do`), for ALL inputs (both epoch readings, every function `pf` for math.Pow):
      ∀ l off w e1 e2 now pf, let (l', e') := readEpoch l e1 e2
        Agree (adjustments_Pll_Do l off w e1 e2 now pf)
              (Pll.step (pl l') e'.toNat now off.toInt w (pf stiffenRate (dtOf l now)))
  `C19_leaf_Do_stable` is the case e1 = e2 (then l' = l up to the model's own epoch test),
  `C19_leaf_Do_pow_args` says the code uses `pf` only at `(stiffenRate, dt)`,
  `C19_leaf_Do_two_readings` reduces two different readings to one.
  — every mode (start-up, awaiting step, awaiting PLL, tracking, unexpected), the epoch test, all
  three gain regimes of the tracking mode (weight < 50, < 150, the stiffening with `math.Pow`), the
  integrator, the clamp to ±500 ppm × ⌈dt⌉, `timemath.Duration`, the `d > 0` guard of `Adjust`, the
  three clock panics and the default panic.

  How: the generated definition is cut, by `rfl` (`do_pieces`), into the pieces the model is made
  of (`gSync`, `gMode0..3`, `gGains`, `gTrack`, `gFinish`), the model likewise (`step_pieces`), and
  each piece is proved equal to its counterpart by a case split of at most four conditions. A change
  of `Pll.Do` in /repo changes Gen/Leaf.lean; then `do_pieces` (shape) or a piece lemma (content) no
  longer checks.
-/
import ScionTime.Gen.Leaf
import ScionTime.Model.Pll
import ScionTime.Proofs.GoPrelude
namespace ScionTime.LeafTieC19
open ScionTime ScionTime.Gen.Leaf ScionTime.GoLemmas ScionTime.Pll

def pl (l : S_Pll) : State :=
  { epoch := l.epoch.toNat, mode := l.mode.toNat, t0 := l.t0, t := l.t, a := l.a, b := l.b, i := l.i }

def act : Go.ClkAction → Action
  | .step o => .step o.toInt
  | .adjust o d f => .adjust o.toInt d.toInt f

theorem inv_eq (d : Int64) : (timemath_Inv d).toInt = inv d.toInt := by
  unfold timemath_Inv inv minI64 maxI64
  by_cases h : d = Int64.minValue
  · subst h; decide
  · have h' : (d == (-9223372036854775808 : Int64)) = false := beq_eq_false_iff_ne.mpr h
    simp only [h', Bool.false_eq_true, if_false, (Int64Arith.neg_toInt h).1, (Int64Arith.neg_toInt h).2]

theorem abs_eq (d : Int64) : (Go.Duration.abs d).toInt = durAbs d.toInt := by
  unfold Go.Duration.abs durAbs minI64 maxI64
  by_cases h0 : d.toInt ≥ 0
  · simp [h0]
  · by_cases h : d = Int64.minValue
    · subst h; decide
    · have h' : (d == Int64.minValue) = false := beq_eq_false_iff_ne.mpr h
      simp only [h0, h', Bool.false_eq_true, if_false, (Int64Arith.neg_toInt h).1, (Int64Arith.neg_toInt h).2]

theorem sub_eq (t u : Int) : (Go.Time.sub t u).toInt = timeSub t u := by
  unfold Go.Time.sub timeSub minI64 maxI64
  simp only
  by_cases h1 : t - u < -9223372036854775808
  · simp only [h1, if_true]; decide
  · by_cases h2 : t - u > 9223372036854775807
    · simp only [h1, h2, if_true, if_false]; decide
    · simp only [h1, h2, if_false]
      apply Int64.toInt_ofInt_of_le <;> omega

theorem dur_eq (x : F64.F64) : (timemath_Duration x).toInt = F64.toDuration x := by
  unfold timemath_Duration F64.toDuration
  exact ofInt_toInt64 _

theorem k0 : F64.ofInt 0 = fzero := by decide +kernel
theorem k3 : F64.ofInt 3 = wStep := by decide +kernel
theorem k50 : F64.ofInt 50 = wLow := by decide +kernel
theorem k150 : F64.ofInt 150 = wHigh := by decide +kernel
theorem k60 : F64.ofInt 60 = iInit := by decide +kernel
theorem c2s : ((2 : Int64) * (1000000000 : Int64)).toInt = stepWait := by decide
theorem c6s : ((6 : Int64) * (1000000000 : Int64)).toInt = pllWait := by decide
theorem c1ms : ((1 : Int64) * (1000000 : Int64)).toInt = stepThreshold := by decide
theorem c300 : (300000000000 : Int64).toInt = captureTime := by decide
theorem c0i : (0 : Int64).toInt = 0 := by decide

-- the literal `5e-4` is two constants of the model, so these two point from the model to the literal
theorem rbLow : bLow = F64.ofConst 1 2000 := by decide +kernel
theorem rslewPos : slewPos = F64.ofConst 1 2000 := by decide +kernel
theorem kaMid : F64.ofConst 3 50 = aMid := by decide +kernel
theorem kNeg : F64.ofConst (-1) 2000 = slewNeg := by decide +kernel
theorem kPInit : F64.ofConst 33 100 = pInit := rfl
theorem kaLow : F64.ofConst 3 100 = aLow := rfl
theorem kbMid : F64.ofConst 1 1000 = bMid := rfl

/-- the tag of the `switch l.mode` and the model's mode test -/
theorem mode_beq (l : S_Pll) (k : Nat) (hk : k < 4) : (l.mode == UInt64.ofNat k) = true ↔ (pl l).mode = k := by
  have hk' : (UInt64.ofNat k).toNat = k := by rw [UInt64.toNat_ofNat']; omega
  rw [beq_iff_eq]
  exact ⟨fun h => by rw [← hk', ← h]; rfl, fun h => UInt64.toNat_inj.mp (by rw [hk']; exact h)⟩

/-- the generated result and the model's outcome say the same -/
def Agree : Option (S_Pll × List Go.ClkAction) → Outcome → Prop
  | none, .panic _ => True
  | some (l', acts), .ok s a => s = pl l' ∧ a = acts.map act
  | _, _ => False

theorem agree_some {l' : S_Pll} {acts : List Go.ClkAction} {o : Outcome} (h : Agree (some (l', acts)) o) :
    o = .ok (pl l') (acts.map act) := by
  cases o with
  | panic k => exact h.elim
  | ok s a => rw [h.1, h.2]

theorem agree_none {o : Outcome} (h : Agree none o) : ∃ k, o = .panic k := by
  cases o with
  | panic k => exact ⟨k, rfl⟩
  | ok s a => exact h.elim

theorem agree_ok {r : Option (S_Pll × List Go.ClkAction)} {s : State} {a : List Action} (h : Agree r (.ok s a)) :
    ∃ l' acts, r = some (l', acts) ∧ s = pl l' ∧ a = acts.map act := by
  cases r with
  | none => exact h.elim
  | some r => exact ⟨r.1, r.2, rfl, h.1, h.2⟩

/-- the same test on both sides -/
theorem Agree.ite {c : Prop} {d1 d2 : Decidable c} {g g' : Option (S_Pll × List Go.ClkAction)} {m m' : Outcome}
    (h : c → Agree g m) (h' : ¬ c → Agree g' m') : Agree (@ite _ c d1 g g') (@ite _ c d2 m m') := by
  by_cases hc : c
  · rw [if_pos hc, if_pos hc]; exact h hc
  · rw [if_neg hc, if_neg hc]; exact h' hc

theorem gz : F64.gt fzero fzero = false := by decide +kernel

theorem uint64_ne (a b : UInt64) (h : (a != b) = true) : a.toNat ≠ b.toNat := by
  rw [bne_iff_ne] at h; exact fun hh => h (UInt64.toNat_inj.mp hh)

/-- the epoch test at the top of `Do`: `if l.epoch != l.clk.Epoch() { l.epoch = l.clk.Epoch(); l.mode = 0 }`
    — TWO readings of the clock's epoch (`e1` compared, `e2` stored), each a parameter of its own -/
def gSync (l : S_Pll) (e1 e2 : UInt64) : S_Pll :=
  if (l.epoch != e1) then
    let l : S_Pll := { l with epoch := e2 }
    let l : S_Pll := { l with mode := (0 : UInt64) }
    l
  else
    l

/-- `stiffenRate = 0.999`, the first argument of both `math.Pow` calls -/
def stiffenRate : F64.F64 := F64.ofConst 999 1000

/-- `dt = now.Sub(l.t).Seconds()`, the second argument of both `math.Pow` calls -/
def dtOf (l : S_Pll) (now : Int) : F64.F64 := F64.durationSeconds (timeSub now l.t)

/-- the tail after the switch: `l.t = now`, `if d > 0.0 { l.clk.Adjust(…) }` -/
def gFinish (l : S_Pll) (now : Int) (p d : F64.F64) (acts : List Go.ClkAction) :
    Option (S_Pll × List Go.ClkAction) :=
  let l : S_Pll := { l with t := now }
  let acts :=
    if (F64.gt d (F64.ofInt 0)) then
      let acts : List Go.ClkAction := acts ++ [(Go.ClkAction.adjust (timemath_Duration p) (timemath_Duration d) l.i)]
      acts
    else
      acts
  some ((l, acts))

/-- the gain selection of `case 3` -/
def gGains (l : S_Pll) (mdt : Int64) (weight : F64.F64) (ext_Pow : F64.F64 → F64.F64 → F64.F64) (dt : F64.F64) :
    F64.F64 × F64.F64 × S_Pll :=
  if (F64.lt weight (F64.ofInt 50)) then
    let a : F64.F64 := (F64.ofConst (3) 100)
    let b : F64.F64 := (F64.ofConst (1) 2000)
    (a, b, l)
  else
    let (a, b, l) :=
      if (F64.lt weight (F64.ofInt 150)) then
        let a : F64.F64 := (F64.ofConst (3) 50)
        let b : F64.F64 := (F64.ofConst (1) 1000)
        (a, b, l)
      else
        let l :=
          if ((decide (mdt > (300000000000 : Int64))) && (F64.gt l.a (F64.ofConst (3) 100))) then
            let l : S_Pll := { l with a := (F64.mul l.a (ext_Pow (F64.ofConst (999) 1000) dt)) }
            let l : S_Pll := { l with b := (F64.mul l.b (ext_Pow (F64.ofConst (999) 1000) dt)) }
            l
          else
            l
        let a : F64.F64 := l.a
        let b : F64.F64 := l.b
        (a, b, l)
    (a, b, l)

/-- `case 3` after the gain selection: p, d, the integrator, the clamp, the tail -/
def gTrack (l : S_Pll) (a b dt : F64.F64) (offset : Int64) (now : Int) : Option (S_Pll × List Go.ClkAction) :=
  let p : F64.F64 := (F64.mul (F64.durationSeconds ((timemath_Inv offset)).toInt) a)
  let d : F64.F64 := (F64.ceil dt)
  let l : S_Pll := { l with i := (F64.add l.i (F64.mul p b)) }
  let p :=
    if (F64.gt p (F64.mul d (F64.ofConst (1) 2000))) then
      let p : F64.F64 := (F64.mul d (F64.ofConst (1) 2000))
      p
    else
      p
  let p :=
    if (F64.lt p (F64.mul d (F64.ofConst (-1) 2000))) then
      let p : F64.F64 := (F64.mul d (F64.ofConst (-1) 2000))
      p
    else
      p
  gFinish l now p d []

def gMode0 (l : S_Pll) (now : Int) : Option (S_Pll × List Go.ClkAction) :=
  let l : S_Pll := { l with t0 := now }
  let l : S_Pll := { l with mode := l.mode + (1 : UInt64) }
  gFinish l now (F64.ofInt 0) (F64.ofInt 0) []

def gMode1 (l : S_Pll) (offset : Int64) (weight : F64.F64) (now : Int) : Option (S_Pll × List Go.ClkAction) :=
  let mdt : Int64 := (Go.Time.sub now l.t0)
  if (decide (mdt < (0 : Int64))) then
    none
  else
    let (acts, l) :=
      if ((decide (mdt > ((2 : Int64) * (1000000000 : Int64)))) && (F64.gt weight (F64.ofInt 3))) then
        let acts :=
          if (decide ((Go.Duration.abs offset) > ((1 : Int64) * (1000000 : Int64)))) then
            let acts : List Go.ClkAction := [] ++ [(Go.ClkAction.step (timemath_Inv offset))]
            acts
          else
            []
        let l : S_Pll := { l with t0 := now }
        let l : S_Pll := { l with mode := l.mode + (1 : UInt64) }
        (acts, l)
      else
        ([], l)
    gFinish l now (F64.ofInt 0) (F64.ofInt 0) acts

def gMode2 (l : S_Pll) (now : Int) : Option (S_Pll × List Go.ClkAction) :=
  let mdt : Int64 := (Go.Time.sub now l.t0)
  if (decide (mdt < (0 : Int64))) then
    none
  else
    let l :=
      if (decide (mdt > ((6 : Int64) * (1000000000 : Int64)))) then
        let l : S_Pll := { l with a := (F64.ofConst (33) 100) }
        let l : S_Pll := { l with b := (F64.div l.a (F64.ofInt 60)) }
        let l : S_Pll := { l with t0 := now }
        let l : S_Pll := { l with mode := l.mode + (1 : UInt64) }
        l
      else
        l
    gFinish l now (F64.ofInt 0) (F64.ofInt 0) []

def gMode3 (l : S_Pll) (offset : Int64) (weight : F64.F64) (now : Int) (pw : F64.F64 → F64.F64 → F64.F64) :
    Option (S_Pll × List Go.ClkAction) :=
  let mdt : Int64 := (Go.Time.sub now l.t0)
  if (decide (mdt < (0 : Int64))) then
    none
  else
    let dt : F64.F64 := (F64.durationSeconds ((Go.Time.sub now l.t)).toInt)
    if (F64.lt dt (F64.ofInt 0)) then
      none
    else
      let (a, b, l) := gGains l mdt weight pw dt
      gTrack l a b dt offset now

/-- The generated `(*Pll).Do` IS the composition of the pieces above — definitional equality,
    re-checked against the regenerated definition on every run. -/
theorem do_pieces (l : S_Pll) (off : Int64) (w : F64.F64) (e1 e2 : UInt64) (now : Int)
    (pw : F64.F64 → F64.F64 → F64.F64) :
    adjustments_Pll_Do l off w e1 e2 now pw =
      (let offset := timemath_Inv off
       let l := gSync l e1 e2
       if (l.mode == (0 : UInt64)) then gMode0 l now
       else if (l.mode == (1 : UInt64)) then gMode1 l offset w now
       else if (l.mode == (2 : UInt64)) then gMode2 l now
       else if (l.mode == (3 : UInt64)) then gMode3 l offset w now pw
       else none) := by
  -- with the pieces unfolded first the two sides coincide up to `let`; a bare `rfl` makes the
  -- unifier evaluate the float comparisons on the way
  delta adjustments_Pll_Do gMode0 gMode1 gMode2 gMode3 gTrack gGains gFinish gSync
  rfl

theorem pl_sync (l : S_Pll) (e : UInt64) : pl (gSync l e e) = syncEpoch (pl l) e.toNat := by
  unfold gSync syncEpoch
  by_cases he : (l.epoch != e) = true
  · have he' : (pl l).epoch ≠ e.toNat := uint64_ne _ _ he
    rw [if_pos he, if_pos he']; rfl
  · have heq : l.epoch = e := by simpa using he
    have he' : ¬ (pl l).epoch ≠ e.toNat := by simp [pl, heq]
    rw [if_neg he, if_neg he']

theorem finish_agree (l : S_Pll) (now : Int) (p d : F64.F64) (acts : List Go.ClkAction) :
    Agree (gFinish l now p d acts) (finish (pl l) now p d (acts.map act)) := by
  unfold gFinish finish
  rw [k0]
  by_cases hd : F64.gt d fzero = true
  · simp only [hd, if_true, Agree, pl, act, dur_eq, List.map_append, List.map_cons, List.map_nil, and_self]
  · simp only [hd, if_false, Agree, pl, Bool.false_eq_true, and_self]

/-- `l.mode++` below 3 does not wrap -/
theorem mode_succ (l : S_Pll) (h : (pl l).mode < 3) : (l.mode + 1).toNat = l.mode.toNat + 1 := by
  have h' : l.mode.toNat < 3 := h
  rw [UInt64.toNat_add, show (1 : UInt64).toNat = 1 from rfl]
  omega

theorem gains_agree (l : S_Pll) (mdt : Int64) (w : F64.F64) (pf : F64.F64 → F64.F64 → F64.F64) (dt : F64.F64) :
    gains (pl l) mdt.toInt w (pf stiffenRate dt) =
      (pl (gGains l mdt w pf dt).2.2, (gGains l mdt w pf dt).1, (gGains l mdt w pf dt).2.1) := by
  unfold gGains gains stiffenRate
  generalize pf (F64.ofConst 999 1000) dt = pw
  rw [k50, k150, kaMid, kaLow, kbMid]
  by_cases h50 : F64.lt w wLow = true
  · simp only [h50, if_true, rbLow]
  · by_cases h150 : F64.lt w wHigh = true
    · simp only [h50, h150, if_true, if_false, Bool.false_eq_true]
    · have hc : (decide (mdt > (300000000000 : Int64)) && F64.gt l.a aLow) =
          decide (mdt.toInt > captureTime ∧ F64.gt l.a pLimit = true) := by
        rw [Bool.eq_iff_iff]
        simp only [Bool.and_eq_true, decide_eq_true_eq, gt_iff_lt, Int64.lt_iff_toInt_lt, c300]
        exact Iff.rfl
      by_cases hs : (mdt.toInt > captureTime ∧ F64.gt l.a pLimit = true)
      · rw [decide_eq_true hs] at hc
        simp only [h50, h150, if_false, Bool.false_eq_true, hc, if_true, pl, hs, and_self]
      · rw [decide_eq_false hs] at hc
        simp only [h50, h150, if_false, Bool.false_eq_true, hc, pl, hs]

theorem track_agree (l : S_Pll) (a b dt : F64.F64) (offset : Int64) (now : Int) :
    Agree (gTrack l a b dt offset now)
      (finish { pl l with i := F64.add (pl l).i (F64.mul (F64.mul (F64.durationSeconds (inv offset.toInt)) a) b) }
        now (clamp (F64.mul (F64.durationSeconds (inv offset.toInt)) a) (F64.ceil dt)) (F64.ceil dt) []) := by
  have h := finish_agree
    { l with i := F64.add l.i (F64.mul (F64.mul (F64.durationSeconds (inv offset.toInt)) a) b) } now
    (clamp (F64.mul (F64.durationSeconds (inv offset.toInt)) a) (F64.ceil dt)) (F64.ceil dt) []
  unfold gTrack
  rw [inv_eq, ← rslewPos, kNeg]
  exact h

/-- `case 3` of the model, as a function of the state after the epoch test -/
def mMode3 (s : State) (now : Int) (offset : Int) (w pw : F64.F64) : Outcome :=
  let mdt := timeSub now s.t0
  if mdt < 0 then .panic .clock
  else
    let dt := F64.durationSeconds (timeSub now s.t)
    if F64.lt dt fzero then .panic .clock
    else track s now mdt dt offset w pw

theorem mode3_agree (l : S_Pll) (offset : Int64) (w : F64.F64) (now : Int) (pf : F64.F64 → F64.F64 → F64.F64) :
    Agree (gMode3 l offset w now pf) (mMode3 (pl l) now offset.toInt w (pf stiffenRate (dtOf l now))) := by
  unfold gMode3 mMode3 dtOf
  simp only [Int64.lt_iff_toInt_lt, sub_eq, c0i, k0, decide_eq_true_eq]
  have ht0 : (pl l).t0 = l.t0 := rfl
  have ht : (pl l).t = l.t := rfl
  rw [ht0, ht]
  refine .ite (fun _ => trivial) fun _ => .ite (fun _ => trivial) fun _ => ?_
  have hg := gains_agree l (Go.Time.sub now l.t0) w pf (F64.durationSeconds (timeSub now l.t))
  rw [sub_eq] at hg
  unfold track
  rw [hg]
  exact track_agree _ _ _ _ offset now

def mMode0 (s : State) (now : Int) : Outcome :=
  finish { s with t0 := now, mode := s.mode + 1 } now fzero fzero []

def mMode1 (s : State) (now : Int) (offset : Int) (w : F64.F64) : Outcome :=
  let mdt := timeSub now s.t0
  if mdt < 0 then .panic .clock
  else if mdt > stepWait ∧ F64.gt w wStep = true then
    let acts := if durAbs offset > stepThreshold then [Action.step (inv offset)] else []
    finish { s with t0 := now, mode := s.mode + 1 } now fzero fzero acts
  else finish s now fzero fzero []

def mMode2 (s : State) (now : Int) : Outcome :=
  let mdt := timeSub now s.t0
  if mdt < 0 then .panic .clock
  else if mdt > pllWait then
    finish { s with a := pInit, b := F64.div pInit iInit, t0 := now, mode := s.mode + 1 } now fzero fzero []
  else finish s now fzero fzero []

/-- the model's `step` is the same composition (definitional) -/
theorem step_pieces (s : State) (e : Nat) (now off : Int) (w pw : F64.F64) :
    step s e now off w pw =
      (let offset := inv off
       let s := syncEpoch s e
       if s.mode = 0 then mMode0 s now
       else if s.mode = 1 then mMode1 s now offset w
       else if s.mode = 2 then mMode2 s now
       else if s.mode = 3 then mMode3 s now offset w pw
       else .panic .mode) := rfl

theorem finish0_agree (l : S_Pll) (now : Int) (acts : List Go.ClkAction) :
    Agree (gFinish l now (F64.ofInt 0) (F64.ofInt 0) acts) (finish (pl l) now fzero fzero (acts.map act)) := by
  have h := finish_agree l now (F64.ofInt 0) (F64.ofInt 0) acts
  rwa [k0] at h

theorem pl_next_mode (l : S_Pll) (now : Int) (a b : F64.F64) (h : (pl l).mode < 3) :
    pl { l with a := a, b := b, t0 := now, mode := l.mode + 1 } =
      { pl l with a := a, b := b, t0 := now, mode := (pl l).mode + 1 } := by
  simp only [pl, mode_succ l h]

theorem mode0_agree (l : S_Pll) (now : Int) (hm : (pl l).mode = 0) :
    Agree (gMode0 l now) (mMode0 (pl l) now) := by
  have h := finish0_agree { l with t0 := now, mode := l.mode + 1 } now []
  rwa [pl_next_mode l now _ _ (by omega)] at h

theorem mode1_agree (l : S_Pll) (offset : Int64) (w : F64.F64) (now : Int) (hm : (pl l).mode = 1) :
    Agree (gMode1 l offset w now) (mMode1 (pl l) now offset.toInt w) := by
  unfold gMode1 mMode1
  simp only [Int64.lt_iff_toInt_lt, sub_eq, c0i, c2s, c1ms, k3, gt_iff_lt, decide_eq_true_eq, abs_eq,
    Bool.and_eq_true, List.nil_append]
  have ht0 : (pl l).t0 = l.t0 := rfl
  rw [ht0]
  refine .ite (fun _ => trivial) fun _ => ?_
  by_cases h2 : stepWait < timeSub now l.t0 ∧ F64.gt w wStep = true
  · rw [if_pos h2, if_pos h2]
    have h := finish0_agree { l with t0 := now, mode := l.mode + 1 } now
      (if stepThreshold < durAbs offset.toInt then [.step (timemath_Inv offset)] else [])
    rw [pl_next_mode l now _ _ (by omega), apply_ite (List.map act)] at h
    simp only [List.map_cons, List.map_nil, act, inv_eq] at h
    exact h
  · rw [if_neg h2, if_neg h2]
    exact finish0_agree l now []

theorem mode2_agree (l : S_Pll) (now : Int) (hm : (pl l).mode = 2) :
    Agree (gMode2 l now) (mMode2 (pl l) now) := by
  unfold gMode2 mMode2
  simp only [Int64.lt_iff_toInt_lt, sub_eq, c0i, c6s, gt_iff_lt, decide_eq_true_eq, kPInit, k60]
  have ht0 : (pl l).t0 = l.t0 := rfl
  rw [ht0]
  refine .ite (fun _ => trivial) fun _ => ?_
  by_cases h2 : pllWait < timeSub now l.t0
  · rw [if_pos h2, if_pos h2]
    have h := finish0_agree { l with a := pInit, b := F64.div pInit iInit, t0 := now, mode := l.mode + 1 } now []
    rwa [pl_next_mode l now _ _ (by omega)] at h
  · rw [if_neg h2, if_neg h2]
    exact finish0_agree l now []

theorem gSync_t (l : S_Pll) (e1 e2 : UInt64) : (gSync l e1 e2).t = l.t := by
  unfold gSync; split <;> rfl

/-- **The tie when both epoch readings agree**: the regenerated `(*Pll).Do` and the model `Pll.step`
    agree on every state, offset, weight, clock epoch, clock reading and EVERY function standing for
    `math.Pow`; the model's `pow` input is that function **at the arguments the code passes**:
    `stiffenRate` and `dt = now.Sub(l.t).Seconds()`, at both call sites. -/
theorem C19_leaf_Do_stable (l : S_Pll) (off : Int64) (w : F64.F64) (e : UInt64) (now : Int)
    (pf : F64.F64 → F64.F64 → F64.F64) :
    Agree (adjustments_Pll_Do l off w e e now pf)
      (step (pl l) e.toNat now off.toInt w (pf stiffenRate (dtOf l now))) := by
  rw [do_pieces, step_pieces]
  simp only
  rw [← pl_sync, ← inv_eq, show dtOf l now = dtOf (gSync l e e) now by unfold dtOf; rw [gSync_t]]
  generalize gSync l e e = l'
  -- both cascades now branch on the same four propositions
  rw [show (0 : UInt64) = UInt64.ofNat 0 from rfl, show (1 : UInt64) = UInt64.ofNat 1 from rfl,
    show (2 : UInt64) = UInt64.ofNat 2 from rfl, show (3 : UInt64) = UInt64.ofNat 3 from rfl]
  simp only [mode_beq l' 0 (by omega), mode_beq l' 1 (by omega), mode_beq l' 2 (by omega),
    mode_beq l' 3 (by omega)]
  exact .ite (mode0_agree l' now) fun _ => .ite (mode1_agree l' _ w now) fun _ =>
    .ite (mode2_agree l' now) fun _ => .ite (fun _ => mode3_agree l' _ w now pf) fun _ => trivial

/-- What the two readings of `l.clk.Epoch()` amount to: the receiver after the epoch test and the
    epoch the rest of `Do` runs under. -/
def readEpoch (l : S_Pll) (e1 e2 : UInt64) : S_Pll × UInt64 :=
  if (l.epoch != e1) then ({ l with epoch := e2, mode := 0 }, e2) else (l, e1)

theorem gSync_read (l : S_Pll) (e1 e2 : UInt64) :
    gSync l e1 e2 = gSync (readEpoch l e1 e2).1 (readEpoch l e1 e2).2 (readEpoch l e1 e2).2 := by
  unfold gSync readEpoch
  by_cases he : (l.epoch != e1) = true
  · simp [he]
  · have heb : (l.epoch != e1) = false := by simpa using he
    simp [heb]

theorem readEpoch_t (l : S_Pll) (e1 e2 : UInt64) : (readEpoch l e1 e2).1.t = l.t := by
  unfold readEpoch; split <;> rfl

/-- `Do` with two different epoch readings is `Do` on the re-synchronised receiver under one. -/
theorem C19_leaf_Do_two_readings (l : S_Pll) (off : Int64) (w : F64.F64) (e1 e2 : UInt64) (now : Int)
    (pf : F64.F64 → F64.F64 → F64.F64) :
    adjustments_Pll_Do l off w e1 e2 now pf =
      adjustments_Pll_Do (readEpoch l e1 e2).1 off w (readEpoch l e1 e2).2 (readEpoch l e1 e2).2 now pf := by
  rw [do_pieces, do_pieces, ← gSync_read]

/-- **The tie, for all inputs** (no hypothesis): every state, offset, weight, every pair of epoch
    readings, every clock reading, every function standing for `math.Pow`. -/
theorem C19_leaf_Do (l : S_Pll) (off : Int64) (w : F64.F64) (e1 e2 : UInt64) (now : Int)
    (pf : F64.F64 → F64.F64 → F64.F64) :
    Agree (adjustments_Pll_Do l off w e1 e2 now pf)
      (step (pl (readEpoch l e1 e2).1) (readEpoch l e1 e2).2.toNat now off.toInt w (pf stiffenRate (dtOf l now))) := by
  rw [C19_leaf_Do_two_readings]
  have h := C19_leaf_Do_stable (readEpoch l e1 e2).1 off w (readEpoch l e1 e2).2 now pf
  have hdt : dtOf (readEpoch l e1 e2).1 now = dtOf l now := by unfold dtOf; rw [readEpoch_t]
  rw [hdt] at h
  exact h

/-- The tie for one epoch value and one `math.Pow` value: the special case of a stable
    epoch and a constant function. Props/C19Gen.lean works with this instance; by
    `C19_leaf_Do_pow_args` and `C19_leaf_Do_two_readings` every call is such an instance. -/
theorem C19_leaf_Do_const (l : S_Pll) (off : Int64) (w : F64.F64) (e : UInt64) (now : Int) (pw : F64.F64) :
    Agree (adjustments_Pll_Do l off w e e now (fun _ _ => pw)) (step (pl l) e.toNat now off.toInt w pw) :=
  C19_leaf_Do_stable l off w e now (fun _ _ => pw)

/-- **The arguments of `math.Pow` are pinned**: the generated `Do` depends on the function standing
    for `math.Pow` only through its value at `(stiffenRate, dt)`. A call site with other arguments
    (`Pow(stiffenRate, dt/2)`, `Pow(dt, stiffenRate)`, …) makes this false for the regenerated
    definition. -/
theorem C19_leaf_Do_pow_args (l : S_Pll) (off : Int64) (w : F64.F64) (e1 e2 : UInt64) (now : Int)
    (pf : F64.F64 → F64.F64 → F64.F64) :
    adjustments_Pll_Do l off w e1 e2 now pf =
      adjustments_Pll_Do l off w e1 e2 now (fun _ _ => pf stiffenRate (dtOf l now)) := by
  rw [do_pieces, do_pieces]
  have ht := gSync_t l e1 e2
  simp only
  generalize gSync l e1 e2 = l' at ht ⊢
  have h3 : gMode3 l' (timemath_Inv off) w now pf =
      gMode3 l' (timemath_Inv off) w now (fun _ _ => pf stiffenRate (dtOf l now)) := by
    simp only [gMode3, gGains, dtOf, stiffenRate, sub_eq, ht]
  rw [h3]

/-- non-vacuity: the generated definition steps the clock in the awaiting-step mode (a 5 ms offset,
    weight 1000, 3 s after the start of the epoch) … -/
example :
    (adjustments_Pll_Do { epoch := 7, mode := 1, t0 := 0, t := 0, a := fzero, b := fzero, i := fzero }
        5000000 (F64.ofInt 1000) 7 7 3000000000 (fun _ _ => F64.ofInt 1)).map (·.2) =
      some [Go.ClkAction.step 5000000] := by
  decide +kernel

/-- … and in the tracking mode with weight 1000 (the stiffening regime, 301 s after the start of
    tracking, `math.Pow` = 1/2) it halves both gains, and slews by the clamp: 1 s offset after 16 s
    gives `Adjust(8 ms, 16 s, ·)`. -/
def demoTrack : Option (S_Pll × List Go.ClkAction) :=
  adjustments_Pll_Do { epoch := 7, mode := 3, t0 := 0, t := 285000000000, a := pInit, b := bMid, i := fzero }
    1000000000 (F64.ofInt 1000) 7 7 301000000000 (fun _ _ => F64.ofConst 1 2)

example : demoTrack.map (fun r => r.2.map (fun a => match a with
    | .step o => [o] | .adjust o d _ => [o, d])) = some [[8000000, 16000000000]] := by decide +kernel
example : demoTrack.map (fun r => r.1.a) = some (F64.mul pInit (F64.ofConst 1 2)) := by decide +kernel
example : demoTrack.map (fun r => r.1.b) = some (F64.mul bMid (F64.ofConst 1 2)) := by decide +kernel

/-- non-vacuity of the argument pin: a function that is 1/2 at `(0.999, 16 s)` and 1 elsewhere halves
    the gains exactly as the constant function does; one that is 1/2 only at `(0.999, 8 s)` does not. -/
def powAt (x y : F64.F64) : F64.F64 → F64.F64 → F64.F64 :=
  fun a b => if a = x ∧ b = y then F64.ofConst 1 2 else F64.ofInt 1

example : (adjustments_Pll_Do { epoch := 7, mode := 3, t0 := 0, t := 285000000000, a := pInit, b := bMid, i := fzero }
    1000000000 (F64.ofInt 1000) 7 7 301000000000 (powAt stiffenRate (F64.ofInt 16))).map (fun r => r.1.a)
      = some (F64.mul pInit (F64.ofConst 1 2)) := by decide +kernel
example : (adjustments_Pll_Do { epoch := 7, mode := 3, t0 := 0, t := 285000000000, a := pInit, b := bMid, i := fzero }
    1000000000 (F64.ofInt 1000) 7 7 301000000000 (powAt stiffenRate (F64.ofInt 8))).map (fun r => r.1.a)
      = some (F64.mul pInit (F64.ofInt 1)) := by decide +kernel

/-- a second, different epoch reading is stored (and restarts the PLL) although the first matched
    nothing: epoch 7, readings 8 then 9 -/
example : (adjustments_Pll_Do { epoch := 7, mode := 3, t0 := 0, t := 0, a := pInit, b := bMid, i := fzero }
    0 (F64.ofInt 1) 8 9 5 (fun _ _ => F64.ofInt 1)).map (fun r => (r.1.epoch, r.1.mode)) = some (9, 1) := by
  decide +kernel

end ScionTime.LeafTieC19
