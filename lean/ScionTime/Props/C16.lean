/-
  C16 — a measurement round ends by its deadline, counts each result once, leaks nothing.

  Model: ScionTime/Model/Collect.lean — `collectMeasurements` as called by
  `(*ReferenceClockClient).MeasureClockOffsets` (core/client/client.go) as a transition system
  over the sender goroutines, the collector, the drain goroutine, the context's deadline timer
  and the virtual clock. Every theorem is for EVERY schedule (`List Choice`), every number of
  clocks, every completion time / outcome / ctx-awareness of each clock, every deadline and every
  prior content `ms0` of the result slice: `run (init t0 d senders ms0) sched = some s`.
  Invariants: ScionTime/Proofs/Collect.lean.
-/
import ScionTime.Proofs.Collect
namespace ScionTime.C16
open ScionTime.Collect

/-- A schedule that exercises most steps (3 clocks: one in time, one failing, one late and
    drained; deadline 10): the hypotheses of the theorems below are met by real runs. -/
def demoSenders : List Sender :=
  [{ id := 0, due := 3, ok := true, aware := false }, { id := 1, due := 5, ok := false, aware := false },
   { id := 2, due := 20, ok := true, aware := false }]
def demoMs0 : List Msg := [{ id := 90, ok := false }, { id := 91, ok := true }, { id := 92, ok := false }]
def demoSched : List Choice :=
  [.tick 3, .finish 0, .recv 0, .tick 5, .finish 1, .recv 1, .tick 10, .cancel, .observeCancel,
   .tick 20, .finish 2, .drain 2]

example : (run (init 0 10 demoSenders demoMs0) demoSched).map
    (fun s => (s.retAt, s.j, s.ms.map (·.id), s.phase, s.drained.map (·.id), s.sending.length)) =
    some (10, 1, [0, 91, 92], .done 0, [2], 0) := by decide

/-- front_once: at every point of every schedule (in particular on return) the first `j`
    entries of the result slice are exactly the successful results the collector has received,
    each once, in arrival order; `j` is their number and `i` the number of all results received;
    the entries from `j` on are what the caller left there (`ms0`) — untouched, stale. -/
theorem C16_front_once {t0 d : Int} {senders : List Sender} {ms0 : List Msg}
    (hlen : ms0.length = senders.length) {sched : List Choice} {s : St}
    (hr : run (init t0 d senders ms0) sched = some s) :
    s.ms.take s.j = s.received.filter (·.ok) ∧
    s.ms.drop s.j = ms0.drop s.j ∧
    s.ms.length = senders.length ∧
    s.j = (s.received.filter (·.ok)).length ∧ s.i = s.received.length ∧ s.j ≤ s.i ∧ s.i ≤ senders.length := by
  obtain ⟨h, hn⟩ := inv_run hlen hr
  exact ⟨h.slice.front, h.slice.tail, by rw [h.slice.len, hn], h.slice.jEq, h.slice.iEq, h.slice.jLe,
    by rw [← hn]; exact h.slice.iLe⟩

/-- …each once: the received, drained, still-sending and still-measuring senders are together a
    permutation of the senders; with distinct sender ids no id occurs twice among the received
    results (so none twice in the front of the slice). -/
theorem C16_each_once {t0 d : Int} {senders : List Sender} {ms0 : List Msg}
    (hlen : ms0.length = senders.length) {sched : List Choice} {s : St}
    (hr : run (init t0 d senders ms0) sched = some s) :
    (s.received.map (·.id) ++ s.drained.map (·.id) ++ s.sending.map (·.id) ++ s.measuring.map (·.id)).Perm
      (senders.map (·.id)) ∧
    ((senders.map (·.id)).Nodup → (s.received.map (·.id)).Nodup ∧ ((s.ms.take s.j).map (·.id)).Nodup) := by
  have h := (inv_run hlen hr).1
  exact ⟨h.cons, h.received_nodup⟩

/-- The inner guard `if j != len(ms)` of the receive case never fails (`j ≤ i < n = len(ms)`
    whenever a receive is possible): removing it changes nothing (the change "drop the `j != len(ms)`
    guard" of DESIGN §8b is an equivalent mutant, not a missed one). -/
theorem C16_guard_never_blocks {t0 d : Int} {senders : List Sender} {ms0 : List Msg}
    (hlen : ms0.length = senders.length) {sched : List Choice} {s : St}
    (hr : run (init t0 d senders ms0) sched = some s) (hi : s.i ≠ s.n) : s.j ≠ s.ms.length := by
  have h := (inv_run hlen hr).1
  have := h.slice.jLe; have := h.slice.iLe; have := h.slice.len
  omega

/-- by_deadline (1): once the context is cancelled the collector never waits — while it is in
    its loop one of its two exits is enabled, and the clock cannot advance. -/
theorem C16_no_wait_after_cancel (s : St) (hp : s.phase = .loop) (hc : s.ctxDone = true) :
    ((step s .observeCancel).isSome ∨ (step s .retFull).isSome) ∧ ∀ t, step s (.tick t) = none := by
  constructor
  · by_cases hi : s.i = s.n
    · right; simp [step, hp, hi]
    · left; simp [step, hp, hi, hc]
  · intro t
    simp [step, busy, hp, hc]

/-- by_deadline (2): in every schedule `collectMeasurements` returns no later than the deadline
    (or at its entry instant, if the deadline had already passed), and while it is still in
    its loop the clock has not passed the deadline. -/
theorem C16_by_deadline {t0 d : Int} {senders : List Sender} {ms0 : List Msg}
    (hlen : ms0.length = senders.length) {sched : List Choice} {s : St}
    (hr : run (init t0 d senders ms0) sched = some s) :
    (s.phase = .loop → s.now ≤ max d t0) ∧ (∀ left, s.phase = .done left → s.retAt ≤ max d t0) := by
  have h := (inv_run hlen hr).1
  exact ⟨h.time.inLoop, h.time.ret⟩

/-- by_deadline (3): at most `n` receives happen in the whole round, whatever the schedule. -/
theorem C16_receives_bounded {t0 d : Int} {senders : List Sender} {ms0 : List Msg}
    (hlen : ms0.length = senders.length) {sched : List Choice} {s : St}
    (hr : run (init t0 d senders ms0) sched = some s) :
    s.received.length + s.drained.length ≤ senders.length := by
  obtain ⟨h, hn⟩ := inv_run hlen hr
  have := inv_count h
  omega

/-- no_leak (1): the drain goroutine is started with exactly the number of results still to
    come: after the return, `left = #sending + #measuring`. It neither exits early (leaving a
    sender blocked) nor waits for a result that will never be sent. -/
theorem C16_drain_exact {t0 d : Int} {senders : List Sender} {ms0 : List Msg}
    (hlen : ms0.length = senders.length) {sched : List Choice} {s : St}
    (hr : run (init t0 d senders ms0) sched = some s) {left : Nat} (hp : s.phase = .done left) :
    left = s.sending.length + s.measuring.length :=
  (inv_run hlen hr).1.drain_exact hp

/-- no_leak (2): a sender blocked on the channel always has a receiver — in every reachable
    state with a blocked sender, the collector or the drain goroutine can take a step
    (receive it, or return and start the drain goroutine). -/
theorem C16_no_leak_progress {t0 d : Int} {senders : List Sender} {ms0 : List Msg}
    (hlen : ms0.length = senders.length) {sched : List Choice} {s : St}
    (hr : run (init t0 d senders ms0) sched = some s) (hs : s.sending ≠ []) :
    ∃ c, (step s c).isSome ∧
      ((∃ id, c = .recv id) ∨ c = .retFull ∨ (∃ id, c = .drain id)) :=
  (inv_run hlen hr).1.progress hs

/-- no_leak (3): once every measurement call has produced its result and no sender is blocked
    any more, every one of the `n` results was received exactly once — by the collector or by
    the drain goroutine — and, if the collector has returned, the drain goroutine has exited. -/
theorem C16_no_leak {t0 d : Int} {senders : List Sender} {ms0 : List Msg}
    (hlen : ms0.length = senders.length) {sched : List Choice} {s : St}
    (hr : run (init t0 d senders ms0) sched = some s)
    (hm : s.measuring = []) (hs : s.sending = []) :
    s.received.length + s.drained.length = senders.length ∧
    (∀ left, s.phase = .done left → left = 0) ∧
    (s.phase = .loop → (step s .retFull).isSome) := by
  obtain ⟨h, hn⟩ := inv_run hlen hr
  obtain ⟨hc, hleft⟩ := h.all_accounted hm hs
  refine ⟨by omega, hleft, fun hp => ?_⟩
  have := h.drain.loopDr hp
  have hi := h.slice.iEq
  rw [this] at hc
  simp only [List.length_nil, Nat.add_zero] at hc
  simp [step, hp, show s.i = s.n by omega]

/-- second_collection_refused: for every sequence of callers reaching / leaving the
    compare-and-swap guard of `MeasureClockOffsets`, the number of accepted callers that have
    not left is the guard word and never exceeds one. -/
theorem C16_second_collection_refused (g : Nat) (hg : g ≤ 1) (evs : List GuardEv) :
    (guardRun g evs).1 ≤ 1 ∧
    ((guardRun g evs).2.count .accepted) + g = ((guardRun g evs).2.count .left) + (guardRun g evs).1 := by
  induction evs generalizing g with
  | nil => exact ⟨hg, rfl⟩
  | cons e rest ih =>
    obtain ⟨h1, h2⟩ := guardStep_count g hg e
    obtain ⟨i1, i2⟩ := ih (guardStep g e).1 h1
    simp only [guardRun, List.count_cons]
    exact ⟨i1, by omega⟩

/-- …and concretely: while a collection is in progress (guard word 1 after any history) the
    next caller is refused (`panic("too many … in progress")`) and changes nothing; when none is
    in progress it is accepted. -/
theorem C16_enter_refused_iff_busy (evs : List GuardEv) :
    ((guardRun 0 evs).1 = 1 → guardStep (guardRun 0 evs).1 .enter = (1, .refused)) ∧
    ((guardRun 0 evs).1 = 0 → guardStep (guardRun 0 evs).1 .enter = (1, .accepted)) := by
  constructor <;> intro h <;> rw [h] <;> rfl

/-- Entry of `MeasureClockOffsets`: a length mismatch panics before the guard is touched; with
    equal lengths a busy client refuses and an idle one accepts (the only way into a round, so
    the hypothesis `len(ms0) = len(senders)` of the theorems above is enforced by the code). -/
theorem C16_entry (a b g : Nat) :
    (a ≠ b → entry a b g = (g, .lenPanic)) ∧
    (a = b → g = 1 → entry a b g = (1, .refused)) ∧
    (a = b → g = 0 → entry a b g = (1, .accepted)) := by
  refine ⟨fun h => by simp [entry, h], fun h hg => ?_, fun h hg => ?_⟩ <;>
    subst h <;> subst hg <;> simp [entry, guardStep]

example : (guardRun 0 [.enter, .enter, .leave, .enter]).2 = [.accepted, .refused, .left, .accepted] := by decide

end ScionTime.C16
