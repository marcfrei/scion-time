/-
  C14 — wire codecs are exact inverses (NTP header and CSPTP parts; the NTS extension-field,
  cookie and NTS-KE parts are in Props/C14Nts.lean and Props/C14Ntske.lean).
  Models: Model/NtpPacket.lean, Model/CsptpCodec.lean (both built on
  Model/WireFields.lean); generic lemmas: Proofs/WireFields.lean, Proofs/C14Codec.lean.
  That the regenerated Go functions compute these models is in Props/LeafC14*.lean.
-/
import ScionTime.Proofs.C14Codec
import ScionTime.Gen.Ntp
import ScionTime.Gen.Csptp
namespace ScionTime.C14
open ScionTime.Wire

/-! ## NTP header (net/ntp/ntp.go) -/
section Ntp
open ScionTime.NtpPacket

theorem C14_pin_ntp_PacketLen : Gen.Ntp.PacketLen = (packetLen : Int) := rfl
theorem C14_pin_ntp_layoutLen : layoutLen layout = packetLen := rfl

theorem C14_ntp_encode_length (p : Packet) : (encodePacket p).length = 48 :=
  ntp_encode_length p
theorem C14_ntp_encode_bytes (p : Packet) : AllBytes (encodePacket p) :=
  encodeFields_allBytes _ _

/-- decode ∘ encode = id: for every packet whose fields are in the range of their Go types,
    decoding its encoding (followed by any trailing data, e.g. NTS extension fields) returns
    exactly that packet. -/
theorem C14_ntp_decode_encode (p : Packet) (rest : List Nat) (h : p.Valid) :
    decodePacket (encodePacket p ++ rest) = .ok p :=
  ntp_decode_encode p rest h

/-- encode ∘ decode: every byte string of at least 48 bytes decodes, the decoded packet's
    fields are in range, and re-encoding it reproduces the first 48 bytes. -/
theorem C14_ntp_encode_decode (b : List Nat) (hlen : 48 ≤ b.length) (hb : AllBytes b) :
    ∃ p, decodePacket b = .ok p ∧ p.Valid ∧ encodePacket p = b.take 48 :=
  ntp_encode_decode b hlen hb

/-- Decoder totality: `DecodePacket` returns the size error exactly below 48
    bytes and a packet otherwise; it never panics. -/
theorem C14_ntp_decode_total (b : List Nat) :
    (b.length < 48 ∧ decodePacket b = .err "size") ∨
    (48 ≤ b.length ∧ ∃ p, decodePacket b = .ok p) :=
  ntp_decode_total b

theorem C14_ntp_decode_no_panic (b : List Nat) : (decodePacket b).isPanic = false := by
  rcases ntp_decode_total b with ⟨_, h⟩ | ⟨_, p, h⟩ <;> rw [h] <;> rfl

theorem C14_ntp_lvm_is_first_byte (x : Nat) (t : List Nat) (p : Packet)
    (h : decodePacket (x :: t) = .ok p) : p.lvm = x :=
  ntp_decode_lvm x t p h
theorem C14_ntp_first_byte_is_lvm (p : Packet) : (encodePacket p).head? = some (p.lvm % 256) := by
  simp [encodePacket, layout, toFields, encodeFields, beBytes]

/-- Accessor laws: for all 256 first bytes the accessors are the three bit fields of the byte,
    and the byte is determined by them (complete table). -/
theorem C14_ntp_accessors : ∀ x < 256,
    leapIndicator x = x / 64 ∧ version x = x / 8 % 8 ∧ mode x = x % 8 ∧
    x = leapIndicator x * 64 + version x * 8 + mode x := by decide +kernel

/-- Setter guards: a setter panics exactly when its argument does not fit the field
    (complete table over uint8 arguments; the guard does not depend on the old LVM). -/
theorem C14_ntp_setter_guards (lvm : Nat) : ∀ a < 256,
    ((setLeapIndicator lvm a).isPanic = decide (3 < a)) ∧
    ((setVersion lvm a).isPanic = decide (7 < a)) ∧
    ((setMode lvm a).isPanic = decide (7 < a)) := by
  intro a _
  have h3 : a &&& 3 = a % 4 := Nat.and_two_pow_sub_one_eq_mod a 2
  have h7 : a &&& 7 = a % 8 := Nat.and_two_pow_sub_one_eq_mod a 3
  unfold setLeapIndicator setVersion setMode
  rw [h3, h7, isPanic_guard, isPanic_guard, isPanic_guard]
  simp only [decide_eq_decide]
  omega

/-- Setter effects: within the guard a setter stores its argument in the addressed field and
    leaves the two other fields as they were (complete tables: 256 bytes × all admissible
    arguments). -/
theorem C14_ntp_setLeapIndicator : ∀ x < 256, ∀ l < 4,
    setLeapIndicator x l = .ok (l * 64 + x % 64) ∧ l * 64 + x % 64 < 256 ∧
    leapIndicator (l * 64 + x % 64) = l ∧ version (l * 64 + x % 64) = version x ∧
    mode (l * 64 + x % 64) = mode x := by
  decide +kernel
theorem C14_ntp_setVersion : ∀ x < 256, ∀ v < 8,
    setVersion x v = .ok (x / 64 * 64 + v * 8 + x % 8) ∧ x / 64 * 64 + v * 8 + x % 8 < 256 ∧
    version (x / 64 * 64 + v * 8 + x % 8) = v ∧
    leapIndicator (x / 64 * 64 + v * 8 + x % 8) = leapIndicator x ∧
    mode (x / 64 * 64 + v * 8 + x % 8) = mode x := by
  decide +kernel
theorem C14_ntp_setMode : ∀ x < 256, ∀ m < 8,
    setMode x m = .ok (x / 8 * 8 + m) ∧ x / 8 * 8 + m < 256 ∧
    mode (x / 8 * 8 + m) = m ∧ leapIndicator (x / 8 * 8 + m) = leapIndicator x ∧
    version (x / 8 * 8 + m) = version x := by
  decide +kernel

/-- Instance: the `Valid` hypothesis is met by extreme field values. -/
example : (⟨0x23, 0, -128, 127, ⟨65535, 0⟩, ⟨0, 65535⟩, 0xffffffff, ⟨0, 0⟩, ⟨1, 2⟩, ⟨3, 4⟩,
    ⟨0xffffffff, 0xffffffff⟩⟩ : Packet).Valid := by
  simp only [Packet.Valid]; omega

end Ntp

/-! ## CSPTP message header and TLVs (net/csptp/csptp.go) -/
section Csptp
open ScionTime.Csptp

theorem C14_pin_csptp_MinMessageLength : Gen.Csptp.MinMessageLength = (minMessageLength : Int) := rfl
theorem C14_pin_csptp_msgLayoutLen : layoutLen msgLayout = minMessageLength := rfl
theorem C14_pin_csptp_MaxEncodedRequestTLVLength :
    Gen.Csptp.MaxEncodedRequestTLVLength = (tlvLongLen : Int) := rfl
theorem C14_pin_csptp_MaxEncodedResponseTLVLength :
    Gen.Csptp.MaxEncodedResponseTLVLength = (tlvLongLen : Int) := rfl
theorem C14_pin_csptp_TLVFlagServerStateDS : Gen.Csptp.TLVFlagServerStateDS = 1 := rfl
theorem C14_pin_csptp_MaxMessageLength :
    Gen.Csptp.MaxMessageLength = (minMessageLength + tlvLongLen : Nat) := rfl
theorem C14_pin_csptp_layouts :
    layoutLen tlvHeadLayout = tlvHeadLen ∧ tlvHeadLen + layoutLen respBodyLayout = tlvShortLen ∧
    tlvShortLen + layoutLen dsLayout = tlvLongLen := ⟨rfl, rfl, rfl⟩

/-- The declared length of a TLV is 36 bytes, or 54 when bit 0 (ServerStateDS) of the flag
    field is set — nothing else of the flag field matters. -/
theorem C14_csptp_tlv_length (f : Nat) :
    encodedTLVLength f = if f % 2 = 1 then 54 else 36 := by
  unfold encodedTLVLength hasServerStateDS tlvShortLen
  have : f &&& 1 = f % 2 := Nat.and_one_is_mod f
  rw [this]
  by_cases h : f % 2 = 1 <;> simp [h]

/-- Message: decode ∘ encode.  Encoding a message whose fields are in range into any buffer of
    at least 44 bytes succeeds, overwrites exactly the first 44 bytes, and decodes to the same
    message. -/
theorem C14_csptp_msg_decode_encode (buf : List Nat) (m : Message) (h : m.Valid)
    (hb : 44 ≤ buf.length) :
    encodeMessage buf m = .ok (messageBytes m ++ buf.drop 44) ∧ (messageBytes m).length = 44 ∧
    decodeMessage (messageBytes m ++ buf.drop 44) = .ok m :=
  ⟨by rw [msg_encode_eq, if_neg (by omega)], msg_bytes_length m, msg_decode_bytes m _ h⟩

/-- Message: encode ∘ decode.  Every byte string of at least 44 bytes decodes to a message with
    fields in range whose encoding is its first 44 bytes; re-encoding in place reproduces the
    byte string. -/
theorem C14_csptp_msg_encode_decode (b : List Nat) (hlen : 44 ≤ b.length) (hb : AllBytes b) :
    ∃ m, decodeMessage b = .ok m ∧ m.Valid ∧ messageBytes m = b.take 44 ∧
      encodeMessage b m = .ok b :=
  msg_encode_decode b hlen hb

/-- Message decoder totality: size error exactly below 44 bytes, never a panic. -/
theorem C14_csptp_msg_decode_total (b : List Nat) :
    (b.length < 44 ∧ decodeMessage b = .err "size") ∨ (44 ≤ b.length ∧ ∃ m, decodeMessage b = .ok m) :=
  msg_decode_total b

/-- The in-place encoder panics (index out of range) exactly on buffers shorter than 44 bytes. -/
theorem C14_csptp_msg_encode_guard (buf : List Nat) (m : Message) :
    (encodeMessage buf m).isPanic = decide (buf.length < 44) := by
  rw [msg_encode_eq]
  exact isPanic_guard _ _ _

/-- Request TLV: decode ∘ encode at the declared length (36 or 54). -/
theorem C14_csptp_req_decode_encode (buf : List Nat) (t : RequestTLV) (h : t.Valid)
    (hb : encodedTLVLength t.flagField ≤ buf.length) :
    encodeRequestTLV buf t = .ok (requestTLVBytes t ++ buf.drop (encodedTLVLength t.flagField)) ∧
    (requestTLVBytes t).length = encodedTLVLength t.flagField ∧
    decodeRequestTLV (requestTLVBytes t ++ buf.drop (encodedTLVLength t.flagField)) = .ok t :=
  ⟨by rw [req_encode_eq, if_neg (by omega)], req_bytes_length t, req_decode_bytes t _ h⟩

/-- Request TLV: encode ∘ decode.  A decoded request TLV has fields in range, the input holds
    at least the declared length, and its encoding is the input's first 14 bytes followed by
    zero padding up to the declared length (the decoder does not inspect the padding, the
    encoder always writes zeros). -/
theorem C14_csptp_req_encode_decode (b : List Nat) (t : RequestTLV) (hb : AllBytes b)
    (hd : decodeRequestTLV b = .ok t) :
    t.Valid ∧ encodedTLVLength t.flagField ≤ b.length ∧
    requestTLVBytes t = b.take 14 ++ zeros (encodedTLVLength t.flagField - 14) :=
  req_encode_decode b t hb hd

/-- … hence re-encoding reproduces the bytes whenever the padding was zero. -/
theorem C14_csptp_req_reencode (b : List Nat) (t : RequestTLV) (hb : AllBytes b)
    (hd : decodeRequestTLV b = .ok t)
    (hpad : b.take (encodedTLVLength t.flagField) = b.take 14 ++ zeros (encodedTLVLength t.flagField - 14)) :
    encodeRequestTLV b t = .ok b := by
  obtain ⟨_, hl, he⟩ := req_encode_decode b t hb hd
  rw [req_encode_eq, if_neg (by omega), he, ← hpad, List.take_append_drop]

/-- Request TLV decoder totality: an error or a value, never a panic; it succeeds exactly when
    at least 14 bytes are present and at least as many as the flag field in bytes 10..13
    declares. -/
theorem C14_csptp_req_decode_total (b : List Nat) :
    decodeRequestTLV b = .err "size" ∨ ∃ t, decodeRequestTLV b = .ok t ∧ 14 ≤ b.length ∧
      encodedTLVLength t.flagField ≤ b.length := by
  rw [req_decode_eq]
  split
  · exact .inl rfl
  · split
    · exact .inl rfl
    · exact .inr ⟨_, rfl, by omega, by omega⟩

/-- Encoder guards of both TLVs: index panic exactly below the declared length. -/
theorem C14_csptp_req_encode_guard (buf : List Nat) (t : RequestTLV) :
    (encodeRequestTLV buf t).isPanic = decide (buf.length < encodedTLVLength t.flagField) := by
  rw [req_encode_eq]
  exact isPanic_guard _ _ _
theorem C14_csptp_resp_encode_guard (buf : List Nat) (t : ResponseTLV) :
    (encodeResponseTLV buf t).isPanic = decide (buf.length < encodedTLVLength t.flagField) := by
  rw [resp_encode_eq]
  exact isPanic_guard _ _ _

/-- Response TLV: decode ∘ encode at the declared length.  The result is the TLV itself when
    the ServerStateDS flag is set or the ServerStateDS is all zero; without the flag a non-zero
    ServerStateDS is not transmitted and decodes as zero (`normalize`). -/
theorem C14_csptp_resp_decode_encode (buf : List Nat) (t : ResponseTLV) (h : t.Valid)
    (hb : encodedTLVLength t.flagField ≤ buf.length) :
    encodeResponseTLV buf t = .ok (responseTLVBytes t ++ buf.drop (encodedTLVLength t.flagField)) ∧
    (responseTLVBytes t).length = encodedTLVLength t.flagField ∧
    decodeResponseTLV (responseTLVBytes t ++ buf.drop (encodedTLVLength t.flagField)) = .ok t.normalize :=
  ⟨by rw [resp_encode_eq, if_neg (by omega)], resp_bytes_length t, resp_decode_bytes t _ h⟩

theorem C14_csptp_resp_normalize (t : ResponseTLV)
    (h : hasServerStateDS t.flagField = true ∨ t.serverStateDS = zeroDS) : t.normalize = t := by
  unfold ResponseTLV.normalize
  rcases h with h | h
  · rw [if_pos h]
  · rw [← h, ite_self]

/-- Response TLV: encode ∘ decode.  A decoded response TLV has fields in range, is already
    normalised, and re-encoding reproduces exactly the declared-length prefix of the input. -/
theorem C14_csptp_resp_encode_decode (b : List Nat) (t : ResponseTLV) (hb : AllBytes b)
    (hd : decodeResponseTLV b = .ok t) :
    t.Valid ∧ encodedTLVLength t.flagField ≤ b.length ∧
    responseTLVBytes t = b.take (encodedTLVLength t.flagField) ∧ t.normalize = t ∧
    encodeResponseTLV b t = .ok b := by
  obtain ⟨h1, h2, h3, h4⟩ := resp_encode_decode b t hb hd
  refine ⟨h1, h2, h3, h4, ?_⟩
  rw [resp_encode_eq, if_neg (by omega), h3, List.take_append_drop]

theorem C14_csptp_resp_decode_total (b : List Nat) :
    decodeResponseTLV b = .err "size" ∨ ∃ t, decodeResponseTLV b = .ok t ∧ 14 ≤ b.length ∧
      encodedTLVLength t.flagField ≤ b.length := by
  rw [resp_decode_eq]
  split
  · exact .inl rfl
  · split
    · exact .inl rfl
    · rename_i h1 h2
      refine .inr ⟨_, rfl, by omega, ?_⟩
      rw [resp_decoded_flag b]; omega

/-- The three CSPTP decoders never panic, whatever the input (form used by C08). -/
theorem C14_csptp_decode_no_panic (b : List Nat) :
    (decodeMessage b).isPanic = false ∧ (decodeRequestTLV b).isPanic = false ∧
    (decodeResponseTLV b).isPanic = false := by
  refine ⟨?_, ?_, ?_⟩
  · rcases C14_csptp_msg_decode_total b with ⟨_, h⟩ | ⟨_, m, h⟩ <;> rw [h] <;> rfl
  · rcases C14_csptp_req_decode_total b with h | ⟨t, h, _⟩ <;> rw [h] <;> rfl
  · rcases C14_csptp_resp_decode_total b with h | ⟨t, h, _⟩ <;> rw [h] <;> rfl

/-- Instances: the `Valid` hypotheses of the round trips are met by the protocol's own values. -/
example : (⟨0, 0x12, 98, 0, 0, 0x0600, -1, 0, 0xffffffffffffffff, 1, 65535, 0, 0x7f,
    ⟨281474976710655, 999999999⟩⟩ : Message).Valid := by
  simp only [Message.Valid]; omega
example : (⟨3, 50, 0xec4670, 0x526571, 1⟩ : RequestTLV).Valid := by
  simp only [RequestTLV.Valid]; omega
example : (⟨3, 50, 0xec4670, 0x526573, 1, 1, ⟨1, 2⟩, -5, -37, ⟨1, 2, 3, 4, 5, 6, 7, 8, 9⟩⟩ :
    ResponseTLV).Valid := by
  simp only [ResponseTLV.Valid, ServerStateDS.Valid]; omega

end Csptp

end ScionTime.C14
