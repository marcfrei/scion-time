/-
  C08 (unit: CSPTP client receive loop, core/client/client_csptp_ip.go) — no datagram makes
  the loop body panic; finding F17 for the function at the pinned commit.
-/
import ScionTime.Model.CsptpClient
import ScionTime.Props.C14
import ScionTime.Proofs.Ite
import ScionTime.Gen.Csptp
namespace ScionTime.C08Csptp
open ScionTime.Wire ScionTime.Csptp ScionTime.CsptpClient

theorem C08_csptp_pin_constants :
    Gen.Csptp.MessageTypeSync = messageTypeSync ∧ Gen.Csptp.MessageTypeFollowUp = messageTypeFollowUp ∧
    Gen.Csptp.TLVTypeOrganizationExtension = tlvTypeOrganizationExtension ∧
    Gen.Csptp.OrganizationIDMeinberg0 * 65536 + Gen.Csptp.OrganizationIDMeinberg1 * 256 + Gen.Csptp.OrganizationIDMeinberg2 = orgIDMeinberg ∧
    Gen.Csptp.OrganizationSubTypeResponse0 * 65536 + Gen.Csptp.OrganizationSubTypeResponse1 * 256 + Gen.Csptp.OrganizationSubTypeResponse2 = orgSubTypeResponse ∧
    Gen.Csptp.MinMessageLength = minMessageLength := by decide

/-- The repaired loop body never panics: for every buffer content, every datagram length,
    every source and every sequence id the verdict is retry or accept. -/
theorem C08_csptp_client_no_panic (buf : List Nat) (n : Nat) (e g : Bool) (seq : Nat) :
    onDatagram true buf n e g seq ≠ .panicSlice := by
  have hm := (C14.C14_csptp_decode_no_panic (buf.take minMessageLength)).1
  have ht := (C14.C14_csptp_decode_no_panic ((buf.take n).drop minMessageLength)).2.2
  unfold onDatagram
  simp only [Bool.true_and, decide_eq_true_eq]
  -- as `panicSlice ≠ …` the cascade is the last argument, which lets `ite_ind` find its motive
  refine Ne.symm (ite_ind nofun fun hn => ?_)
  cases hdm : decodeMessage (buf.take minMessageLength) with
  | panic c => rw [hdm] at hm; cases hm
  | err _ => nofun
  | ok m =>
  refine ite_ind nofun fun _ => ite_ind nofun fun _ => ite_ind (fun _ => ?_) fun _ => ite_ind (fun _ => ?_) nofun
  · exact ite_ind nofun fun _ => ite_ind nofun nofun
  · refine ite_ind nofun fun _ => ?_
    -- the second test of `n` is the one that guards `buf[44:]`
    rw [if_neg hn]
    cases hdt : decodeResponseTLV ((buf.take n).drop minMessageLength) with
    | panic c => rw [hdt] at ht; cases ht
    | err _ => nofun
    | ok t => exact ite_ind nofun fun _ => ite_ind nofun nofun

/-- F17: at the pinned commit a 10-byte Follow_Up-typed datagram whose length field says 10,
    read into the buffer that still holds the client's own request (sequence id 0), panics. -/
def f17Buf : List Nat := [8, 0, 0, 10] ++ List.replicate 94 0
theorem C08_csptp_client_old_panics : onDatagram false f17Buf 10 false true 0 = .panicSlice := by decide +kernel

/-- the same datagram is rejected by the repaired code -/
example : onDatagram true f17Buf 10 false true 0 = .retry "short" := by decide +kernel

/-- non-vacuity: a genuine Sync message from the event port is accepted -/
example : onDatagram true ([0, 2, 0, 44] ++ List.replicate 94 0) 44 true false 0 = .acceptSync := by decide +kernel

end ScionTime.C08Csptp
