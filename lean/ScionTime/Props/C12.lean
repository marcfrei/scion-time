/-
  C12 — NTS server keys: the current key is always valid and fresh, lookups return valid keys
  only, key ids never repeat; hence a cookie is usable for at least `validity − renewal` (48 h)
  after it was issued and never later than `validity` (3 d) after its key was generated.

  Model: ScionTime/Model/Provider.lean (net/ntske/provider.go); invariants:
  ScionTime/Proofs/Provider.lean. All statements are over every state `s` reachable from
  `NewProvider()` by any history of `Current`/`Get` calls with non-decreasing clock readings
  (`Reach P t0 now s`; the mutex makes lock order = clock order), for every parameter pair `P`;
  the values of /repo are pinned (`C12_pin_key*`) and instantiated in the `…_two_to_three_days`
  theorems.
  `Current` reads the clock twice (`t1` itself, `t2 ≥ t1` inside `generateNext`); under the
  virtual clock of the harness `t1 = t2`.
-/
import ScionTime.Proofs.Provider
import ScionTime.Gen.Ntske
import ScionTime.Gen.Server
namespace ScionTime.C12
open ScionTime.Provider

/-- Pins: the model's parameters are /repo's constants (Gen is regenerated on every run). -/
theorem C12_pin_keyValidity : Gen.Ntske.keyValidity = std.validity := by decide
theorem C12_pin_keyRenewalInterval : Gen.Ntske.keyRenewalInterval = std.renewal := by decide

/-- Side condition and the length of the guaranteed window with /repo's constants:
    renewal ≤ validity, and validity − renewal = 48 h, validity = 72 h, renewal = 24 h (in ns). -/
theorem C12_window_48h :
    0 ≤ Gen.Ntske.keyRenewalInterval ∧ Gen.Ntske.keyRenewalInterval ≤ Gen.Ntske.keyValidity ∧
    Gen.Ntske.keyValidity - Gen.Ntske.keyRenewalInterval = 48 * 3600 * 1000000000 ∧
    Gen.Ntske.keyValidity = 72 * 3600 * 1000000000 ∧
    Gen.Ntske.keyRenewalInterval = 24 * 3600 * 1000000000 := by decide

/-- Reachable states exist and are not trivial: after NewProvider at 5, Current at 7, a gap of
    more than a day and another Current, the provider holds keys 2 and 1. -/
example : Reach std 5 (7 + std.renewal + 1)
    (exec std (init std 5) [.current 7 7, .get 1 8, .current (7 + std.renewal + 1) (7 + std.renewal + 1)]) :=
  ⟨_, by simp [Timed, Op.tIn, Op.tOut, std], rfl, rfl⟩
example : ((exec std (init std 5) [.current 7 7, .get 1 8,
    .current (7 + std.renewal + 1) (7 + std.renewal + 1)]).keys.map (·.id)) = [2, 1] := by decide

/-- `Current` hands out a key of the map — the one with id `currentID` — never the zero `Key{}`. -/
theorem C12_current_is_key {P t0 now s} (hr : Reach P t0 now s) {t1 t2 : Int}
    (h1 : now ≤ t1) (h2 : t1 ≤ t2) :
    (current P s t1 t2).2 ∈ (current P s t1 t2).1.keys ∧
    (current P s t1 t2).2.id = (current P s t1 t2).1.currentId :=
  ⟨(current_key (reach_inv hr) h1 h2).1, (current_key (reach_inv hr) h1 h2).2.1⟩

/-- current_valid_fresh: the key handed out by `Current` (clock readings `t1 ≤ t2`) has
    `notAfter = notBefore + validity`, was generated no later than the call's last clock reading,
    is not expired at `t1`, and was generated at most `renewal` before `t1`. -/
theorem C12_current_valid_fresh {P t0 now s} (hv : 0 ≤ P.validity) (hn : 0 ≤ P.renewal)
    (hr : Reach P t0 now s) {t1 t2 : Int} (h1 : now ≤ t1) (h2 : t1 ≤ t2) :
    let k := (current P s t1 t2).2
    k.na = k.nb + P.validity ∧ k.nb ≤ t2 ∧ t1 ≤ k.na ∧ t1 ≤ k.nb + P.renewal := by
  intro k
  have hi := reach_inv hr
  have hk := current_key hi h1 h2
  have hwf := (inv_step (.current t1 t2) hi h1 h2).wf _ hk.1
  have hnb : k.nb = (current P s t1 t2).1.generatedAt := hk.2.2
  refine ⟨hwf.1, hwf.2, ?_⟩
  have hna : k.na = k.nb + P.validity := hwf.1
  by_cases hren : needsRenewal P s t1 = true
  · have e : (current P s t1 t2).1.generatedAt = t2 := by
      simp only [current, hren, if_true, generateNext]
    omega
  · have e : (current P s t1 t2).1 = s := by simp only [current, hren]; rfl
    rw [e] at hnb
    have := mt (needsRenewal_iff hi h1).mpr hren
    omega

/-- The same at a single instant (`t1 = t2 = t`, the harness's virtual clock): the key is within
    its validity period at `t` and no older than the renewal interval. -/
theorem C12_current_valid_fresh_instant {P t0 now s} (hv : 0 ≤ P.validity) (hn : 0 ≤ P.renewal)
    (hr : Reach P t0 now s) {t : Int} (h1 : now ≤ t) :
    ((current P s t t).2.validAt t = true) ∧ t - (current P s t t).2.nb ≤ P.renewal := by
  have h := C12_current_valid_fresh hv hn hr h1 (Int.le_refl t)
  simp only at h
  refine ⟨(validAt_iff _ _).mpr ⟨h.2.1, h.2.2.1⟩, by omega⟩

/-- get_valid_only: a key returned by `Get(id)` at `t` has that id, is within its validity
    period at `t`, and that period has length `validity`. -/
theorem C12_get_valid_only {P t0 now s} (hr : Reach P t0 now s) {id t : Int} {k : Key}
    (hg : Provider.get s id t = some k) :
    k.id = id ∧ k.nb ≤ t ∧ t ≤ k.na ∧ k.na = k.nb + P.validity := by
  obtain ⟨hf, hv⟩ := get_some hg
  have hm := find_some hf
  have := (validAt_iff k t).mp hv
  exact ⟨hm.2, this.1, this.2, ((reach_inv hr).wf k hm.1).1⟩

/-- ids_unique: in any history, two answers (of `Current` or `Get`, the second any number of
    calls after the first) that carry the same id are the same key — an id is bound to one
    validity period forever; and the ids handed out by `Current` never decrease. -/
theorem C12_ids_unique {P t0 now s} (hr : Reach P t0 now s) (op1 op2 : Op) (mid : List Op)
    (ht : Timed now (op1 :: mid ++ [op2])) {k k' : Key}
    (ha : (step P s op1).2 = some k)
    (hb : (step P (exec P s (op1 :: mid)) op2).2 = some k') :
    (k.id = k'.id → k = k') ∧
    (∀ a b c d, op1 = .current a b → op2 = .current c d → k.id ≤ k'.id) := by
  have hi := reach_inv hr
  obtain ⟨h1, h2, h3⟩ := ht
  have hi1 := inv_step op1 hi h1 h2
  have hk : k ∈ (step P s op1).1.keys := ans_mem hi op1 h1 h2 ha
  obtain ⟨hm, hl⟩ := timed_append.mp h3
  have hi2 := inv_exec mid hi1 hm
  simp only [Timed, and_true] at hl
  have hk' : k' ∈ (step P (exec P s (op1 :: mid)) op2).1.keys := ans_mem hi2 op2 hl.1 hl.2 hb
  have hsub := keys_sub_exec (P := P) (s := (step P s op1).1) (mid ++ [op2])
  have hex : exec P (step P s op1).1 (mid ++ [op2]) = (step P (exec P s (op1 :: mid)) op2).1 := by
    rw [exec_append]; rfl
  rw [hex] at hsub
  constructor
  · intro hid
    exact (mem_exec_inj hi1 hk (mid ++ [op2]) (hex ▸ hk') hid.symm).symm
  · rintro a b c d rfl rfl
    simp only [Op.tIn, Op.tOut] at h1 h2 hl
    have e1 := (current_key hi h1 h2).2.1
    have e2 := (current_key hi2 hl.1 hl.2).2.1
    simp only [step, Option.some.injEq] at ha hb
    subst ha hb
    simp only [exec, step] at hsub e2 ⊢
    omega

/-- Ids are handed out consecutively: a generation increases `currentID` by exactly one
    (so ids are strictly increasing in generation order). -/
theorem C12_ids_consecutive (P : Params) (s : State) (t : Int) :
    (generateNext P s t).currentId = s.currentId + 1 := rfl

/-- id_bound: generations are more than `renewal` apart, so after a history from `t0` to `now`
    `currentID ≤ 1 + (now − t0) / renewal`; with /repo's 24 h and a clock in int64 nanoseconds
    that is below 106 752, far from `math.MaxInt` — the `ID overflow` panic is unreachable. -/
theorem C12_id_bound {P t0 now s} (hw : 0 ≤ P.renewal ∧ P.renewal ≤ P.validity)
    (hr : Reach P t0 now s) :
    1 ≤ s.currentId ∧ (s.currentId - 1) * P.renewal ≤ s.generatedAt - t0 ∧ s.generatedAt ≤ now := by
  obtain ⟨ops, ht, rfl, rfl⟩ := hr
  suffices H : ∀ (ops : List Op) (now : Int) (s : State), Inv P now s →
      (1 ≤ s.currentId ∧ (s.currentId - 1) * P.renewal ≤ s.generatedAt - t0 ∧ s.generatedAt ≤ now) →
      Timed now ops →
      1 ≤ (exec P s ops).currentId ∧
      ((exec P s ops).currentId - 1) * P.renewal ≤ (exec P s ops).generatedAt - t0 ∧
      (exec P s ops).generatedAt ≤ endTime now ops by
    exact H ops t0 (init P t0) (inv_init P t0) (by simp [init, generateNext]) ht
  intro ops
  induction ops with
  | nil => intro now s _ h _; exact h
  | cons op rest ih =>
    intro now s hi hb ht
    obtain ⟨h1, h2, h3⟩ := ht
    refine ih op.tOut (step P s op).1 (inv_step op hi h1 h2) ?_ h3
    cases op with
    | get id t =>
      simp only [Op.tIn, Op.tOut] at h1 h2 ⊢
      simp only [step]; omega
    | current t1 t2 =>
      simp only [Op.tIn, Op.tOut] at h1 h2 ⊢
      simp only [step, current]
      split
      · rename_i hren
        have hlt := (needsRenewal_iff hi h1).mp hren
        simp only [generateNext]
        rw [show s.currentId + 1 - 1 = (s.currentId - 1) + 1 by omega, Int.add_mul, Int.one_mul]
        omega
      · omega

/-- cookie_window (exact form): let `k` be the key `Current` handed out at readings `t1 ≤ t2`.
    After any further history `mid`, `Get(k.id)` at any later instant `t` returns exactly `k`
    if `t ≤ k.notAfter`, and nothing otherwise. -/
theorem C12_cookie_window {P t0 now s} (hr : Reach P t0 now s) {t1 t2 : Int}
    (h1 : now ≤ t1) (h2 : t1 ≤ t2) (mid : List Op) (hm : Timed t2 mid) {t : Int}
    (he : endTime t2 mid ≤ t) :
    let k := (current P s t1 t2).2
    Provider.get (exec P (current P s t1 t2).1 mid) k.id t = if t ≤ k.na then some k else none := by
  have hi := reach_inv hr
  exact get_exec_of_mem (inv_step (.current t1 t2) hi h1 h2) (current_key hi h1 h2).1 mid hm he

/-- A cookie sealed with the current key stays usable for `validity − renewal` after the clock
    reading `t1` of the `Current` call that issued its key, whatever calls intervene, and never
    beyond `validity` after the key was generated. -/
theorem C12_cookie_lifetime {P t0 now s} (hv : 0 ≤ P.validity) (hn : 0 ≤ P.renewal)
    (hr : Reach P t0 now s) {t1 t2 : Int}
    (h1 : now ≤ t1) (h2 : t1 ≤ t2) (mid : List Op) (hm : Timed t2 mid) {t : Int}
    (he : endTime t2 mid ≤ t) :
    let k := (current P s t1 t2).2
    let g := Provider.get (exec P (current P s t1 t2).1 mid) k.id t
    (t ≤ t1 + (P.validity - P.renewal) → g = some k) ∧ (k.nb + P.validity < t → g = none) := by
  have h := C12_cookie_window hr h1 h2 mid hm he
  have hf := C12_current_valid_fresh hv hn hr h1 h2
  simp only at h hf
  exact ⟨fun hw => h.trans (if_pos (by omega)), fun hx => h.trans (if_neg (by omega))⟩

/-- The statement with /repo's constants: at least 48 h from issue, at most 72 h from generation. -/
theorem C12_cookie_two_to_three_days {t0 now s} (hr : Reach std t0 now s) {t1 t2 : Int}
    (h1 : now ≤ t1) (h2 : t1 ≤ t2) (mid : List Op) (hm : Timed t2 mid) {t : Int}
    (he : endTime t2 mid ≤ t) :
    let k := (current std s t1 t2).2
    let g := Provider.get (exec std (current std s t1 t2).1 mid) k.id t
    (t ≤ t1 + 48 * 3600 * 1000000000 → g = some k) ∧
    (k.nb + 72 * 3600 * 1000000000 < t → g = none) :=
  C12_cookie_lifetime (P := std) (by decide) (by decide) hr h1 h2 mid hm he

/-- Non-vacuity of the window statement on a concrete history: key 1 issued at 7, other calls
    and a renewal in between, looked up exactly 48 h later (found) and 1 ns after 72 h (gone). -/
example :
    let s := init std 0
    let r := current std s 7 7
    let mid := [Op.get 1 8, .current (std.renewal + 1) (std.renewal + 1), .get 2 (std.renewal + 2)]
    Provider.get (exec std r.1 mid) r.2.id (7 + 172800000000000) = some r.2 ∧
    Provider.get (exec std r.1 (mid ++ [.current (std.validity + 1) (std.validity + 1)])) r.2.id (std.validity + 1) = none ∧
    r.2.id = 1 := by decide

/-- Why `renewal ≤ validity − 48 h` matters (DESIGN.md §8b: "renewal constant > validity"): with a
    renewal interval of 4 days a key issued at day 2.5 is dead half a day later. -/
example :
    let bad : Params := { validity := 259200000000000, renewal := 345600000000000 }
    let r := current bad (init bad 0) 216000000000000 216000000000000
    Provider.get r.1 r.2.id (216000000000000 + 172800000000000) = none := by decide

/-! ## The users of the provider (core/server): how keys reach cookies

  The theorems above are about the provider alone. Whether a *cookie* is sealed under a fresh
  key also depends on how `newNTSKEMsg`, `runIPServer` and `runSCIONServer` obtain the key
  (`Model/Provider.lean`, `Use`): seeded C12-7 (a listener keeps its sealing key in a variable
  outside the receive loop) and C12-8 (the key exchange takes `Newest()` instead of `Current()`)
  leave the provider untouched. The usage facts are regenerated from /repo on every run by
  `harness/extract/x_c12.go` and pinned here; under them the three users are `useStep`. -/

/-- Pin: in `runIPServer` the only `Decrypt` opens with `key.Value` where `key` has the single
    definition `key, ok := provider.Get(int(<that cookie>.ID))` inside the receive loop, directly
    followed by `if !ok { …; continue }`; the only `EncryptWithNonce(key.Value, key.ID)` seals with a
    `key` whose single definition is `key := provider.Current()` inside the receive loop (same
    iteration: no variable holding a key is declared outside the loop). -/
theorem C12_pin_keyUse_runIPServer :
    Gen.Server.c12KeyUse_runIPServer =
      "open@loop:key<-provider.Get(int(<cookie>.ID))#0@loop,ok-checked;seal@loop:key<-provider.Current()@loop" := by
  rfl

/-- Pin: `runSCIONServer` uses keys exactly as `runIPServer` does. -/
theorem C12_pin_keyUse_runSCIONServer :
    Gen.Server.c12KeyUse_runSCIONServer = Gen.Server.c12KeyUse_runIPServer := by rfl

/-- Pin: `newNTSKEMsg` seals with a `key` whose single definition is `key := provider.Current()`
    in the same call. -/
theorem C12_pin_keyUse_newNTSKEMsg :
    Gen.Server.c12KeyUse_newNTSKEMsg = "seal@func:key<-provider.Current()@func" := by rfl

/-- Pin: every use of a `*ntske.Provider` in core/server — it is only passed on from the start-up
    functions to the three users, which call `Current` and `Get` and nothing else; no package
    variable holds a key or a provider. -/
theorem C12_pin_providerUses :
    Gen.Server.c12ProviderUses =
      "StartIPServer:pass:runIPServer;StartNTSKEServerIP:pass:runNTSKEServerTLS;StartNTSKEServerSCION:pass:runNTSKEServerQUIC;StartSCIONServer:pass:runSCIONServer;handleKeyExchangeQUIC:pass:newNTSKEMsg;handleKeyExchangeTLS:pass:newNTSKEMsg;newNTSKEMsg:Current;runIPServer:Current;runIPServer:Get;runNTSKEServerQUIC:pass:handleKeyExchangeQUIC;runNTSKEServerTLS:pass:handleKeyExchangeTLS;runSCIONServer:Current;runSCIONServer:Get" := by
  rfl

/-- A use is a short history of provider calls. -/
theorem C12_use_step_is_calls (P : Params) (s : State) (u : Use) :
    (useStep P s u).1 = exec P s (u.toOps s) := by
  cases u with
  | ke t1 t2 => rfl
  | ntp id t auth c1 c2 =>
    rw [useStep_ntp, Use.toOps]
    split <;> rfl

theorem C12_use_exec_is_calls (P : Params) (s : State) (us : List Use) :
    useExec P s us = exec P s (flat P s us) := by
  induction us generalizing s with
  | nil => rfl
  | cons u rest ih =>
    simp only [useExec, flat, exec_append, ← C12_use_step_is_calls, ih]

/-- use_reach: any history of uses whose provider calls have non-decreasing clock readings leaves
    the provider in a reachable state — so every theorem above applies between uses. -/
theorem C12_use_reach {P t0 now s} (hr : Reach P t0 now s) (us : List Use)
    (ht : Timed now (flat P s us)) :
    Reach P t0 (endTime now (flat P s us)) (useExec P s us) := by
  rw [C12_use_exec_is_calls]; exact reach_exec hr ht

/-- use_opened_valid: a listener opens a request's cookie only with the key the cookie names,
    and only while that key is within its validity period (at the listener's clock reading). -/
theorem C12_use_opened_valid {P t0 now s} (hr : Reach P t0 now s) {id t c1 c2 : Int} {auth : Bool}
    {k : Key} (hk : (useStep P s (.ntp id t auth c1 c2)).2.opened = some k) :
    k.id = id ∧ k.nb ≤ t ∧ t ≤ k.na ∧ k.na = k.nb + P.validity := by
  rw [useStep_opened] at hk
  exact C12_get_valid_only hr hk

/-- A request is served (fresh cookies are sealed) only if its cookie's key was found. -/
theorem C12_use_served_only_if_opened (P : Params) (s : State) (id t c1 c2 : Int) (auth : Bool)
    (h : (useStep P s (.ntp id t auth c1 c2)).2.opened = none) :
    (useStep P s (.ntp id t auth c1 c2)).2.sealedWith = none ∧ (useStep P s (.ntp id t auth c1 c2)).1 = s := by
  rw [useStep_opened] at h
  rw [useStep_ntp, h]
  exact ⟨rfl, rfl⟩

/-- The `Current` call of a sealing use, as a call on a reachable state. -/
theorem C12_use_sealed_is_current {P t0 now s} (hr : Reach P t0 now s) (u : Use)
    (ht : Timed now (u.toOps s)) {k : Key} (hk : (useStep P s u).2.sealedWith = some k) :
    ∃ now' c1 c2, Reach P t0 now' s ∧ now' ≤ c1 ∧ c1 ≤ c2 ∧
      (useStep P s u).1 = (current P s c1 c2).1 ∧ k = (current P s c1 c2).2 ∧
      endTime now (u.toOps s) = c2 ∧
      (u = .ke c1 c2 ∨ ∃ id, u = .ntp id now' true c1 c2 ∧ now ≤ now') := by
  cases u with
  | ke t1 t2 =>
    simp only [Use.toOps, Timed, Op.tIn, Op.tOut, and_true] at ht
    simp only [useStep, Option.some.injEq] at hk
    exact ⟨now, t1, t2, hr, ht.1, ht.2, rfl, hk.symm, rfl, Or.inl rfl⟩
  | ntp id t auth c1 c2 =>
    rw [useStep_ntp] at hk ⊢
    rw [Use.toOps] at ht ⊢
    split at hk
    · rename_i hc
      simp only [if_pos hc] at ht ⊢
      obtain ⟨h0, -, h1, h2, -⟩ := ht
      have hr' : Reach P t0 t s := reach_exec hr (ops := [.get id t]) ⟨h0, Int.le_refl _, trivial⟩
      cases hk
      cases (Bool.and_eq_true_iff.mp hc).2
      exact ⟨t, c1, c2, hr', h1, h2, rfl, rfl, rfl, Or.inr ⟨id, rfl, h0⟩⟩
    · cases hk

/-- use_sealed_fresh: whatever one of the three users seals cookies with is the key `Current`
    returned at clock readings `c1 ≤ c2` of that same call / iteration: it has
    `notAfter = notBefore + validity`, was generated no later than `c2`, is unexpired at `c1` and
    was generated at most `renewal` before `c1`. -/
theorem C12_use_sealed_fresh {P t0 now s} (hv : 0 ≤ P.validity) (hn : 0 ≤ P.renewal)
    (hr : Reach P t0 now s) (u : Use) (ht : Timed now (u.toOps s)) {k : Key}
    (hk : (useStep P s u).2.sealedWith = some k) :
    ∃ c1 c2, (u = .ke c1 c2 ∨ ∃ id t, u = .ntp id t true c1 c2 ∧ now ≤ t ∧ t ≤ c1) ∧ c1 ≤ c2 ∧
      k.na = k.nb + P.validity ∧ k.nb ≤ c2 ∧ c1 ≤ k.na ∧ c1 - k.nb ≤ P.renewal := by
  obtain ⟨now', c1, c2, hr', h1, h2, _, hkk, _, hu⟩ := C12_use_sealed_is_current hr u ht hk
  have h := C12_current_valid_fresh hv hn hr' h1 h2
  simp only at h
  rw [← hkk] at h
  refine ⟨c1, c2, ?_, h2, h.1, h.2.1, h.2.2.1, by omega⟩
  rcases hu with rfl | ⟨id, rfl, h0⟩
  · exact Or.inl rfl
  · exact Or.inr ⟨id, now', rfl, h0, h1⟩

/-- use_cookie_window: a cookie handed out by any of the three users (sealed under `k`), presented
    to a listener at clock reading `t` after any further history of uses, is opened — with exactly
    `k` — iff `t ≤ k.notAfter`. -/
theorem C12_use_cookie_window {P t0 now s} (hr : Reach P t0 now s) (u : Use)
    (ht : Timed now (u.toOps s)) {k : Key} (hk : (useStep P s u).2.sealedWith = some k)
    (mid : List Use) (hm : Timed (endTime now (u.toOps s)) (flat P (useStep P s u).1 mid))
    {t : Int} (he : endTime (endTime now (u.toOps s)) (flat P (useStep P s u).1 mid) ≤ t)
    (auth : Bool) (c1 c2 : Int) :
    (useStep P (useExec P (useStep P s u).1 mid) (.ntp k.id t auth c1 c2)).2.opened =
      if t ≤ k.na then some k else none := by
  obtain ⟨now', a, b, hr', h1, h2, hs, hkk, hend, _⟩ := C12_use_sealed_is_current hr u ht hk
  rw [hend] at hm he
  rw [hs] at hm he ⊢
  rw [C12_use_exec_is_calls]
  have hw := C12_cookie_window hr' h1 h2 _ hm he
  simp only at hw
  rw [← hkk] at hw
  rw [useStep_opened, hw]

/-- use_cookie_two_to_three_days: with /repo's constants, a cookie handed out by a key exchange or
    in an NTP reply is accepted by every listener for at least 48 h after the clock reading of the
    `Current` call it was sealed with (`c1` of `C12_use_sealed_fresh`), and by none later than 72 h
    after its key was generated — whatever uses happen in between (idle gaps included). -/
theorem C12_use_cookie_two_to_three_days {t0 now s} (hr : Reach std t0 now s) (u : Use)
    (ht : Timed now (u.toOps s)) {k : Key} (hk : (useStep std s u).2.sealedWith = some k)
    (mid : List Use) (hm : Timed (endTime now (u.toOps s)) (flat std (useStep std s u).1 mid))
    {t : Int} (he : endTime (endTime now (u.toOps s)) (flat std (useStep std s u).1 mid) ≤ t)
    (auth : Bool) (c1 c2 : Int) :
    let o := (useStep std (useExec std (useStep std s u).1 mid) (.ntp k.id t auth c1 c2)).2.opened
    (∀ a b, (u = .ke a b ∨ ∃ id t', u = .ntp id t' true a b) → t ≤ a + 48 * 3600 * 1000000000 → o = some k) ∧
    (k.nb + 72 * 3600 * 1000000000 < t → o = none) := by
  intro o
  have hw := C12_use_cookie_window hr u ht hk mid hm he auth c1 c2
  obtain ⟨a, b, hu, hab, hna, hnb, hva, hfr⟩ :=
    C12_use_sealed_fresh (P := std) (by decide) (by decide) hr u ht hk
  have e1 : std.validity = 259200000000000 := rfl
  have e2 : std.renewal = 86400000000000 := rfl
  refine ⟨fun a' b' hu' hle => ?_, fun hgt => ?_⟩
  · have : a' = a := by
      rcases hu with rfl | ⟨_, _, rfl, _⟩ <;> rcases hu' with h | ⟨_, _, h⟩ <;> cases h <;> rfl
    subst this
    exact hw.trans (if_pos (by omega))
  · exact hw.trans (if_neg (by omega))

/-- Non-vacuity: key exchange at 5 (key 1), a request with that cookie 25 h later is served and
    its reply is sealed under the renewed key 2; the first cookie is still opened exactly 48 h
    after it was handed out and no longer 1 ns after 72 h. -/
example :
    let s := init std 0
    let r := useStep std s (.ke 5 5)
    let r2 := useStep std r.1 (.ntp 1 (5 + 90000000000000) true (5 + 90000000000000) (5 + 90000000000000))
    r.2.sealedWith = some ⟨1, 0, 259200000000000⟩ ∧
    r2.2.opened = some ⟨1, 0, 259200000000000⟩ ∧
    r2.2.sealedWith = some ⟨2, 5 + 90000000000000, 5 + 90000000000000 + 259200000000000⟩ ∧
    (useStep std r2.1 (.ntp 1 (5 + 172800000000000) true 0 0)).2.opened = some ⟨1, 0, 259200000000000⟩ ∧
    (useStep std r2.1 (.ntp 1 259200000000001 true 0 0)).2.opened = none := by decide

/-- Why the usage facts matter (seeded C12-7): a listener that keeps its sealing key across
    iterations and refreshes it only when it is invalid seals, 25 h after its first request, under a
    key generated 25 h before — although the provider itself would renew (`current` answers key 2). -/
theorem C12_use_cached_key_stale :
    let s := init std 0
    let r1 := sealCachedOld std s zeroKey 5
    let r2 := sealCachedOld std r1.1 r1.2.1 (5 + 90000000000000)
    r2.2.2 = ⟨1, 0, 259200000000000⟩ ∧ (5 + 90000000000000) - r2.2.2.nb > std.renewal ∧
    (current std r1.1 (5 + 90000000000000) (5 + 90000000000000)).2.id = 2 := by decide

/-- …and seeded C12-8: a key exchange that takes the newest key as long as it is valid hands out,
    after an idle gap of 30 h, cookies under the 30 h old key 1 (dead 42 h later, not 48). -/
theorem C12_use_newest_key_stale :
    let s := (current std (init std 0) 5 5).1
    let r := sealNewestOld std s (108000000000000)
    r.2 = ⟨1, 0, 259200000000000⟩ ∧ 108000000000000 - r.2.nb > std.renewal ∧
    Provider.get r.1 1 (108000000000000 + 172800000000000) = none ∧
    (current std s 108000000000000 108000000000000).2.id = 2 := by decide

end ScionTime.C12
