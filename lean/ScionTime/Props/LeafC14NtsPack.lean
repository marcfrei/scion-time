/-
  Kernel-checked ties (C14 / C10): the extension-field ENCODERS of net/nts/nts.go — `extHdr.pack`,
  `Cookie.pack`, `CookiePlaceholder.pack`, `UniqueIdentifier.pack`, `Authenticator.pack` — as regenerated from /repo's Go
  source on every run (Gen/LeafNts.lean; translated by harness/extract/leaf9.go:
  `binary.BigEndian.PutUint16(buf[pos:], v)` and `n := copy(buf[pos:], src)` on a byte-slice
  PARAMETER, `(n + 3) & ^3`) against `putHdr` / `packValue` / `packUid` of Model/Nts.lean.

  The model writes sequentially into `out` (the bytes written so far, `pos = len(out)`) below a
  capacity `cap`; the generated code writes into the caller's buffer `buf` at `pos`. PROVED for every
  buffer and value shorter than 2^62 bytes and every position inside the buffer (`cap = len(buf)`,
  `out = buf[:pos]`): the generated encoder panics exactly when the model does (fewer than 4 bytes
  left for the header); otherwise the bytes of `buf` up to the new position are the model's output,
  the bytes behind it are untouched, the length of `buf` is unchanged and the position returned is
  the model's — including the silent truncation of value and padding at the end of the buffer and
  the wrap-around of the 16-bit length field.
  `Authenticator.pack` (`C10_leaf_Authenticator_pack`): `NewAEAD` error and `Seal` are function-typed
  parameters, the nonce is the next 16 bytes of the `rnd` stream; equal to the model's `packAuth` for
  every library that agrees with the model's AEAD on sealing (`AgreeSeal`): the associated data is
  `buf[:pos]`, the 16-bit length fields wrap as the model says, padding by `(-len) % 4` on `uint16`.
  `EncodePacket` is not translated (notes/LEAF.md).
-/
import ScionTime.Gen.LeafNts
import ScionTime.Model.Nts
import ScionTime.Proofs.GoPrelude
import ScionTime.Proofs.LeafBytes
import ScionTime.Proofs.LeafNts
import ScionTime.Proofs.LeafCookieEnc
import ScionTime.Props.LeafC14Nts
namespace ScionTime.LeafTieC14NtsPack
open ScionTime ScionTime.Gen.Leaf ScionTime.GoLemmas ScionTime.Nts ScionTime.LeafBytes ScionTime.LeafNts
open ScionTime.LeafTieC14CookiesDec (bytesN length_bytesN bytesN_take len_toInt)
open ScionTime.GoSlice (ofNat_toInt)

/-! writing `w` into `buf` at `q` -/

def splice (buf : List UInt8) (q : Nat) (w : List UInt8) : List UInt8 := buf.take q ++ w ++ buf.drop (q + w.length)

theorem splice_length (buf w : List UInt8) (q : Nat) (h : q + w.length ≤ buf.length) :
    (splice buf q w).length = buf.length := by
  simp only [splice, List.length_append, List.length_take, List.length_drop]; omega

theorem splice_take (buf w : List UInt8) (q : Nat) (h : q ≤ buf.length) :
    (splice buf q w).take (q + w.length) = buf.take q ++ w :=
  List.take_left' (by rw [List.length_append, List.length_take, Nat.min_eq_left h])

theorem splice_drop (buf w : List UInt8) (q : Nat) (h : q ≤ buf.length) :
    (splice buf q w).drop (q + w.length) = buf.drop (q + w.length) :=
  List.drop_left' (by rw [List.length_append, List.length_take, Nat.min_eq_left h])

theorem splice_splice (buf w1 w2 : List UInt8) (q : Nat) (h : q + w1.length ≤ buf.length) :
    splice (splice buf q w1) (q + w1.length) w2 = splice buf q (w1 ++ w2) := by
  have h1 := splice_take buf w1 q (by omega)
  have h2 := splice_drop buf w1 q (by omega)
  show (splice buf q w1).take (q + w1.length) ++ w2 ++ (splice buf q w1).drop (q + w1.length + w2.length) = _
  rw [h1, ← List.drop_drop, h2, List.drop_drop]
  simp only [splice, List.append_assoc, List.length_append, Nat.add_assoc]

theorem splice_nil (buf : List UInt8) (q : Nat) : splice buf q [] = buf := by
  simp [splice]

theorem hi8 (v : UInt16) : ((v >>> 8).toUInt8).toNat = v.toNat / 256 % 256 := by
  simp [Nat.shiftRight_eq_div_pow]
theorem lo8 (v : UInt16) : (v.toUInt8).toNat = v.toNat % 256 := by simp

theorem putU16_spec (buf : List UInt8) (q : Nat) (v : UInt16) (hL : buf.length < 4611686018427387904) (hq : q ≤ buf.length) :
    Go.putU16? buf (Int64.ofNat q) v =
      if q + 2 ≤ buf.length then some (splice buf q [(v >>> 8).toUInt8, v.toUInt8]) else none := by
  unfold Go.putU16?
  rw [ofNat_toInt q (by omega), Int.toNat_natCast]
  simp only [Int.natCast_nonneg, true_and]
  rfl

theorem copyAt_spec (buf src : List UInt8) (q : Nat) (hL : buf.length < 4611686018427387904) (hq : q ≤ buf.length) :
    Go.copyAt? buf (Int64.ofNat q) src =
      some (splice buf q (src.take (buf.length - q)), Int64.ofNat (src.take (buf.length - q)).length) := by
  unfold Go.copyAt?
  have e : src.take (min (buf.length - q) src.length) = src.take (buf.length - q) := by
    rw [List.take_eq_take_iff]; omega
  rw [ofNat_toInt q (by omega), Int.toNat_natCast, if_pos ⟨Int.natCast_nonneg q, hq⟩]
  simp only [splice, List.length_take, e]

/-- The write cursor: started on `buf` at `pos = p` against `out = buf[:p]`, the code now holds
    the buffer `b` and the position `q` where the model holds `out` — the same bytes `W` behind
    `buf[:p]`, nothing else touched. `Cursor.done` is what every encoder theorem below claims. -/
def Cursor (buf : List UInt8) (p : Nat) (b : List UInt8) (q : Int64) (out : Bytes) : Prop :=
  ∃ W, p + W.length ≤ buf.length ∧ b = splice buf p W ∧ q = Int64.ofNat (p + W.length) ∧
    out = bytesN (buf.take p) ++ bytesN W

theorem bytesN_append (x y : List UInt8) : bytesN (x ++ y) = bytesN x ++ bytesN y := by simp [bytesN]
theorem bytesN_zeros (m : Nat) : bytesN (List.replicate m 0) = zeros m := by simp [bytesN, zeros]

theorem pre_length (buf : List UInt8) (p : Nat) (h : p ≤ buf.length) : (bytesN (buf.take p)).length = p := by
  rw [length_bytesN, List.length_take, Nat.min_eq_left h]

theorem out_length (buf W : List UInt8) (p : Nat) (h : p ≤ buf.length) :
    (bytesN (buf.take p) ++ bytesN W).length = p + W.length := by
  rw [List.length_append, pre_length buf p h, length_bytesN]

section
variable {buf b : List UInt8} {p : Nat} {q : Int64} {out : Bytes}

theorem Cursor.start (buf : List UInt8) (p : Nat) (hp : p ≤ buf.length) :
    Cursor buf p buf (Int64.ofNat p) (bytesN (buf.take p)) :=
  ⟨[], hp, (splice_nil buf p).symm, rfl, (List.append_nil _).symm⟩

/-- `binary.BigEndian.PutUint16(buf[pos:], v)` with room for it -/
theorem Cursor.put (hL : buf.length < 4611686018427387904) (c : Cursor buf p b q out) (v : UInt16)
    (h2 : out.length + 2 ≤ buf.length) :
    ∃ b', Go.putU16? b q v = some b' ∧ Cursor buf p b' (q + 2) (out ++ be16 v.toNat) := by
  obtain ⟨W, hW, rfl, rfl, rfl⟩ := c
  rw [out_length buf W p (by omega)] at h2
  have hs := splice_length buf W p hW
  refine ⟨_, by rw [putU16_spec _ _ v (hs ▸ hL) (hs ▸ hW), hs, if_pos h2, splice_splice buf W _ p hW],
    W ++ [(v >>> 8).toUInt8, v.toUInt8], ?_, rfl, ?_, ?_⟩
  · rw [List.length_append]; exact h2
  · rw [List.length_append, ← Nat.add_assoc]; exact (Int64.ofNat_add _ 2).symm
  · rw [bytesN_append, List.append_assoc]
    exact congrArg _ (congrArg _ (map_toNat_u16be v).symm)

theorem Cursor.put_short (hL : buf.length < 4611686018427387904) (c : Cursor buf p b q out) (v : UInt16)
    (h2 : buf.length < out.length + 2) : Go.putU16? b q v = none := by
  obtain ⟨W, hW, rfl, rfl, rfl⟩ := c
  rw [out_length buf W p (by omega)] at h2
  have hs := splice_length buf W p hW
  rw [putU16_spec _ _ v (hs ▸ hL) (hs ▸ hW), hs, if_neg (by omega)]

/-- two 16-bit words in a row — `extHdr.pack`, and the two length fields of the authenticator: 4 bytes
    or a panic, as the model's `putHdr` -/
theorem Cursor.put2 (hL : buf.length < 4611686018427387904) (c : Cursor buf p b q out) (v w : UInt16)
    (h4 : out.length + 4 ≤ buf.length) :
    ∃ b', Cursor buf p b' (q + 4) (out ++ be16 v.toNat ++ be16 w.toNat) ∧
      ∀ {β : Type} (k : List UInt8 → Option β),
        ((Go.putU16? b q v).bind fun b1 => (Go.putU16? b1 (q + 2) w).bind k) = k b' := by
  obtain ⟨b1, e1, c1⟩ := c.put hL v (by omega)
  obtain ⟨b2, e2, c2⟩ := c1.put hL w (by rw [List.length_append]; exact h4)
  rw [Int64.add_assoc, show (2 : Int64) + 2 = 4 from rfl] at c2
  exact ⟨b2, c2, fun k => by rw [e1, Option.bind_some, e2, Option.bind_some]⟩

theorem Cursor.put2_short (hL : buf.length < 4611686018427387904) (c : Cursor buf p b q out) (v w : UInt16)
    (h4 : buf.length < out.length + 4) {β : Type} (k : List UInt8 → Option β) :
    ((Go.putU16? b q v).bind fun b1 => (Go.putU16? b1 (q + 2) w).bind k) = none := by
  by_cases h2 : out.length + 2 ≤ buf.length
  · obtain ⟨b1, e1, c1⟩ := c.put hL v h2
    rw [e1, Option.bind_some, c1.put_short hL w (by rw [List.length_append]; exact h4)]; rfl
  · rw [c.put_short hL v (by omega)]; rfl

/-- `n := copy(buf[pos:], src); pos += n` -/
theorem Cursor.copy (hL : buf.length < 4611686018427387904) (c : Cursor buf p b q out) (src : List UInt8) :
    ∃ b' n, Go.copyAt? b q src = some (b', n) ∧ Cursor buf p b' (q + n) (copyTrunc buf.length out (bytesN src)) := by
  obtain ⟨W, hW, rfl, rfl, rfl⟩ := c
  have hs := splice_length buf W p hW
  have hT := List.length_take_le (buf.length - (p + W.length)) src
  refine ⟨_, _, by rw [copyAt_spec _ src _ (hs ▸ hL) (hs ▸ hW), hs, splice_splice buf W _ p hW],
    W ++ src.take (buf.length - (p + W.length)), ?_, rfl, ?_, ?_⟩
  · rw [List.length_append]; omega
  · rw [← Int64.ofNat_add, List.length_append, Nat.add_assoc]
  · unfold copyTrunc
    rw [out_length buf W p (by omega), bytesN_append, ← bytesN_take src, List.append_assoc]

theorem Cursor.done (c : Cursor buf p b q out) :
    q = Int64.ofNat out.length ∧ bytesN (b.take out.length) = out ∧ b.drop out.length = buf.drop out.length ∧
      b.length = buf.length := by
  obtain ⟨W, hW, rfl, rfl, rfl⟩ := c
  rw [out_length buf W p (by omega)]
  exact ⟨rfl, by rw [splice_take buf W p (by omega), bytesN_append], splice_drop buf W p (by omega),
    splice_length buf W p hW⟩

end

theorem extHdr_pack_puts (h : S_extHdr) (buf : List UInt8) (pos : Int64) :
    nts_extHdr_pack h buf pos =
      (Go.putU16? buf pos h.Type').bind fun b1 => (Go.putU16? b1 (pos + 2) h.Length).bind fun b2 => some (b2, pos + 4) := rfl

/-- **`extHdr.pack` = the model's `putHdr`** with `cap = len(buf)`, `out = buf[:pos]` -/
theorem C10_leaf_extHdr_pack (h : S_extHdr) (buf : List UInt8) (p : Nat) (hL : buf.length < 4611686018427387904)
    (hp : p ≤ buf.length) :
    match putHdr buf.length (bytesN (buf.take p)) h.Type'.toNat h.Length.toNat with
    | .ok out' => ∃ buf', nts_extHdr_pack h buf (Int64.ofNat p) = some (buf', Int64.ofNat out'.length) ∧
        bytesN (buf'.take out'.length) = out' ∧ buf'.drop out'.length = buf.drop out'.length ∧ buf'.length = buf.length
    | .panic _ => nts_extHdr_pack h buf (Int64.ofNat p) = none
    | _ => False := by
  have c0 := Cursor.start buf p hp
  have hol := pre_length buf p hp
  by_cases h4 : p + 4 ≤ buf.length
  · obtain ⟨b', c, e⟩ := c0.put2 hL h.Type' h.Length (by omega)
    rw [putHdr_ok _ _ _ _ (by omega)]
    exact ⟨b', by rw [extHdr_pack_puts, e, c.done.1], c.done.2⟩
  · rw [putHdr_panic _ _ _ _ (by omega)]
    exact c0.put2_short hL h.Type' h.Length (by omega) _

/-- the common body of the three generated value encoders: type `t`, value `v` -/
def packCore (t : UInt16) (v buf : List UInt8) (pos : Int64) : Option (List UInt8 × (Int64 × Bool)) :=
  (Go.makeBytesN? (((Go.len v + 3) &&& (-4 : Int64)) - Go.len v)).bind fun padding =>
  (nts_extHdr_pack { Type' := t, Length := (4 : UInt16) + ((Go.len v + 3) &&& (-4 : Int64)).toUInt64.toUInt16 } buf pos).bind
    fun (buf, pos) =>
  (Go.copyAt? buf pos v).bind fun (buf, n) =>
  (Go.copyAt? buf (pos + n) padding).bind fun (buf, m) =>
  some (buf, pos + n + m, false)

/-- definitional: re-checked against the regenerated definitions on every run -/
theorem uid_pack_core (u : S_UniqueIdentifier) (buf : List UInt8) (pos : Int64) :
    nts_UniqueIdentifier_pack u buf pos =
      if (decide ((Go.len u.ID) < (32 : Int64))) then some ((buf, ((0 : Int64), true))) else packCore 260 u.ID buf pos := rfl

/-- **the common body = the model's `packValue`** with `cap = len(buf)`, `out = buf[:pos]` -/
theorem packCore_spec (t : UInt16) (v buf : List UInt8) (p : Nat) (hL : buf.length < 4611686018427387904)
    (hv : v.length < 4611686018427387904) (hp : p ≤ buf.length) :
    match packValue buf.length t.toNat (bytesN (buf.take p)) (bytesN v) with
    | .ok out' => ∃ buf', packCore t v buf (Int64.ofNat p) = some (buf', Int64.ofNat out'.length, false) ∧
        bytesN (buf'.take out'.length) = out' ∧ buf'.drop out'.length = buf.drop out'.length ∧ buf'.length = buf.length
    | .panic _ => packCore t v buf (Int64.ofNat p) = none
    | _ => False := by
  obtain ⟨hmk, h16⟩ := pad_spec v hv
  have hol := pre_length buf p hp
  have c0 := Cursor.start buf p hp
  unfold packCore
  rw [hmk, Option.bind_some]
  by_cases h4 : p + 4 ≤ buf.length
  · obtain ⟨b1, c1, e1⟩ := c0.put2 hL t ((4 : UInt16) + ((Go.len v + 3) &&& (-4 : Int64)).toUInt64.toUInt16) (by omega)
    obtain ⟨b2, n2, e2, c2⟩ := c1.copy hL v
    obtain ⟨b3, n3, e3, c3⟩ := c2.copy hL (List.replicate (pad4 v.length - v.length) 0)
    rw [h16, bytesN_zeros, ← length_bytesN v] at c3
    rw [packValue_eq, putHdr_ok _ _ _ _ (by omega)]
    simp only [extHdr_pack_puts, e1, e2, e3, Option.bind_some]
    exact ⟨b3, by rw [c3.done.1], c3.done.2⟩
  · rw [extHdr_pack_puts, c0.put2_short hL _ _ (by omega), packValue_eq, putHdr_panic _ _ _ _ (by omega)]
    rfl

/-- **`Cookie.pack(buf, pos)` = `packValue cap extCookie out cookie`** (`cap = len(buf)`, `out = buf[:pos]`) -/
theorem C10_leaf_Cookie_pack (c : S_Cookie) (buf : List UInt8) (p : Nat) (hL : buf.length < 4611686018427387904)
    (hv : c.Cookie.length < 4611686018427387904) (hp : p ≤ buf.length) :
    match packValue buf.length extCookie (bytesN (buf.take p)) (bytesN c.Cookie) with
    | .ok out' => ∃ buf', nts_Cookie_pack c buf (Int64.ofNat p) = some (buf', Int64.ofNat out'.length, false) ∧
        bytesN (buf'.take out'.length) = out' ∧ buf'.drop out'.length = buf.drop out'.length ∧ buf'.length = buf.length
    | .panic _ => nts_Cookie_pack c buf (Int64.ofNat p) = none
    | _ => False := by
  exact packCore_spec 516 c.Cookie buf p hL hv hp

/-- **`CookiePlaceholder.pack`** writes the placeholder type (the F5 fix: `phType true`) -/
theorem C10_leaf_CookiePlaceholder_pack (c : S_CookiePlaceholder) (buf : List UInt8) (p : Nat)
    (hL : buf.length < 4611686018427387904) (hv : c.Cookie.length < 4611686018427387904) (hp : p ≤ buf.length) :
    match packValue buf.length (phType true) (bytesN (buf.take p)) (bytesN c.Cookie) with
    | .ok out' => ∃ buf', nts_CookiePlaceholder_pack c buf (Int64.ofNat p) = some (buf', Int64.ofNat out'.length, false) ∧
        bytesN (buf'.take out'.length) = out' ∧ buf'.drop out'.length = buf.drop out'.length ∧ buf'.length = buf.length
    | .panic _ => nts_CookiePlaceholder_pack c buf (Int64.ofNat p) = none
    | _ => False := by
  exact packCore_spec 772 c.Cookie buf p hL hv hp

theorem k32 : (32 : Int64).toInt = 32 := by decide

/-- **`UniqueIdentifier.pack` = `packUid`**: an identifier shorter than 32 bytes is refused with
    `errShortUniqueID`, nothing written -/
theorem C10_leaf_UniqueIdentifier_pack (u : S_UniqueIdentifier) (buf : List UInt8) (p : Nat)
    (hL : buf.length < 4611686018427387904) (hv : u.ID.length < 4611686018427387904) (hp : p ≤ buf.length) :
    match packUid buf.length (bytesN (buf.take p)) (bytesN u.ID) with
    | .ok out' => ∃ buf', nts_UniqueIdentifier_pack u buf (Int64.ofNat p) = some (buf', Int64.ofNat out'.length, false) ∧
        bytesN (buf'.take out'.length) = out' ∧ buf'.drop out'.length = buf.drop out'.length ∧ buf'.length = buf.length
    | .err _ => nts_UniqueIdentifier_pack u buf (Int64.ofNat p) = some (buf, 0, true)
    | .panic _ => nts_UniqueIdentifier_pack u buf (Int64.ofNat p) = none
    | .hang => False := by
  rw [uid_pack_core]
  unfold packUid
  rw [length_bytesN]
  have hlt : Go.len u.ID < (32 : Int64) ↔ u.ID.length < 32 := LeafTlv.lt_iff_nat (len_toInt _ hv) k32
  by_cases h : u.ID.length < 32
  · rw [if_pos h, if_pos (decide_eq_true (hlt.mpr h))]
  · rw [if_neg h, if_neg fun x => h (hlt.mp (of_decide_eq_true x))]
    have := packCore_spec 260 u.ID buf p hL hv hp
    rw [LeafTieC14Nts.k260] at this
    generalize packValue buf.length extUniqueIdentifier (bytesN (buf.take p)) (bytesN u.ID) = r at this ⊢
    cases r with
    | ok _ => exact this
    | err _ => exact this.elim
    | panic _ => exact this
    | hang => exact this.elim

abbrev Obj := String × List UInt8 × Int64
abbrev NewErr := String → List UInt8 → Int64 → Bool
abbrev SealF := Obj → List UInt8 → List UInt8 → List UInt8 → List UInt8 → Option (List UInt8)

/-- the functions standing for the library agree with the model's AEAD on sealing -/
structure AgreeSeal (ne : NewErr) (sl : SealF) (A : AEAD) : Prop where
  newErr : ∀ key, ne "AES-CMAC-SIV" key 16 = !keyOk (bytesN key)
  seals : ∀ key n pt ad, n.length = 16 → ∃ ct, sl ("AES-CMAC-SIV", key, 16) [] n pt ad = some ct ∧
    bytesN ct = A.sealF (bytesN key) (bytesN n) (bytesN pt) (some (bytesN ad)) ∧ ct.length < 4611686018427387904

theorem len16 (N : List UInt8) (h : N.length = 16) : (Go.len N).toUInt64.toUInt16 = 16 := by
  unfold Go.len; rw [h]; decide

/-- **`Authenticator.pack(buf, pos)` = the model's `packAuth`** (`cap = len(buf)`, `out = buf[:pos]`,
    the nonce = the next 16 bytes of the `crypto/rand` stream), for every library agreeing with the
    model's AEAD on sealing: key-size error, panic for lack of room, or the authenticator field —
    header, lengths, nonce, ciphertext and padding — written at `pos`, the rest of `buf` untouched. -/
theorem C10_leaf_Authenticator_pack (ne : NewErr) (sl : SealF) (A : AEAD) (hA : AgreeSeal ne sl A)
    (a : S_Authenticator) (buf rnd : List UInt8) (p : Nat) (hL : buf.length < 4611686018427387904)
    (hp : p ≤ buf.length) (hr : 16 ≤ rnd.length) :
    match packAuth A buf.length (bytesN (buf.take p)) (bytesN a.Key) (bytesN a.PlainText) (bytesN (rnd.take 16)) with
    | .ok out' => ∃ buf', nts_Authenticator_pack a buf (Int64.ofNat p) rnd ne sl =
          some (buf', rnd.drop 16, Int64.ofNat out'.length, false) ∧
        bytesN (buf'.take out'.length) = out' ∧ buf'.drop out'.length = buf.drop out'.length ∧ buf'.length = buf.length
    | .err _ => nts_Authenticator_pack a buf (Int64.ofNat p) rnd ne sl = some (buf, rnd, 0, true)
    | .panic _ => nts_Authenticator_pack a buf (Int64.ofNat p) rnd ne sl = none
    | .hang => False := by
  have hol := pre_length buf p hp
  have c0 := Cursor.start buf p hp
  have hNl : (rnd.take 16).length = 16 := List.length_take_of_le hr
  have hNb : (bytesN (rnd.take 16)).length = 16 := (length_bytesN _).trans hNl
  unfold nts_Authenticator_pack
  simp only [hA.newErr]
  cases hk : keyOk (bytesN a.Key) with
  | false => rw [packAuth_key _ _ _ _ _ _ hk]; rfl
  | true =>
    have hss : Go.subslice? buf 0 (Int64.ofNat p) = some (buf.take p) :=
      LeafTieC14CookiesDec.subslice_spec buf 0 p 0 (Int64.ofNat p) (by decide)
        (by rw [ofNat_toInt p (by omega)]; omega) (by omega)
    obtain ⟨ct, hseal, hctb, -⟩ := hA.seals a.Key (rnd.take 16) a.PlainText (buf.take p) hNl
    have hcl := toNat_len16 ct
    have e16 : (-16 : UInt16) % 4 = 0 := by decide
    have emk0 : Go.makeBytesN? ((0 : UInt16).toUInt64.toInt64) = some [] := by decide
    simp only [Bool.not_true, bne_self_eq_false, Bool.false_eq_true, if_false, Go.randRead, Go.makeBytes,
      List.length_replicate, if_pos hr, len16 _ hNl, hss, hseal, e16, emk0, LeafTieC14Nts.make_spec, Option.bind_some]
    generalize (Go.len ct).toUInt64.toUInt16 = cl16 at hcl
    have hcp := neg_mod4 cl16
    have hL16 := authLen cl16
    rw [hcl] at hcp hL16
    generalize ((4 : UInt16) + 2 + 2 + 16 + 0 + cl16 + (-cl16) % 4) = L16 at hL16
    by_cases h8 : p + 8 ≤ buf.length
    · obtain ⟨b1, c1, e1⟩ := c0.put2 hL 1028 L16 (by omega)
      rw [hL16, show (1028 : UInt16).toNat = extAuthenticator from rfl] at c1
      obtain ⟨b2, c2, e2⟩ := c1.put2 hL 16 cl16 (by rw [length_hdr]; omega)
      rw [hcl, show (16 : UInt16).toNat = 16 from rfl] at c2
      obtain ⟨b3, n3, e3, c3⟩ := c2.copy hL (rnd.take 16)
      obtain ⟨b4, n4, e4, c4⟩ := c3.copy hL []
      obtain ⟨b5, n5, e5, c5⟩ := c4.copy hL ct
      obtain ⟨b6, n6, e6, c6⟩ := c5.copy hL (List.replicate ((-cl16) % 4).toNat 0)
      rw [bytesN_zeros, hcp, show bytesN [] = [] from rfl, copyTrunc_nil, ← length_bytesN ct] at c6
      rw [packAuth_eq A _ _ _ _ _ hk hNb, ← hctb]
      dsimp only
      rw [putHdr_ok _ _ _ _ (by omega), Res.bind_ok, putHdr_ok _ _ _ _ (by rw [length_hdr]; omega)]
      simp only [extHdr_pack_puts, e1, e2, e3, e4, e5, e6, Option.bind_some]
      exact ⟨b6, by rw [c6.done.1], c6.done.2⟩
    · rw [packAuth_panic A _ _ _ _ _ hk hNb (by omega)]
      simp only [extHdr_pack_puts]
      by_cases h4 : p + 4 ≤ buf.length
      · obtain ⟨b1, c1, e1⟩ := c0.put2 hL 1028 L16 (by omega)
        simp only [e1, Option.bind_some, c1.put2_short hL 16 cl16 (by rw [length_hdr]; omega)]
      · simp only [c0.put2_short hL _ _ (by omega), Option.bind_none]

/-- non-vacuity of `AgreeSeal`: a toy library (identity "encryption" plus a 16-byte tag) -/
def toyNe : NewErr := fun _ k _ => !(k.length == 32 || k.length == 64)
def toySl : SealF := fun _ _ _ pt _ => if pt.length < 100 then some (pt ++ List.replicate 16 7) else some []
def toyA : AEAD := { sealF := fun _ _ p _ => if p.length < 100 then p ++ List.replicate 16 7 else [],
                     openF := fun _ _ c _ => some c }

example : AgreeSeal toyNe toySl toyA where
  newErr := by intro key; simp [toyNe, keyOk, bytesN]
  seals := by
    intro key n pt ad _
    by_cases h : pt.length < 100
    · refine ⟨pt ++ List.replicate 16 7, by simp [toySl, h], ?_, by simp; omega⟩
      simp [toyA, bytesN, h]
    · exact ⟨[], by simp [toySl, h], by simp [toyA, bytesN, h], by simp⟩

/-- an authenticator with an empty plaintext at position 0 of a 48-byte buffer: 40 bytes written -/
example : (nts_Authenticator_pack
      { extHdr := { Type' := 0, Length := 0 }, Nonce := [], CipherText := [], Key := List.replicate 32 1, PlainText := [], pos := 0 }
      (List.replicate 48 9) 0 (List.replicate 20 3) toyNe toySl).map (fun r => (r.1.take 10, r.2.1.length, r.2.2)) =
    some ([4, 4, 0, 40, 0, 16, 0, 16, 3, 3], 4, 40, false) := by decide +kernel

/-- non-vacuity: a 5-byte cookie at position 2 of a 20-byte buffer — header, value, three padding
    bytes; and the truncation at the end of a 9-byte buffer -/
example : nts_Cookie_pack { extHdr := { Type' := 0, Length := 0 }, Cookie := [1, 2, 3, 4, 5] } (List.replicate 20 9) 2 =
    some ([9, 9, 2, 4, 0, 12, 1, 2, 3, 4, 5, 0, 0, 0, 9, 9, 9, 9, 9, 9], 14, false) := by decide +kernel
example : nts_Cookie_pack { extHdr := { Type' := 0, Length := 0 }, Cookie := [1, 2, 3, 4, 5] } (List.replicate 9 9) 2 =
    some ([9, 9, 2, 4, 0, 12, 1, 2, 3], 9, false) := by decide +kernel
example : nts_Cookie_pack { extHdr := { Type' := 0, Length := 0 }, Cookie := [1] } (List.replicate 5 9) 2 = none := by
  decide +kernel

end ScionTime.LeafTieC14NtsPack
