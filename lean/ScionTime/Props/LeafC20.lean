/-
  Kernel-checked tie (C20 / C10): `ntske.ExportKeys` of net/ntske/ntske.go as regenerated from
  /repo's Go source on every run (Gen/LeafNtske.lean; the leaf translator renders string and
  `[]byte{…}` literals, `x.f, err = call(…)`, and the method
  `cs.ExportKeyingMaterial(label, context, length)` of the opaque `tls.ConnectionState` as a
  FUNCTION-typed parameter applied to the translated arguments of each call site — so the tie sees
  which context goes with which key).

  PROVED for every `Data` value and EVERY function standing for the TLS exporter:
    `C20_leaf_ExportKeys`: the S2C key is the exporter's value at (the RFC 8915 label, the context
    `00 00 00 0f 01`, 32), the C2S key its value at (the same label, `00 00 00 0f 00`, 32), in this
    order; a failed S2C export returns its error without a second export; the error returned is nil
    only if both exports succeeded; label, contexts and length are the model's
    (`Ntske.exporterLabel`, `s2cContext`, `c2sContext`, `exportLen`).
  Swapping the contexts, exporting both keys under one context, another label or length change the
  regenerated definition, and the theorem then fails to check.
-/
import ScionTime.Gen.LeafNtske
import ScionTime.Model.Ntske
namespace ScionTime.LeafTieC20
open ScionTime ScionTime.Gen.Leaf

abbrev Exporter := String → List UInt8 → Int64 → (List UInt8 × Bool)

def s2cCtx : List UInt8 := [0, 0, 0, 15, 1]
def c2sCtx : List UInt8 := [0, 0, 0, 15, 0]

theorem C20_leaf_contexts_are_models :
    s2cCtx.map UInt8.toNat = Ntske.s2cContext ∧ c2sCtx.map UInt8.toNat = Ntske.c2sContext ∧
    (32 : Int64).toInt = Ntske.exportLen ∧ "EXPORTER-network-time-security" = Ntske.exporterLabel :=
  ⟨rfl, rfl, rfl, rfl⟩

/-- **`ExportKeys`, for every exporter**: which arguments each key is exported with, the order, and
    the error paths. -/
theorem C20_leaf_ExportKeys (data : S_Data) (ekm : Exporter) :
    ntske_ExportKeys data ekm =
      (let r1 := ekm Ntske.exporterLabel s2cCtx 32
       if r1.2 = true then ({ data with S2cKey := r1.1 }, true)
       else
         let r2 := ekm Ntske.exporterLabel c2sCtx 32
         ({ data with S2cKey := r1.1, C2sKey := r2.1 }, r2.2)) := by
  unfold ntske_ExportKeys
  simp only [s2cCtx, c2sCtx, Ntske.exporterLabel]
  rcases Bool.eq_false_or_eq_true (ekm "EXPORTER-network-time-security" [0, 0, 0, 15, 1] 32).2 with h1 | h1
  · simp [h1]
  rcases Bool.eq_false_or_eq_true (ekm "EXPORTER-network-time-security" [0, 0, 0, 15, 0] 32).2 with h2 | h2 <;>
    simp [h1, h2]

/-- the two keys come from DIFFERENT exporter inputs: an exporter that answers by its context's last
    byte shows which key got which context -/
def tagExporter : Exporter := fun _ ctx _ => ([ctx.getLastD 9], false)

example : (ntske_ExportKeys { C2sKey := [], S2cKey := [], Port := 0, Algo := 0 } tagExporter).1.S2cKey = [1] ∧
    (ntske_ExportKeys { C2sKey := [], S2cKey := [], Port := 0, Algo := 0 } tagExporter).1.C2sKey = [0] := by
  decide +kernel

/-- a failing first export: no second export (the C2S key keeps its old value), the error is returned -/
example : (ntske_ExportKeys { C2sKey := [7], S2cKey := [], Port := 0, Algo := 0 } (fun _ _ _ => ([], true))) =
    ({ C2sKey := [7], S2cKey := [], Port := 0, Algo := 0 }, true) := rfl

end ScionTime.LeafTieC20
