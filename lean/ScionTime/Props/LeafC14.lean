/-
  Kernel-checked ties (C14): the NTP header codec of net/ntp/ntp.go — `EncodePacket`, `DecodePacket`,
  `SetLeapIndicator`, `SetVersion`, `SetMode` — as regenerated from /repo's Go source on every run
  (Gen/LeafNtp.lean; translated constructs: `*[]byte` as a slice with capacity,
  `make`, reslicing, the alias `buf := *b`, constant-index byte reads and writes with their bounds
  checks, width conversions and shifts, assignments through a pointer parameter) is the model of
  Model/NtpPacket.lean, for every packet and every byte slice (shorter than 2^62 bytes).
-/
import ScionTime.Gen.LeafNtp
import ScionTime.Model.NtpPacket
import ScionTime.Proofs.C14Codec
import ScionTime.Proofs.LeafBytes
import ScionTime.Proofs.LeafSlice2
import ScionTime.Proofs.LeafUtil
namespace ScionTime.LeafTieC14
open ScionTime ScionTime.Gen.Leaf ScionTime.Wire ScionTime.LeafBytes ScionTime.Go

/-- view of a generated packet as the model's -/
def pk (p : S_Packet) : NtpPacket.Packet :=
  { lvm := p.LVM.toNat, stratum := p.Stratum.toNat, poll := p.Poll.toInt, precision := p.Precision.toInt,
    rootDelay := ⟨p.RootDelay.Seconds.toNat, p.RootDelay.Fraction.toNat⟩,
    rootDispersion := ⟨p.RootDispersion.Seconds.toNat, p.RootDispersion.Fraction.toNat⟩,
    referenceID := p.ReferenceID.toNat,
    referenceTime := ⟨p.ReferenceTime.Seconds.toNat, p.ReferenceTime.Fraction.toNat⟩,
    originTime := ⟨p.OriginTime.Seconds.toNat, p.OriginTime.Fraction.toNat⟩,
    receiveTime := ⟨p.ReceiveTime.Seconds.toNat, p.ReceiveTime.Fraction.toNat⟩,
    transmitTime := ⟨p.TransmitTime.Seconds.toNat, p.TransmitTime.Fraction.toNat⟩ }

def bytesN (b : List UInt8) : List Nat := b.map UInt8.toNat

/-- view of a setter's result: the new first byte, or the panic -/
def setView (m : String) : Option S_Packet → Outcome Nat
  | some p => .ok p.LVM.toNat
  | none => .panic m

theorem C14_leaf_SetMode (p : S_Packet) (m : UInt8) :
    setView "explicit:unexpected_NTP_mode_value" (ntp_Packet_SetMode p m) = NtpPacket.setMode p.LVM.toNat m.toNat ∧
      ∀ p', ntp_Packet_SetMode p m = some p' → p' = { p with LVM := p'.LVM } := by
  unfold ntp_Packet_SetMode NtpPacket.setMode
  have g : ((m &&& 7) != m) = true ↔ m.toNat &&& 7 ≠ m.toNat := mask_ne m 7
  by_cases h : ((m &&& 7) != m) = true
  · rw [if_pos h, if_pos (g.mp h)]
    exact ⟨rfl, fun _ h => nomatch h⟩
  · rw [if_neg h, if_neg (mt g.mpr h)]
    exact ⟨by simp [setView], fun _ h => by cases h; rfl⟩

theorem C14_leaf_SetVersion (p : S_Packet) (v : UInt8) :
    setView "explicit:unexpected_NTP_version_value" (ntp_Packet_SetVersion p v) = NtpPacket.setVersion p.LVM.toNat v.toNat ∧
      ∀ p', ntp_Packet_SetVersion p v = some p' → p' = { p with LVM := p'.LVM } := by
  unfold ntp_Packet_SetVersion NtpPacket.setVersion
  have g : ((v &&& 7) != v) = true ↔ v.toNat &&& 7 ≠ v.toNat := mask_ne v 7
  by_cases h : ((v &&& 7) != v) = true
  · rw [if_pos h, if_pos (g.mp h)]
    exact ⟨rfl, fun _ h => nomatch h⟩
  · rw [if_neg h, if_neg (mt g.mpr h)]
    exact ⟨by simp [setView], fun _ h => by cases h; rfl⟩

theorem C14_leaf_SetLeapIndicator (p : S_Packet) (l : UInt8) :
    setView "explicit:unexpected_NTP_leap_indicator_value" (ntp_Packet_SetLeapIndicator p l) =
      NtpPacket.setLeapIndicator p.LVM.toNat l.toNat ∧
      ∀ p', ntp_Packet_SetLeapIndicator p l = some p' → p' = { p with LVM := p'.LVM } := by
  unfold ntp_Packet_SetLeapIndicator NtpPacket.setLeapIndicator
  have g : ((l &&& 3) != l) = true ↔ l.toNat &&& 3 ≠ l.toNat := mask_ne l 3
  by_cases h : ((l &&& 3) != l) = true
  · rw [if_pos h, if_pos (g.mp h)]
    exact ⟨rfl, fun _ h => nomatch h⟩
  · rw [if_neg h, if_neg (mt g.mpr h)]
    exact ⟨by simp [setView], fun _ h => by cases h; rfl⟩

/-- view of the decoder's result: `none` = index panic, error flag = `errUnexpectedPacketSize` -/
def decView : Option (S_Packet × Bool) → Outcome NtpPacket.Packet
  | none => .panic "index"
  | some (_, true) => .err "size"
  | some (p, false) => .ok (pk p)

theorem C14_leaf_DecodePacket (pkt : S_Packet) (b : List UInt8) (hlen : b.length < 4611686018427387904) :
    decView (ntp_DecodePacket pkt b) = NtpPacket.decodePacket (bytesN b) := by
  have c48 := len_lt b hlen 48 48 (by decide)
  have hbl : (bytesN b).length = b.length := List.length_map _
  rw [C14.ntp_decode_eq, hbl]
  unfold ntp_DecodePacket
  by_cases h48 : b.length < 48
  · rw [if_pos (decide_eq_true (c48.mpr h48)), if_pos h48]; rfl
  · rw [if_neg (mt (fun h => c48.mp (of_decide_eq_true h)) h48), if_neg h48,
      fieldsOf_at0 _ _ (by rw [hbl]; exact Nat.le_of_not_lt h48)]
    simp only [getK_below b 48 (by omega), Nat.reduceLT, Option.bind_some]
    simp only [decView, pk, bytesN, be16, be32, u8_i8, NtpPacket.layout, fieldsAt, range1, range2, range4, List.map_cons,
      List.map_nil, Nat.reduceAdd, Nat.add_zero, Nat.zero_add, getD_bytes, NtpPacket.ofFields, beVal_single]

/-- the first statement of `EncodePacket`: a fresh 48-byte slice when the capacity is too small,
    the caller's array resliced to 48 otherwise -/
theorem encode_prep (b : Go.Slice UInt8) (hcap : b.arr.length < 4611686018427387904) :
    ∃ b1 : Go.Slice UInt8,
      (if (decide ((Go.Slice.cap b) < (48 : Int64))) then
          let b : (Go.Slice UInt8) := (Go.Slice.make (0 : UInt8) 48 48 (Nat.le_refl _))
          some (b)
        else
          (Go.Slice.to? b (48 : Int64)).bind fun _s2 =>
          let b : (Go.Slice UInt8) := _s2
          some (b)) = some b1 ∧ b1.len = 48 ∧
      (48 ≤ b.arr.length → b1.arr = b.arr) ∧ (b.arr.length < 48 → b1.arr.length = 48) := by
  have hc := GoSlice.cap_toInt b hcap
  have h48 : (48 : Int64).toInt = 48 := by decide
  by_cases hlt : b.cap < 48
  · have : b.arr.length < 48 := by have := Int64.lt_iff_toInt_lt.mp hlt; omega
    rw [if_pos (by simpa using hlt)]
    exact ⟨_, rfl, rfl, by omega, fun _ => by simp [Go.Slice.make]⟩
  · have hge : 48 ≤ b.arr.length := by
      have : ¬ b.cap.toInt < (48 : Int64).toInt := fun h => hlt (Int64.lt_iff_toInt_lt.mpr h)
      omega
    rw [if_neg (by simpa using hlt)]
    obtain ⟨s', h1, h2, h3⟩ := GoSlice.to?_some b 48 48 h48 hge
    exact ⟨s', by rw [h1]; rfl, h3, fun _ => h2, by omega⟩

/-- the 48 bytes `EncodePacket` writes, field by field (the `show` in the proof below checks that they are
    what the generated definition writes) -/
def encBytes (pkt : S_Packet) : List UInt8 :=
  List.flatten [[pkt.LVM, pkt.Stratum, pkt.Poll.toInt64.toUInt64.toUInt8, pkt.Precision.toInt64.toUInt64.toUInt8],
    b16 pkt.RootDelay.Seconds, b16 pkt.RootDelay.Fraction, b16 pkt.RootDispersion.Seconds, b16 pkt.RootDispersion.Fraction,
    b32 pkt.ReferenceID, b32 pkt.ReferenceTime.Seconds, b32 pkt.ReferenceTime.Fraction, b32 pkt.OriginTime.Seconds,
    b32 pkt.OriginTime.Fraction, b32 pkt.ReceiveTime.Seconds, b32 pkt.ReceiveTime.Fraction, b32 pkt.TransmitTime.Seconds,
    b32 pkt.TransmitTime.Fraction]

theorem encBytes_eq (pkt : S_Packet) : bytesN (encBytes pkt) = NtpPacket.encodePacket (pk pkt) := by
  simp only [encBytes, bytesN, List.flatten_cons, List.flatten_nil, List.map_append, b16_bytes, b32_bytes, List.map_cons, List.map_nil,
    i8_b, NtpPacket.encodePacket, NtpPacket.layout, NtpPacket.toFields, encodeFields, pk]
  simp only [beBytes, u8_b, toU8_b, List.cons_append, List.nil_append, List.append_nil]

/-- **EncodePacket** leaves `*b` with exactly the 48 header bytes of the model's `encodePacket`,
    whatever `*b` was: in the caller's array when its capacity suffices (the bytes beyond 48 are
    untouched), in a fresh one otherwise. It never panics. -/
theorem C14_leaf_EncodePacket (b : Go.Slice UInt8) (pkt : S_Packet) (hcap : b.arr.length < 4611686018427387904) :
    ∃ b' : Go.Slice UInt8, ntp_EncodePacket b pkt = some b' ∧ b'.len = 48 ∧
      bytesN b'.live = NtpPacket.encodePacket (pk pkt) ∧
      (48 ≤ b.arr.length → b'.arr.drop 48 = b.arr.drop 48) ∧ (b.arr.length < 48 → b'.arr.length = 48) := by
  obtain ⟨b1, hprep, hlen, hsame, hfresh⟩ := encode_prep b hcap
  have hok := b1.ok
  have hl : (encBytes pkt).length = 48 := rfl
  obtain ⟨b', hw, hwl, hwa⟩ := GoSlice.writeSeq_zero (encBytes pkt) b1 (by rw [hl]; omega)
  have hget : Go.Slice.getK? b1 47 = some (b1.arr[47]'(by omega)) := by
    unfold Go.Slice.getK?
    rw [if_pos (by omega)]
    exact List.getElem?_eq_getElem _
  unfold ntp_EncodePacket
  rw [hprep, Option.bind_some]
  show ∃ b', ((Go.Slice.getK? b1 47).bind fun _ => GoSlice.writeSeq b1 0 (encBytes pkt)) = some b' ∧ _
  rw [hget, Option.bind_some]
  refine ⟨b', hw, by omega, ?_, fun h => ?_, fun h => ?_⟩
  · rw [← encBytes_eq, Go.Slice.live, hwa, hwl, hlen, ← hl, List.take_left]
  · rw [hwa, hsame h, ← hl, List.drop_left]
  · rw [hwa, List.length_append, List.length_drop, hfresh h, hl]

/-! non-vacuity, through the generated definitions: a packet with distinct bytes in every field,
    encoded into a nil slice (fresh array) and into a 64-byte slice of length 3 (caller's array,
    resliced), decodes back to itself; a 47-byte input is refused with the size error; the setters
    panic on out-of-range arguments -/

def exPkt : S_Packet :=
  { LVM := 0x23, Stratum := 2, Poll := -6, Precision := -25, RootDelay := ⟨0x0102, 0x0304⟩, RootDispersion := ⟨0x0506, 0x0708⟩,
    ReferenceID := 0x090a0b0c, ReferenceTime := ⟨0x11121314, 0x15161718⟩, OriginTime := ⟨0x21222324, 0x25262728⟩,
    ReceiveTime := ⟨0x31323334, 0x35363738⟩, TransmitTime := ⟨0xf1f2f3f4, 0xf5f6f7f8⟩ }

def zeroPkt : S_Packet :=
  { LVM := 0, Stratum := 0, Poll := 0, Precision := 0, RootDelay := ⟨0, 0⟩, RootDispersion := ⟨0, 0⟩, ReferenceID := 0,
    ReferenceTime := ⟨0, 0⟩, OriginTime := ⟨0, 0⟩, ReceiveTime := ⟨0, 0⟩, TransmitTime := ⟨0, 0⟩ }

example : ((ntp_EncodePacket Go.Slice.nil exPkt).bind fun b => (ntp_DecodePacket zeroPkt b.live).map fun r => (pk r.1, r.2)) =
    some (pk exPkt, false) := by decide +kernel
example : ((ntp_EncodePacket (Go.Slice.make 7 3 64 (by decide)) exPkt).map fun b => (b.len, b.arr.length, b.arr.drop 48 |>.take 2)) =
    some (48, 64, [7, 7]) := by decide +kernel
example : (ntp_DecodePacket zeroPkt (List.replicate 47 1)).map (·.2) = some true := by decide +kernel
example : ntp_Packet_SetMode exPkt 8 = none ∧ (ntp_Packet_SetMode exPkt 4).map (·.LVM) = some 0x24 := by decide +kernel

end ScionTime.LeafTieC14
