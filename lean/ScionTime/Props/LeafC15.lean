/-
  Kernel-checked ties (C15): base/crypto/crypto.go — `randInt31`, `randInt63`, `RandIntn`, `Sample` —
  as regenerated from /repo's Go source on every run (Gen/LeafCrypto.lean; translated by
  harness/extract/leaf7.go: unbounded `for` loops with an iteration budget, counted loops, `break`,
  shadowing `:=`, crypto/rand as a byte stream, `binary.LittleEndian`, a callback parameter as the
  list of its calls, `ctx.Err()` as a parameter) is the hand-written model of Model/Sample.lean,
  for every argument, every byte stream and every budget that exceeds the number of words in the
  stream (the budget is the translator's device to make the loop a total function: the theorems
  show it is never exhausted before the stream is — `stuck` does not occur).
-/
import ScionTime.Gen.LeafCrypto
import ScionTime.Model.Sample
import ScionTime.Proofs.GoPrelude
import ScionTime.Proofs.LeafRand
import ScionTime.Proofs.LeafBytes
namespace ScionTime.LeafTieC15
open ScionTime ScionTime.Gen.Leaf ScionTime.GoLemmas ScionTime.Sample ScionTime.LeafRand

/-- what both sides are compared on: the value and the rest of the stream, an error (the
    generated definitions render `error` as a flag: which error is not kept), a panic with its
    message, or the translator's `stuck` -/
inductive Obs where
  | ok (v : Int) (rest : List Nat)
  | err
  | panic (msg : String)
  | stuck
deriving DecidableEq, Repr

def bytes (r : List UInt8) : Stream := r.map UInt8.toNat

def obsM : Res (Nat × Stream) → Obs
  | .ok (v, s) => .ok v s
  | .err _ => .err
  | .panic m => .panic m

def obsG : Go.Out (List UInt8 × (Int64 × Bool)) → Obs
  | .ok (r, (v, false)) => .ok v.toInt (bytes r)
  | .ok (_, (_, true)) => .err
  | .panic m => .panic m
  | .stuck => .stuck

theorem bytes_length (r : List UInt8) : (bytes r).length = r.length := List.length_map _

theorem bytes_take (r : List UInt8) (i : Nat) : (bytes r).take i = bytes (r.take i) := (List.map_take).symm

theorem bytes_drop (r : List UInt8) (i : Nat) : (bytes r).drop i = bytes (r.drop i) := (List.map_drop).symm

/-- The loop of `randInt31` / `randInt63` against the model's draw `D`, for a word type `W` with
    value `toNat`, decoder `dec`, test `acc` (`x > t`) and result `fin` (`x % n` as an `int`): a
    budget above the number of words in the stream is never exhausted. -/
theorem rejectLoop {W : Type} {dec : List UInt8 → Option W} {acc : W → Bool} {toNat : W → Nat} {w n t : Nat}
    {ctx : Bool} {D : Stream → Res (Nat × Stream)} (fin : W → Int64) (hD : Draw w n t ctx D)
    (hdec : ∀ l : List UInt8, w ≤ l.length → ∃ X, dec l = some X ∧ toNat X = leNat (bytes (l.take w)))
    (hacc : ∀ X, acc X = true ↔ t < toNat X)
    (hfin : ∀ X, (fin X).toInt = (toNat X % n : Nat)) :
    ∀ (fuel : Nat) (b rnd : List UInt8) (x : W), b.length = w → rnd.length < w * fuel →
      ∃ o, Go.forFuel fuel (b, rnd, x) (rejectBody dec acc ctx) = some o ∧
        obsG (match o with
          | .inr r => r
          | .inl (_, rnd, x) => .ok (rnd, (fin x, false))) = obsM (D (bytes rnd)) := by
  intro fuel
  induction fuel with
  | zero => intro b rnd x _ hf; omega
  | succ k ih =>
    intro b rnd x hb hf
    subst hb
    rw [Go.forFuel]
    by_cases hlen : b.length ≤ rnd.length
    · obtain ⟨X, hX, hXv⟩ := hdec (rnd.take b.length) (by rw [List.length_take]; omega)
      have hrest : (rnd.drop b.length).length < b.length * k := by
        rw [List.length_drop]; rw [Nat.mul_succ] at hf; omega
      have hl : Go.len (rnd.take b.length) = Go.len b := by
        unfold Go.len; rw [List.length_take, Nat.min_eq_left hlen]
      rw [List.take_take, Nat.min_self] at hXv
      simp only [rejectBody, Go.randRead, if_pos hlen, hl, hX, bne_self_eq_false, Bool.false_eq_true, if_false,
        Go.Out.ofOption, Go.Ctl.bindR]
      rw [hD.step _ (by rw [bytes_length]; exact hlen), bytes_take, bytes_drop, ← hXv]
      by_cases ha : acc X = true
      · rw [if_pos ha, if_pos ((hacc X).mp ha)]
        exact ⟨_, rfl, congrArg (Obs.ok · _) (hfin X)⟩
      · rw [if_neg ha, if_neg (fun h => ha ((hacc X).mpr h))]
        cases ctx with
        | true => exact ⟨_, rfl, rfl⟩
        | false => exact ih _ _ X (by rw [List.length_take]; omega) hrest
    · simp only [rejectBody, Go.randRead, if_neg hlen]
      rw [hD.short _ (by rw [bytes_length]; omega)]
      exact ⟨_, rfl, rfl⟩

theorem n32_toNat (n : Int64) (h0 : 0 ≤ n.toInt) (h1 : n.toInt ≤ 2147483647) :
    n.toUInt64.toUInt32.toNat = n.toInt.toNat := by
  rw [UInt64.toNat_toUInt32, toNat_u64 n h0]
  exact Nat.mod_eq_of_lt (by omega)

theorem thr31_eq (n : Int64) (h0 : 2 ≤ n.toInt) (h1 : n.toInt ≤ 2147483647) :
    (((-n).toUInt64.toUInt32) % (n.toUInt64.toUInt32)).toNat = thr31 n.toInt.toNat := by
  have hn2 : 0 < n.toInt.toNat := by omega
  rw [Int64.toUInt64_neg, UInt64.toUInt32_neg, UInt32.toNat_mod, UInt32.toNat_neg, n32_toNat n (by omega) h1,
    Nat.mod_eq_of_lt (Nat.sub_lt (by decide) hn2)]
  rfl

theorem draw31_short (n t : Nat) (c : Bool) (s : Stream) (h : s.length < 4) : draw31 n t c s = .err .exhausted := by
  unfold draw31
  split
  · simp only [List.length_cons] at h; omega
  · rfl

theorem draw31_Draw (n t : Nat) (c : Bool) : Draw 4 n t c (draw31 n t c) where
  short := draw31_short n t c
  step := by
    refine cases4 fun b0 b1 b2 b3 rest => ?_
    rw [draw31, ← leNat4]
    rfl

theorem C15_leaf_randInt31 (ctx : Bool) (n : Int64) (rnd : List UInt8) (fuel : Nat) (hf : rnd.length < 4 * fuel) :
    obsG (crypto_randInt31 ctx n rnd fuel) = obsM (randInt31 n.toInt.toNat ctx (bytes rnd)) := by
  unfold crypto_randInt31 Sample.randInt31
  have h2 : (2 : Int64).toInt = 2 := by decide
  have hm : (2147483647 : Int64).toInt = 2147483647 := by decide
  refine ite_tie obsG obsM (by rw [decide_eq_true_iff, Int64.lt_iff_toInt_lt]; omega) (fun _ => rfl) fun hge => ?_
  refine ite_tie obsG obsM (by rw [decide_eq_true_iff, gt_iff_lt, Int64.lt_iff_toInt_lt]; unfold maxInt32; omega)
    (fun _ => rfl) fun hle => ?_
  unfold maxInt32 at hle
  have hn32 := n32_toNat n (by omega) (by omega)
  have hthr := thr31_eq n (by omega) (by omega)
  obtain ⟨o, ho, h⟩ := rejectLoop (toNat := UInt32.toNat) (fun x => (x % n.toUInt64.toUInt32).toUInt64.toInt64)
    (draw31_Draw n.toInt.toNat (thr31 n.toInt.toNat) ctx) leU32?_spec
    (acc := fun x => decide (x > (-n).toUInt64.toUInt32 % n.toUInt64.toUInt32))
    (fun X => by rw [decide_eq_true_iff, ← hthr]; exact UInt32.lt_iff_toNat_lt)
    (fun X => by rw [toInt_widen32, UInt32.toNat_mod, hn32])
    fuel (Go.makeBytes 4) rnd 0 rfl hf
  conv => lhs; zeta
  generalize hF : Go.forFuel fuel _ _ = F
  obtain rfl : F = some o := hF.symm.trans ho
  rcases o with ⟨_, _, _⟩ | _ <;> exact h

theorem toInt_of_u64 (u : UInt64) (h : u.toNat < 9223372036854775808) : u.toInt64.toInt = u.toNat :=
  (LeafBytes.u_i64 u).trans (if_pos h)

theorem thr63_eq (n : Int64) (h0 : 2 ≤ n.toInt) :
    (((-n).toUInt64) % (n.toUInt64)).toNat = thr63 n.toInt.toNat := by
  have hn2 : 0 < n.toInt.toNat := by omega
  rw [Int64.toUInt64_neg, UInt64.toNat_mod, UInt64.toNat_neg, toNat_u64 n (by omega),
    Nat.mod_eq_of_lt (Nat.sub_lt (by decide) hn2)]
  rfl

theorem draw63_short (n t : Nat) (c : Bool) (s : Stream) (h : s.length < 8) : draw63 n t c s = .err .exhausted := by
  unfold draw63
  split
  · simp only [List.length_cons] at h; omega
  · rfl

theorem draw63_Draw (n t : Nat) (c : Bool) : Draw 8 n t c (draw63 n t c) where
  short := draw63_short n t c
  step := by
    refine cases8 fun b0 b1 b2 b3 b4 b5 b6 b7 rest => ?_
    rw [draw63, ← leNat8]
    rfl

theorem C15_leaf_randInt63 (ctx : Bool) (n : Int64) (rnd : List UInt8) (fuel : Nat) (hf : rnd.length < 8 * fuel) :
    obsG (crypto_randInt63 ctx n rnd fuel) = obsM (randInt63 n.toInt.toNat ctx (bytes rnd)) := by
  unfold crypto_randInt63 Sample.randInt63
  have h2 : (2 : Int64).toInt = 2 := by decide
  refine ite_tie obsG obsM (by rw [decide_eq_true_iff, Int64.lt_iff_toInt_lt]; omega) (fun _ => rfl) fun hge => ?_
  have hn64 := toNat_u64 n (by omega)
  have hthr := thr63_eq n (by omega)
  have hu := Int64.toInt_lt n
  obtain ⟨o, ho, h⟩ := rejectLoop (toNat := UInt64.toNat) (fun x => (x % n.toUInt64).toInt64)
    (draw63_Draw n.toInt.toNat (thr63 n.toInt.toNat) ctx) leU64?_spec
    (acc := fun x => decide (x > (-n).toUInt64 % n.toUInt64))
    (fun X => by rw [decide_eq_true_iff, ← hthr]; exact UInt64.lt_iff_toNat_lt)
    (fun X => by
      have hm : (X % n.toUInt64).toNat = X.toNat % n.toInt.toNat := by rw [UInt64.toNat_mod, hn64]
      have := Nat.mod_lt X.toNat (show 0 < n.toInt.toNat by omega)
      rw [toInt_of_u64 _ (by omega), hm])
    fuel (Go.makeBytes 8) rnd 0 rfl hf
  conv => lhs; zeta
  generalize hF : Go.forFuel fuel _ _ = F
  obtain rfl : F = some o := hF.symm.trans ho
  rcases o with ⟨_, _, _⟩ | _ <;> exact h

theorem bind_id {α β : Type} (x : Go.Out (α × β)) : (x.bind fun (a, b) => Go.Out.ok (a, b)) = x := by
  rcases x with ⟨_, _⟩ | _ | _ <;> rfl

theorem C15_leaf_RandIntn (ctx : Bool) (n : Int64) (rnd : List UInt8) (fuel : Nat) (hf : rnd.length < 4 * fuel) :
    obsG (crypto_RandIntn ctx n rnd fuel) = obsM (randIntn n.toInt ctx (bytes rnd)) := by
  unfold crypto_RandIntn randIntn
  have hm : (2147483647 : Int64).toInt = 2147483647 := by decide
  refine ite_tie obsG obsM (by rw [decide_eq_true_iff, Int64.le_iff_toInt_le, Int64.toInt_zero]) (fun _ => rfl) fun _ => ?_
  rw [bind_id, bind_id]
  exact ite_tie obsG obsM (by rw [decide_eq_true_iff, Int64.le_iff_toInt_le, hm]; rfl)
    (fun _ => C15_leaf_randInt31 ctx n rnd fuel hf) fun _ => C15_leaf_randInt63 ctx n rnd fuel (by omega)

theorem randIntn_len (n : Int) (c : Bool) (s : Stream) (v : Nat) (r : Stream)
    (h : randIntn n c s = .ok (v, r)) : r.length ≤ s.length := by
  unfold randIntn at h
  split at h
  · cases h
  · split at h
    · unfold Sample.randInt31 at h
      split at h
      · cases h; omega
      · split at h
        · cases h
        · exact (draw31_Draw _ _ _).length_le (by decide) _ h
    · unfold Sample.randInt63 at h
      split at h
      · cases h; omega
      · exact (draw63_Draw _ _ _).length_le (by decide) _ h

/-- what `Sample` is compared on: the count returned, the `pick(dst, src)` calls in order and the
    rest of the stream -/
inductive ObsS where
  | ok (k : Int) (picks : List (Int × Int)) (rest : List Nat)
  | err
  | panic (msg : String)
  | stuck
deriving DecidableEq, Repr

def pk (ps : List (Int64 × Int64)) : List (Int × Int) := ps.map fun p => (p.1.toInt, p.2.toInt)
def pkN (ps : List (Nat × Nat)) : List (Int × Int) := ps.map fun p => ((p.1 : Int), (p.2 : Int))

def obsSG : Go.Out (List UInt8 × (List (Int64 × Int64) × (Int64 × Bool))) → ObsS
  | .ok (r, (ps, (k, false))) => .ok k.toInt (pk ps) (bytes r)
  | .ok (_, (_, (_, true))) => .err
  | .panic m => .panic m
  | .stuck => .stuck

def obsSM : Res (Nat × List (Nat × Nat) × Stream) → ObsS
  | .ok (k, ps, s) => .ok k (pkN ps) s
  | .err _ => .err
  | .panic m => .panic m

/-- the model's loop result behind the picks made so far -/
def behind (k : Int) (pre : List (Int × Int)) : Res (List (Nat × Nat) × Stream) → ObsS
  | .ok (ps, s) => .ok k (pre ++ pkN ps) s
  | .err _ => .err
  | .panic m => .panic m

theorem obsG_ok_inv {g : Go.Out (List UInt8 × (Int64 × Bool))} {v : Nat} {s : Stream}
    (h : obsG g = obsM (.ok (v, s))) : ∃ r vj, g = .ok (r, (vj, false)) ∧ vj.toInt = v ∧ bytes r = s := by
  rcases g with ⟨r, vj, _ | _⟩ | _ | _
  · exact ⟨r, vj, rfl, Obs.ok.inj h⟩
  · cases h
  · cases h
  · cases h

theorem obsG_err_inv {g : Go.Out (List UInt8 × (Int64 × Bool))} {e : Err}
    (h : obsG g = obsM (.err e)) : ∃ r vj, g = .ok (r, (vj, true)) := by
  rcases g with ⟨r, vj, _ | _⟩ | _ | _
  · cases h
  · exact ⟨r, vj, rfl⟩
  · cases h
  · cases h

theorem obsG_panic_inv {g : Go.Out (List UInt8 × (Int64 × Bool))} {m : String}
    (h : obsG g = obsM (.panic m)) : g = .panic m := by
  rcases g with ⟨_, _, _ | _⟩ | _ | _
  · cases h
  · cases h
  · cases h
    rfl
  · cases h

theorem behind_step (K : Int) (pre : List (Int × Int)) (l : List (Nat × Nat)) (res : Res (List (Nat × Nat) × Stream)) :
    behind K pre (match res with
      | .ok (ps, s) => .ok (l ++ ps, s)
      | .err e => .err e
      | .panic p => .panic p) = behind K (pre ++ pkN l) res := by
  match res with
  | .ok (ps, s) => simp only [behind, pkN, List.map_append, List.append_assoc]
  | .err _ => rfl
  | .panic _ => rfl

/-- the first loop: `pick(i, i)` for `m` indices from `i` on (`j` is `i` as a natural number) -/
theorem loop1 {ρ : Type} (m : Nat) : ∀ (i : Int64) (j : Nat) (cb : List (Int64 × Int64)),
    i.toInt = j → j + m ≤ 9223372036854775807 →
    ∃ cb', Go.forCount (ρ := ρ) m i cb (fun i cb => Go.Ctl.next (cb ++ [(i, i)])) = .inl cb' ∧
      pk cb' = pk cb ++ pkN ((List.range' j m).map fun j => (j, j)) := by
  induction m with
  | zero => exact fun i j cb _ _ => ⟨cb, rfl, (List.append_nil _).symm⟩
  | succ m ih =>
    intro i j cb hij hm
    have hi1 : (i + 1).toInt = (j + 1 : Nat) := by rw [i64_add_one i (by omega), hij]; rfl
    obtain ⟨cb', h, hp⟩ := ih (i + 1) (j + 1) (cb ++ [(i, i)]) hi1 (by omega)
    refine ⟨cb', h, ?_⟩
    rw [hp, List.range'_succ]
    simp only [pk, pkN, List.map_append, List.map_cons, List.map_nil, List.append_assoc, List.singleton_append, hij]

/-- the second loop against the model's: `m` remaining iterations from index `i`, behind the picks
    `cb` made so far (`K`, `j` are `k`, `i` as natural numbers) -/
theorem loop2 (ctx : Bool) (k : Int64) (K : Nat) (hk : k.toInt = K) (fuel : Nat) (m : Nat) :
    ∀ (i : Int64) (j : Nat) (cb : List (Int64 × Int64)) (rnd : List UInt8),
      i.toInt = j → j + m ≤ 9223372036854775807 → rnd.length < 4 * fuel →
      obsSG (match Go.forCount m i (cb, rnd) (pickBody (fun i rnd => crypto_RandIntn ctx i rnd fuel) k) with
        | .inr _r => _r
        | .inl (cb_pick, rnd) => Go.Out.ok ((rnd, (cb_pick, (k, false))))) =
      behind k.toInt (pk cb) (sampleLoopWith randIntn K ctx m j (bytes rnd)) := by
  induction m with
  | zero =>
    intro i j cb rnd _ _ _
    show ObsS.ok _ _ _ = ObsS.ok _ (pk cb ++ []) _
    rw [List.append_nil]
  | succ m ihm =>
    intro i j cb rnd hij hm hf
    have hi1 : (i + 1).toInt = (j : Int) + 1 := by rw [i64_add_one i (by omega), hij]
    have htie := C15_leaf_RandIntn ctx (i + 1) rnd fuel hf
    rw [hi1] at htie
    rw [Go.forCount, sampleLoopWith]
    cases hr : randIntn ((j : Int) + 1) ctx (bytes rnd) with
    | ok vr =>
      obtain ⟨v, s'⟩ := vr
      rw [hr] at htie
      obtain ⟨r, vj, hg, hv, rfl⟩ := obsG_ok_inv htie
      have hrl : r.length < 4 * fuel := by
        have := randIntn_len _ _ _ _ _ hr
        rw [bytes_length, bytes_length] at this
        exact Nat.lt_of_le_of_lt this hf
      have hjk : (vj < k) ↔ v < K := by rw [Int64.lt_iff_toInt_lt, hv, hk]; exact Int.ofNat_lt
      have hpk : pk (if vj < k then cb ++ [(vj, i)] else cb) = pk cb ++ pkN (if v < K then [(v, j)] else []) :=
        ite_tie pk (pk cb ++ pkN ·) hjk
          (fun _ => by simp only [pk, pkN, List.map_append, List.map_cons, List.map_nil, hv, hij])
          fun _ => (List.append_nil _).symm
      simp only [pickBody, hg, Go.Ctl.bindR, bne_self_eq_false, Bool.false_eq_true, if_false, decide_eq_true_eq]
      rw [ihm (i + 1) (j + 1) _ r hi1 (by omega) hrl, hpk]
      exact (behind_step _ _ _ _).symm
    | err e =>
      rw [hr] at htie
      obtain ⟨r, vj, hg⟩ := obsG_err_inv htie
      simp only [pickBody, hg, Go.Ctl.bindR]
      rfl
    | panic p =>
      rw [hr] at htie
      simp only [pickBody, obsG_panic_inv htie, Go.Ctl.bindR]
      rfl

/-- **Sample** is the model's `sample`: same panics, same `k = min(k, n)`, the same `pick` calls in
    the same order, the same bytes consumed; an error of `RandIntn` ends it with an error. -/
theorem C15_leaf_Sample (ctx : Bool) (k n : Int64) (rnd : List UInt8) (fuel : Nat) (hf : rnd.length < 4 * fuel) :
    obsSG (crypto_Sample ctx k n rnd fuel) = obsSM (sample k.toInt n.toInt ctx (bytes rnd)) := by
  unfold crypto_Sample sample
  refine ite_tie obsSG obsSM (by rw [decide_eq_true_iff, Int64.lt_iff_toInt_lt, Int64.toInt_zero]) (fun _ => rfl) fun hk => ?_
  refine ite_tie obsSG obsSM (by rw [decide_eq_true_iff, Int64.lt_iff_toInt_lt, Int64.toInt_zero]) (fun _ => rfl) fun hn => ?_
  conv => zeta
  generalize hK : (if decide (n < k) = true then n else k) = K
  obtain ⟨hK, hK0, hKn⟩ := min_toNat k n K (by omega) (by omega) hK
  rw [← hK]
  clear hK
  have hu := Int64.toInt_lt n
  have hKK := (Int.toNat_of_nonneg hK0).symm
  have hb : K.toInt.toNat + (n.toInt.toNat - K.toInt.toNat) ≤ 9223372036854775807 := by omega
  rw [tripNe_eq 0 K (Int.le_of_eq Int64.toInt_zero.symm) (Int64.toInt_zero ▸ hK0), tripNe_eq K n hK0 hKn,
    Int64.toInt_zero, Int.toNat_zero, Nat.sub_zero]
  obtain ⟨cb1, h1, hp1⟩ := loop1 K.toInt.toNat 0 0 [] Int64.toInt_zero (by omega)
  generalize hF1 : Go.forCount K.toInt.toNat 0 _ _ = F1
  obtain rfl : F1 = .inl cb1 := hF1.symm.trans h1
  refine Eq.trans (loop2 ctx K _ hKK fuel _ K _ cb1 rnd hKK hb hf) ?_
  rw [hp1, ← List.range_eq_range']
  unfold sampleLoop
  generalize sampleLoopWith randIntn _ _ _ _ _ = res
  match res with
  | .ok (ps, s) => simp only [behind, obsSM, pk, pkN, List.map_append, List.map_nil, List.nil_append, ← hKK]
  | .err _ => rfl
  | .panic _ => rfl

/-- the hypotheses are met and all outcomes occur, through the generated definitions: a draw
    accepted at once, one rejected then accepted, a cancelled context, an exhausted stream, the
    two argument panics, and a reservoir of 2 out of 4 -/
example : obsG (crypto_RandIntn false 10 [7, 0, 0, 0, 9] 5) = .ok 7 [9] := by decide
example : obsG (crypto_RandIntn false 10 [3, 0, 0, 0, 17, 0, 0, 0] 5) = .ok 7 [] := by decide
example : obsG (crypto_RandIntn true 10 [3, 0, 0, 0, 17, 0, 0, 0] 5) = .err := by decide
example : obsG (crypto_RandIntn false 10 [3, 0, 0] 5) = .err := by decide
example : obsG (crypto_RandIntn false 0 [] 1) = .panic "invalid argument: n must be greater than 0" := by decide
example : obsSG (crypto_Sample false (-1) 3 [] 1) = .panic "invalid argument: k must be non-negative" := by decide
example : obsSG (crypto_Sample false 2 4 [8, 0, 0, 0, 9, 0, 0, 0] 5) = .ok 2 [(0, 0), (1, 1), (1, 3)] [] := by decide

end ScionTime.LeafTieC15
