/-
  C08 (unit: net/udp TimestampFromOOBData) — no byte string can make the control-message
  walk panic or loop.
-/
import ScionTime.Proofs.UdpWalk
namespace ScionTime.C08Udp
open ScionTime.Udp

theorem timeUnix_ok (s n : Int) : ∃ a b, timeUnix s n = .ok a b := by
  unfold timeUnix
  split
  · simp only []
    split <;> exact ⟨_, _, rfl⟩
  · exact ⟨_, _, rfl⟩

/-- With fuel at least the buffer length the repaired walk never runs out of fuel and
    never panics: every outcome is a timestamp or one of the two errors. -/
theorem C08_udp_walk_total (fuel : Nat) (oob : List Nat) (h : oob.length ≤ fuel) :
    (∃ a b, walkGen true fuel oob = .ok a b) ∨ walkGen true fuel oob = .errUnexpectedData
      ∨ walkGen true fuel oob = .errNotFound :=
  walkGen_rule (P := fun o => (∃ a b, o = .ok a b) ∨ o = .errUnexpectedData ∨ o = .errNotFound)
    (.inr (.inr rfl)) (.inr (.inl rfl)) (fun s n => .inl (timeUnix_ok s n)) fuel oob h

/-- The exported statement: `TimestampFromOOBData` is total and panic-free on every input. -/
theorem C08_udp_no_panic (oob : List Nat) :
    (∃ a b, timestampFromOOBData oob = .ok a b) ∨ timestampFromOOBData oob = .errUnexpectedData
      ∨ timestampFromOOBData oob = .errNotFound :=
  C08_udp_walk_total oob.length oob (Nat.le_refl _)

/-! Finding F10 — the function at the pinned commit panics on crafted bytes (which reach it
    from the network through the SCION timestamp option). -/

/-- a control message of foreign level whose length 17 is within a 20-byte buffer but whose
    aligned length 24 is not: `oob[24:]` panics. -/
def f10Misaligned : List Nat := [17,0,0,0,0,0,0,0, 9,0,0,0, 9,0,0,0, 0,0,0,0]
theorem C08_udp_old_slice_panic : timestampFromOOBDataOld f10Misaligned = .panicSlice := by decide +kernel

/-- a well-formed SO_TIMESTAMPING_NEW message whose third timestamp and first timestamp are
    both non-zero: `panic("unexpected timestamping behavior")`. -/
def f10Inconsistent : List Nat :=
  [64,0,0,0,0,0,0,0, 1,0,0,0, 65,0,0,0] ++ [1,0,0,0,0,0,0,0] ++ List.replicate 24 0 ++ [1,0,0,0,0,0,0,0] ++ List.replicate 8 0
theorem C08_udp_old_explicit_panic : timestampFromOOBDataOld f10Inconsistent = .panicExplicit := by decide +kernel

/-- non-vacuity: a genuine kernel-style message decodes to its timestamp. -/
example : timestampFromOOBData
    ([64,0,0,0,0,0,0,0, 1,0,0,0, 65,0,0,0] ++ [5,0,0,0,0,0,0,0] ++ [7,0,0,0,0,0,0,0] ++ List.replicate 32 0)
    = .ok 5 7 := by decide +kernel

end ScionTime.C08Udp
