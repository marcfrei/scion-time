/-
  C07, concurrency clause — linearizability of the timestamp store under its lock discipline.

  The extracted fact `fact_tssMu_lock_discipline` (pinned in Props/C07.lean) says that the only
  functions touching `tss`/`tssQ`, handleRequest and updateTXTimestamp, do
  `tssMu.Lock(); defer tssMu.Unlock()` before anything else. Model/Mutex.lean is the interleaving
  semantics of exactly that shape: any number of listener goroutines, each with its own program
  (sequence of store operations); a scheduler that at every point picks ANY goroutine whose next
  micro-step is enabled (Lock is enabled iff the mutex is free; the micro-steps of a critical
  section and Unlock only for the holder); critical sections split into arbitrarily many
  read/write micro-steps. Proved for ALL programs, ALL schedules and ALL such splittings:

  * whenever the mutex is free, the store is exactly what the sequential model `Server.run`
    produces for the operations in lock-acquisition order — an interleaving of the goroutines'
    programs that keeps each goroutine's own order (linearizability, with the lock acquisition
    as linearization point);
  * inside a critical section the holder works on that sequential state plus its own completed
    micro-steps — no other goroutine's write can appear;
  * hence everything Props/C07.lean and Props/C06.lean prove about sequential histories
    (bounded, map/heap agreement, heap order, reply contract) holds for every concurrent
    execution.

  What is NOT proved here is that Go's sync.Mutex implements mutual exclusion and that no other
  code writes the store (the extracted fact + the race detector runs of the thorough tier).
-/
import ScionTime.Proofs.Mutex
import ScionTime.Props.C07
namespace ScionTime.Props.C07Conc
open ScionTime ScionTime.Server ScionTime.Mutex ScionTime.Props.C07

theorem seqResult_eq_run (cap icap : Nat) (sem : Server.Op → Body State)
    (hsem : ∀ op st, runOp (sem op) st = stepOp cap icap st op) (st : State) (log : List (Nat × Server.Op)) :
    seqResult sem st log = Server.run cap icap st (log.map (·.2)) := by
  unfold seqResult Server.run
  induction log generalizing st with
  | nil => rfl
  | cons e l ih =>
    simp only [List.foldl_cons, List.map_cons]
    rw [hsem]; exact ih _

/-- Linearizability: after any schedule of any number of goroutines, whenever the mutex is free
    the store equals the sequential model run on the operations in lock-acquisition order, and
    that order keeps every goroutine's program order (`ProgOrder`: what goroutine `i` has logged,
    followed by what it still has to start, is its program). `sem` is any splitting of the two
    critical sections into micro-steps that composes to the operation. -/
theorem C07_linearizable (cap icap : Nat) (sem : Server.Op → Body State)
    (hsem : ∀ op st, runOp (sem op) st = stepOp cap icap st op)
    (progs : List (List Server.Op)) (sched : List Nat) :
    let s := Mutex.run sem (start Server.init progs) sched
    ProgOrder progs s ∧
    (s.holder = none → s.shared = Server.run cap icap Server.init (s.log.map (·.2))) := by
  intro s
  refine ⟨run_preserves sem (step_progOrder sem progs) sched _ (start_progOrder Server.init progs), ?_⟩
  intro hfree
  rw [inv_free (run_preserves sem (step_inv sem Server.init) sched _ (start_inv sem Server.init progs)) hfree, seqResult_eq_run cap icap sem hsem]

/-- Inside a critical section: the holder sees the sequential state of the operations logged
    before its own, advanced by the micro-steps it has done itself — nothing else. -/
theorem C07_critical_section_isolated (cap icap : Nat) (sem : Server.Op → Body State)
    (hsem : ∀ op st, runOp (sem op) st = stepOp cap icap st op)
    (progs : List (List Server.Op)) (sched : List Nat) (i : Nat) :
    let s := Mutex.run sem (start Server.init progs) sched
    s.holder = some i →
    ∃ prev op done rem, s.log = prev ++ [(i, op)] ∧ sem op = done ++ rem ∧
      s.shared = runOp done (Server.run cap icap Server.init (prev.map (·.2))) := by
  intro s hh
  obtain ⟨_, prev, op, done, rem, _, _, _, hlog, hop, hsh⟩ :=
    inv_held (run_preserves sem (step_inv sem Server.init) sched _ (start_inv sem Server.init progs)) hh
  exact ⟨prev, op, done, rem, hlog, hop, by rw [hsh, seqResult_eq_run cap icap sem hsem]⟩

/-- Hence the store invariant of Props/C07 (at most `cap` clients, map and heap hold the same
    clients with exact back pointers, 1..`icap` exchanges per client with distinct receive
    stamps, heap order) holds at every quiescent point of every concurrent execution. -/
theorem C07_concurrent_inv (cap icap : Nat) (hcap : 1 ≤ cap) (hic : 1 ≤ icap) (hic2 : icap < 1000000000)
    (sem : Server.Op → Body State) (hsem : ∀ op st, runOp (sem op) st = stepOp cap icap st op)
    (progs : List (List Server.Op)) (sched : List Nat) :
    let s := Mutex.run sem (start Server.init progs) sched
    s.holder = none → C07.Inv cap icap s.shared := by
  intro s hfree
  rw [(C07_linearizable cap icap sem hsem progs sched).2 hfree]
  exact C07_inv_run cap icap hcap hic hic2 _

/-- the simplest splitting: the whole critical section as one micro-step -/
def atomicBody (cap icap : Nat) (op : Server.Op) : Body State := [fun st => stepOp cap icap st op]

theorem atomicBody_sem (cap icap : Nat) (op : Server.Op) (st : State) :
    runOp (atomicBody cap icap op) st = stepOp cap icap st op := rfl

/-- non-vacuity: two goroutines, an interleaved schedule in which goroutine 1 tries to enter
    while goroutine 0 holds the lock (its choice is skipped), both operations end up logged,
    0 before 1, and the mutex is free at the end -/
example :
    let progs : List (List Server.Op) := [[.hr 1 ⟨zero64, zero64, ⟨7, 7⟩⟩ 1700000000000000000 1700000000000000100],
                                          [.hr 2 ⟨zero64, zero64, ⟨8, 8⟩⟩ 1700000000000000200 1700000000000000300]]
    let s := Mutex.run (atomicBody 4 2) (start Server.init progs) [0, 1, 0, 1, 0, 1, 1, 1]
    s.holder = none ∧ s.log.map (·.1) = [0, 1] ∧ s.shared.items.length = 2 := by
  decide

end ScionTime.Props.C07Conc
