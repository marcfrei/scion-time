/-
  C18 — time-unit conversions for kernel and CSPTP interfaces are exact and normalised.
  Integer clauses; the floating-point clauses (scaled-ppm round trip, drift
  proportionality) are in Props/C18Float.lean.
  Models: ScionTime/Model/Unixutil.lean, ScionTime/Model/CsptpConv.lean.
-/
import ScionTime.Model.Unixutil
import ScionTime.Model.CsptpConv
import ScionTime.Proofs.Int64Arith
import ScionTime.Proofs.CsptpConv
import ScionTime.Gen.Unixutil
import ScionTime.Gen.Csptp
namespace ScionTime.C18
open ScionTime.Unixutil ScionTime.CsptpConv ScionTime.Int64Arith

/-! The literals inside the Go function bodies (regenerated from /repo on every run by
harness/extract/x_c02c18.go) are the literals of the model. -/

theorem C18_pin_timeval :
    Gen.Unixutil.timevalDiv = 1000000000 ∧ Gen.Unixutil.timevalMod = 1000000000 ∧
    Gen.Unixutil.timevalFixAdd = 1000000000 ∧ Gen.Unixutil.timevalFixSub = 1 := by decide

/-- `s < 0`, `s > 1<<48-1` in `TimestampFromTime`; `>> 16`; `/ 2` in the formulas. -/
theorem C18_pin_csptp :
    Gen.Csptp.timestampMinSec = 0 ∧ Gen.Csptp.timestampMaxSec = 2^48 - 1 ∧
    Gen.Csptp.timeIntervalShift = 16 ∧ Gen.Csptp.divMeanPathDelay = 2 ∧ Gen.Csptp.divClockOffset = 2 := by decide

/-- timeval_normal: for **every** int64 nanosecond count the sub-second part is in
    `[0, 10^9)` and `sec·10^9 + usec` is the input (no wrap-around anywhere, `MinInt64`
    included). -/
theorem C18_timeval_normal (nsec : Int64) :
    0 ≤ (timevalFromNsec nsec).usec.toInt ∧ (timevalFromNsec nsec).usec.toInt < 1000000000 ∧
    (timevalFromNsec nsec).sec.toInt * 1000000000 + (timevalFromNsec nsec).usec.toInt = nsec.toInt := by
  have hk : (1000000000 : Int64).toInt = 1000000000 := by decide
  have h1 : (1 : Int64).toInt = 1 := by decide
  have hl := Int64.le_toInt nsec
  have hu := Int64.toInt_lt nsec
  have hd := Int.mul_tdiv_add_tmod nsec.toInt 1000000000
  have hlo := Int.lt_tmod_of_pos nsec.toInt (b := 1000000000) (by decide)
  have hhi := Int.tmod_lt_of_pos nsec.toInt (b := 1000000000) (by decide)
  have hq : (nsec / 1000000000).toInt = nsec.toInt.tdiv 1000000000 := by
    rw [Int64.toInt_div_of_ne_right _ _ (by decide), hk]
  have hr : (nsec % 1000000000).toInt = nsec.toInt.tmod 1000000000 := by
    rw [Int64.toInt_mod, hk]
  unfold timevalFromNsec
  by_cases hneg : nsec % 1000000000 < 0
  · simp only [hneg, ↓reduceIte]
    rw [Int64.lt_iff_toInt_lt, Int64.toInt_zero, hr] at hneg
    rw [toInt_sub_of_fits _ _ (by omega) (by omega), toInt_add_of_fits _ _ (by omega) (by omega),
      hq, hr, hk, h1]
    omega
  · simp only [hneg, ↓reduceIte]
    rw [Int64.lt_iff_toInt_lt, Int64.toInt_zero, hr] at hneg
    rw [hq, hr]
    omega

/-- The second component is the floor quotient (seconds towards −∞), i.e. the pair is the
    Euclidean decomposition the kernel expects. -/
theorem C18_timeval_floor (nsec : Int64) :
    (timevalFromNsec nsec).sec.toInt = nsec.toInt / 1000000000 ∧
    (timevalFromNsec nsec).usec.toInt = nsec.toInt % 1000000000 := by
  have := C18_timeval_normal nsec
  omega

/-- Without the negative-remainder branch the property fails (closed witness: −1 ns). -/
theorem C18_timeval_nofix_witness :
    (timevalFromNsecNoFix (-1)).usec.toInt = -1 ∧ (timevalFromNsec (-1)).usec.toInt = 999999999 ∧
    (timevalFromNsec (-1)).sec.toInt = -1 := by decide

example : timevalFromNsec (-1500000000) = ⟨-2, 500000000⟩ := by decide
example : timevalFromNsec Int64.minValue = ⟨-9223372037, 145224192⟩ := by decide

/-- timestamp_roundtrip (time → timestamp → time): every time whose Unix second count fits
    48 bits (1970 … year 8921556) converts without panic and converts back exactly. -/
theorem C18_timestamp_roundtrip (t : Int) (h0 : 0 ≤ t) (h1 : t < 2^48 * 1000000000) :
    ∃ ts, timestampFromTime t = .ok ts ∧ ts.WF ∧ ts.ns < 1000000000 ∧ timeFromTimestamp ts = t := by
  have hs0 : ¬ (t / nsPerSec < 0) := by rw [div_nsPerSec_neg]; omega
  have hs1 : ¬ (t / nsPerSec > 2^48 - 1) := by rw [div_nsPerSec_gt]; omega
  have hm0 := Int.emod_nonneg t (b := nsPerSec) (by decide)
  have hm1 : t % nsPerSec < 1000000000 := Int.emod_lt_of_pos t (by decide)
  unfold timestampFromTime
  simp only [hs0, hs1, if_false]
  refine ⟨_, rfl, ⟨rfl, secBytes_lt _, ?_⟩, ?_, ?_⟩
  · simp only
    omega
  · simp only
    omega
  · unfold timeFromTimestamp
    simp only
    rw [secOfBytes_secBytes _ (by omega), Int.toNat_of_nonneg (by omega), Int.toNat_of_nonneg hm0]
    exact Int.ediv_mul_add_emod t nsPerSec

/-- The two panics are exactly the out-of-range cases. -/
theorem C18_timestamp_panics (t : Int) :
    (timestampFromTime t = .panicBefore1970 ↔ t < 0) ∧
    (timestampFromTime t = .panicAfter48bit ↔ 2^48 * 1000000000 ≤ t) := by
  rw [← div_nsPerSec_neg, ← div_nsPerSec_gt]
  unfold timestampFromTime
  by_cases h : t / nsPerSec < 0
  · have h' : ¬ t / nsPerSec > 2^48 - 1 := by omega
    simp only [h, h', ↓reduceIte, reduceCtorEq, iff_self, and_self]
  · by_cases h' : t / nsPerSec > 2^48 - 1 <;>
      simp only [h, h', ↓reduceIte, reduceCtorEq, iff_self, and_self]

/-- A nanosecond field ≥ 10^9 (the type admits up to 2^32−1) is normalised by
    `TimeFromTimestamp`: the resulting time is `seconds + ns/10^9` and `ns mod 10^9`, at most
    4 s later; converting back panics only if that carry leaves the 48-bit range. -/
theorem C18_timestamp_ns_overflow (ts : Timestamp) (h : ts.WF) :
    timeFromTimestamp ts / nsPerSec = secOfBytes ts.seconds + ts.ns / 1000000000 ∧
    timeFromTimestamp ts % nsPerSec = ts.ns % 1000000000 ∧ ts.ns / 1000000000 ≤ 4 := by
  obtain ⟨_, _, hn⟩ := h
  unfold timeFromTimestamp nsPerSec
  refine ⟨?_, ?_, by omega⟩
  · rw [Int.add_comm, Int.add_mul_ediv_right _ _ (by decide), Int.add_comm]
  · rw [Int.add_comm, Int.add_mul_emod_self_right]

/-- timestamp_roundtrip (timestamp → time → timestamp): every six-byte second count with
    nanoseconds below 10^9 converts to a time that converts back to the same timestamp. -/
theorem C18_timestamp_roundtrip_rev (ts : Timestamp) (h : ts.WF) (hns : ts.ns < 1000000000) :
    timestampFromTime (timeFromTimestamp ts) = .ok ts := by
  obtain ⟨hq, hr, _⟩ := C18_timestamp_ns_overflow ts h
  have hq0 : (ts.ns : Int) / 1000000000 = 0 := Int.ediv_eq_zero_of_lt (by omega) (by omega)
  have hr0 : (ts.ns : Int) % 1000000000 = ts.ns := Int.emod_eq_of_lt (by omega) (by omega)
  rw [hq0, Int.add_zero] at hq
  rw [hr0] at hr
  have hsec := secOfBytes_lt ts h
  unfold timestampFromTime
  simp only [hq, hr]
  rw [if_neg (by omega), if_neg (by omega)]
  simp only [Int.toNat_natCast]
  rw [secBytes_secOfBytes ts h]

/-- interval_shift: the correction field (2^-16 ns units) converts to nanoseconds by floor
    division by 65536, for negative values too, and never wraps. -/
theorem C18_interval_shift (i : Int64) :
    (durationFromTimeInterval i).toInt = i.toInt / 65536 :=
  toInt_shiftRight i 16 16 (by decide)

/-- Dropping the 16 sub-nanosecond bits: `0 ≤ i − 65536·d < 65536`. -/
theorem C18_interval_shift_bounds (i : Int64) :
    0 ≤ i.toInt - 65536 * (durationFromTimeInterval i).toInt ∧
    i.toInt - 65536 * (durationFromTimeInterval i).toInt < 65536 := by
  rw [C18_interval_shift]; omega

/-- `>> 16` and `/ 65536` differ exactly on negative non-multiples of 65536 (witness −1). -/
theorem C18_interval_shift_vs_div_witness :
    (durationFromTimeInterval (-1)).toInt = -1 ∧ (durationFromTimeIntervalDiv (-1)).toInt = 0 := by
  decide

/-- `|v| < 2^60`, so that the sum of two stays below the 2^61 of `timeSub_sub_toInt` -/
def Fits60 (v : Int) : Prop := -1152921504606846976 < v ∧ v < 1152921504606846976

/-- With asymmetric delays `d1` (client→server) and `d3` (server→client) the formulas return
    the truncated halves of `2θ + (d1 − d3)` and `d1 + d3`: the offset error is half the
    asymmetry, never more. -/
theorem C18_csptp_asymmetric (t0 t2 : Int) (d1 d3 θ : Int) (c1 c3 : Int64)
    (hd1 : Fits60 d1) (hd3 : Fits60 d3) (hθ : Fits60 θ) (h1 : Fits60 c1.toInt) (h3 : Fits60 c3.toInt) :
    let t1 := t0 + d1 + θ + c1.toInt
    let t3 := t2 + d3 - θ + c3.toInt
    (clockOffset t0 t1 t2 t3 c1 c3).toInt = (2 * θ + (d1 - d3)).tdiv 2 ∧
    (meanPathDelay t0 t1 t2 t3 c1 c3).toInt = (d1 + d3).tdiv 2 := by
  intro t1 t3
  unfold Fits60 at *
  have eo : d1 + θ - (d3 - θ) = 2 * θ + (d1 - d3) := by omega
  have em : d1 + θ + (d3 - θ) = d1 + d3 := by omega
  rw [← eo, ← em]
  exact clockOffset_meanPathDelay_toInt t0 t1 t2 t3 c1 c3 (d1 + θ) (d3 - θ) (by omega) (by omega)
    (by omega) (by omega) (by omega) (by omega)

/-- csptp_offset_exact / csptp_delay_exact.  If the server clock is ahead of the client
    clock by `θ`, the one-way delay is `d` in both directions, and the corrections are `c1`,
    `c3` — i.e. `t1 = t0 + d + θ + c1` and `t3 = t2 + d − θ + c3` — then `ClockOffset` returns
    exactly `θ` and `MeanPathDelay` exactly `d`, for all magnitudes below 2^60 ns (36 years;
    nothing wraps, the truncating `/2` is applied to an even number). -/
theorem C18_csptp_offset_delay_exact (t0 t2 : Int) (d θ : Int) (c1 c3 : Int64)
    (hd : Fits60 d) (hθ : Fits60 θ) (h1 : Fits60 c1.toInt) (h3 : Fits60 c3.toInt) :
    let t1 := t0 + d + θ + c1.toInt
    let t3 := t2 + d - θ + c3.toInt
    (clockOffset t0 t1 t2 t3 c1 c3).toInt = θ ∧ (meanPathDelay t0 t1 t2 t3 c1 c3).toInt = d := by
  intro t1 t3
  obtain ⟨ho, hm⟩ := C18_csptp_asymmetric t0 t2 d d θ c1 c3 hd hd hθ h1 h3
  constructor
  · rw [ho, Int.sub_self, Int.add_zero, Int.mul_tdiv_cancel_left _ (by decide)]
  · rw [hm, ← Int.two_mul, Int.mul_tdiv_cancel_left _ (by decide)]

/-- Non-trivial instance: θ = −3 ms, d = 250 µs, corrections 40 ns / 17 ns. -/
example :
    (clockOffset 1790000000000000000 (1790000000000000000 + 250000 - 3000000 + 40)
      1790000000100000000 (1790000000100000000 + 250000 + 3000000 + 17) 40 17).toInt = -3000000 ∧
    (meanPathDelay 1790000000000000000 (1790000000000000000 + 250000 - 3000000 + 40)
      1790000000100000000 (1790000000100000000 + 250000 + 3000000 + 17) 40 17).toInt = 250000 := by
  decide

/-- The one-way delays: exact differences when nothing overflows, and
    `C2SDelay + S2CDelay` does not depend on the UTC correction. -/
theorem C18_csptp_oneway_exact (t0 t1 t2 t3 : Int) (c1 c3 utc : Int64)
    (ha : Fits60 (t1 - t0)) (hb : Fits60 (t3 - t2)) (h1 : Fits60 c1.toInt) (h3 : Fits60 c3.toInt)
    (hu : Fits60 utc.toInt) :
    (c2sDelay t0 t1 c1 utc).toInt = (t1 - t0) - c1.toInt - utc.toInt ∧
    (s2cDelay t2 t3 c3 utc).toInt = (t3 - t2) - c3.toInt + utc.toInt := by
  unfold Fits60 at *
  have ea := timeSub_sub_toInt t1 t0 c1 (t1 - t0 - c1.toInt) (by omega) (by omega) (by omega)
  have eb := timeSub_sub_toInt t3 t2 c3 (t3 - t2 - c3.toInt) (by omega) (by omega) (by omega)
  unfold c2sDelay s2cDelay
  rw [toInt_sub_of_fits _ _ (by omega) (by omega), toInt_add_of_fits _ _ (by omega) (by omega), ea, eb]
  exact ⟨rfl, rfl⟩

end ScionTime.C18
