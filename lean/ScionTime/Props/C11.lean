/-
  C11 — NTS cookie lifecycle: single use, pool capped at eight, requests always fit.
  Models: ScionTime/Model/NtsPool.lean (FetchData / StoreCookie, one client exchange),
  Model/Nts.lean (NewRequestPacket, EncodePacket, the listeners' NTS branch, NewResponsePacket).
-/
import ScionTime.Proofs.NtsReply
import ScionTime.Model.NtsPool
import ScionTime.Gen.Nts
import ScionTime.Gen.Server
import ScionTime.Gen.Client
namespace ScionTime.C11
open ScionTime.Nts ScionTime.NtsPool

theorem C11_pin_numStoredCookies : Gen.Nts.numStoredCookies = (numStoredCookies : Int) := by decide
theorem C11_pin_MaxPacketLen : Gen.Nts.MaxPacketLen = (maxPacketLen : Int) := by decide
theorem C11_pin_ntpPacketLen : Gen.Nts.ntpPacketLen = (ntpPacketLen : Int) := by decide

/-- The listeners' NTS branch is modelled by `serverReply` (and transcribed by the harness, which
    cannot call the listeners without sockets). Pin: the sequence of calls into net/nts and
    net/ntske, and the bound of the cookie loop, in `runIPServer` and `runSCIONServer` are the ones
    the model follows (regenerated from the sources on every run). -/
theorem C11_pin_ntsBranch :
    Gen.Server.ntsBranch_runIPServer = "nts.DecodePacket;ntsreq.FirstCookie;encryptedCookie.Decode;provider.Get;encryptedCookie.Decrypt;nts.ProcessRequest;provider.Current;range(len(ntsreq.Cookies)+len(ntsreq.CookiePlaceholders));serverCookie.EncryptWithNonce;encryptedCookie.Encode;nts.NewResponsePacket;nts.EncodePacket" ∧
    Gen.Server.ntsBranch_runSCIONServer = Gen.Server.ntsBranch_runIPServer :=
  ⟨rfl, rfl⟩

/-! ### the cookies this project's servers issue are 124 bytes -/

/-- Derived in the model: `EncryptWithNonce` + `Encode` of a session with two 32-byte keys
    (AES-SIV-CMAC-256) under any AEAD with SIV's 16-byte tag: 14 + 16 + (14 + 32 + 32 + 16). -/
theorem C11_issued_cookie_length (A : AEAD) (hs : A.Sized) (sc : Triple) (key nonce : Bytes) (keyid : Nat) (ec : Triple)
    (hx : sc.x.length = 32) (hy : sc.y.length = 32) (hn : nonce.length = 16)
    (h : encryptCookie A sc key keyid nonce = .ok ec) : (ecEncode ec).length = 124 := by
  by_cases hk : keyOk key = true
  · rw [encryptCookie_ok A sc key keyid nonce hk hn] at h
    cases h
    have := issued_length A hs sc key keyid nonce hn
    rwa [hx, hy] at this
  · simp [encryptCookie, hk] at h

/-- seven cookie fields of that size fit next to a 32-byte identifier and the authenticator -/
theorem C11_maxFields : maxNumCookies 32 124 = 7 := by decide

/-- **request_shape (packet).** `NewRequestPacket` puts exactly the first cookie of the pool into
    the request and adds placeholders (zeros of the cookie's length) for the cookies missing from
    the pool of eight — capped at what fits `MaxPacketLen`. -/
theorem C11_request_shape (pool : List Bytes) (c2s uid : Bytes) (p : Packet)
    (h : newRequestPacket pool c2s uid = .ok p) :
    ∃ c rest, pool = c :: rest ∧ p.uid = uid ∧ p.cookies = [c] ∧ p.key = c2s ∧ p.pt = [] ∧
      p.placeholders = List.replicate (min (numStoredCookies - pool.length) (maxNumCookies 32 c.length - 1)) (zeros c.length) := by
  unfold newRequestPacket newRequestPacketG at h
  cases pool with
  | nil => simp at h
  | cons c rest =>
    simp only [if_true, Res.ok.injEq] at h
    subst h
    exact ⟨c, rest, rfl, rfl, rfl, rfl, rfl, rfl⟩

/-- **request_shape (wire) + fits.** For every pool level 1..8 of 124-byte cookies, every 32-byte
    identifier and AEAD with the size law: the request encodes (no panic, no truncation) to
    `124 + 128·(1 + k)` bytes with `k = min (8 − level) 6` — at most 1020 ≤ `MaxPacketLen` — and
    decoding it yields exactly one cookie (the pool's first) and `k` fields typed as placeholders. -/
theorem C11_request_on_wire (A : AEAD) (hs : A.Sized) (hdr : Bytes) (c : Bytes) (rest : List Bytes) (c2s uid nonce : Bytes)
    (hh : hdr.length = ntpPacketLen) (hu : uid.length = 32) (hk : keyOk c2s = true) (hn : nonce.length = 16)
    (hc : c.length = 124) (hlev : (c :: rest).length ≤ 8) :
    ∃ p b d, newRequestPacket (c :: rest) c2s uid = .ok p ∧ encodePacket A hdr p nonce = .ok b ∧
      b.length = 124 + 128 * (1 + min (8 - (c :: rest).length) 6) ∧ b.length ≤ maxPacketLen ∧
      decodePacket b = .ok d ∧ d.uid = uid ∧ d.cookies = [c] ∧ d.nph = min (8 - (c :: rest).length) 6 := by
  have hm : maxNumCookies 32 c.length - 1 = 6 := by rw [hc]; decide
  let k := min (8 - (c :: rest).length) 6
  have hp : newRequestPacket (c :: rest) c2s uid =
      .ok ⟨uid, [c], List.replicate k (zeros c.length), c2s, []⟩ := by
    simp only [newRequestPacket, newRequestPacketG, if_true, hm, numStoredCookies, k]
  have wf : WellFormed ⟨uid, [c], List.replicate k (zeros c.length), c2s, []⟩ := by
    refine ⟨by simp [hu], by simp [hu], ?_, ?_, by simp, hk⟩
    · intro v hv; simp at hv; subst hv; omega
    · intro v hv; simp only [List.mem_replicate] at hv; rw [hv.2]; simp [hc]
  have hk6 : k ≤ 6 := Nat.min_le_right _ _
  have hlen : packetLen ⟨uid, [c], List.replicate k (zeros c.length), c2s, []⟩ = 124 + 128 * (1 + k) := by
    simp only [packetLen, fieldsLen, fieldsLen_replicate, zeros_length, hu, hc, ntpPacketLen, List.length_nil]
    omega
  have fit : packetLen ⟨uid, [c], List.replicate k (zeros c.length), c2s, []⟩ ≤ maxPacketLen := by
    rw [hlen]; unfold maxPacketLen; omega
  obtain ⟨b, he0, _, hbl, hd⟩ := encode_decode A hs hdr _ nonce hh wf fit hn
  exact ⟨_, b, _, hp, he0, hbl.trans hlen, hbl ▸ fit, hd, rfl, rfl, by simp [k]⟩

/-- **fits**, as the statement reads: for all pool levels 1..8 the request length is at most
    `MaxPacketLen` (constant regenerated from the repository, see the pins); from level 2 on the cap
    of 6 placeholders does not bind, and the request asks for all `9 - level` missing cookies. -/
theorem C11_fits (level : Nat) (h1 : 1 ≤ level) (h8 : level ≤ 8) :
    124 + 128 * (1 + min (8 - level) 6) ≤ maxPacketLen ∧
    (2 ≤ level → 1 + min (8 - level) 6 = 9 - level) := by
  unfold maxPacketLen; omega

/-- F6 at the pinned commit: at level 1 `NewRequestPacket` asked for seven placeholders, the
    request needs 1148 bytes > 1024. -/
theorem C11_fits_old_false :
    (newRequestPacketOld [zeros 124] (zeros 32) (zeros 32)).bind (fun p => .ok (p.placeholders.length, packetLen p))
      = .ok (7, 1148) ∧ ¬ (1148 ≤ maxPacketLen) := by
  decide

/-- a toy AEAD satisfying both laws (tag = 16 zero bytes) for the concrete instances -/
def toyAEAD : AEAD where
  sealF _ _ p _ := p ++ zeros 16
  openF _ _ c _ := some (c.take (c.length - 16))

example : toyAEAD.Sized ∧ toyAEAD.Lawful :=
  ⟨by intro k n p ad; simp [toyAEAD], by intro k n p ad; simp [toyAEAD]⟩

/-- an AEAD satisfying all three laws (`Open` checks the 16-byte zero tag) -/
def tagAEAD : AEAD where
  sealF _ _ p _ := p ++ zeros 16
  openF _ _ c _ := if 16 ≤ c.length ∧ c.drop (c.length - 16) = zeros 16 then some (c.take (c.length - 16)) else none

example : tagAEAD.Sized ∧ tagAEAD.Lawful ∧ tagAEAD.OpenSized := by
  refine ⟨by intro k n p ad; simp [tagAEAD], ?_, ?_⟩
  · intro k n p ad; simp [tagAEAD]
  · intro k n c ad p h
    simp only [tagAEAD] at h
    split at h
    · rename_i hc
      injection h with h
      subst h
      simp only [List.length_take]
      omega
    · cases h

/-- F6 at the pinned commit, continued: on that level-1 request `EncodePacket` panics with an index
    out of range on its 1024-byte buffer (the client process dies after seven consecutive lost
    responses); after the fix the same pool yields a 1020-byte request. -/
theorem C11_level1_panics_old :
    (newRequestPacketOld [zeros 124] (zeros 32) (zeros 32) >>= fun p => encodePacketOld toyAEAD (zeros 48) p (zeros 16))
      = .panic .index ∧
    ((newRequestPacket [zeros 124] (zeros 32) (zeros 32) >>= fun p => encodePacket toyAEAD (zeros 48) p (zeros 16)).bind
      fun b => .ok b.length) = .ok 1020 := by
  constructor
  · have hp : newRequestPacketOld [zeros 124] (zeros 32) (zeros 32) =
        .ok ⟨zeros 32, [zeros 124], List.replicate 7 (zeros 124), zeros 32, []⟩ := rfl
    rw [hp, Res.bind_ok]
    exact encode_overflow false toyAEAD (zeros 48) _ (zeros 16) rfl (by decide) rfl rfl (by decide)
  · obtain ⟨p, b, _, hp, hb, hl, _⟩ := C11_request_on_wire toyAEAD (fun _ _ _ _ => by simp [toyAEAD])
      (zeros 48) (zeros 124) [] (zeros 32) (zeros 32) (zeros 16) rfl rfl rfl rfl rfl (by decide)
    rw [hp, Res.bind_ok, hb]
    exact congrArg Res.ok hl

/-- Pool histories over ghost-tagged cookies: a request takes the head of the pool
    (`FetchData` hands out `Cookie[0]` and pops it), a store appends. -/
inductive Ev
  | request
  | store (tag : Nat)

structure PS where
  pool : List Nat
  sent : List Nat

def stepEv (s : PS) : Ev → PS
  | .request =>
    match fetchData s.pool with
    | none => s            -- empty pool: the client re-keys (C20), nothing is sent from this pool
    | some (data, rest) => { pool := rest, sent := s.sent ++ data.take 1 }
  | .store t => { s with pool := storeCookie s.pool t }

def run (s : PS) : List Ev → PS
  | [] => s
  | e :: es => run (stepEv s e) es

/-- stored cookies are fresh: never seen before in this history (the server seals every cookie
    with a new random nonce; the harness checks that no cookie bytes repeat). -/
def FreshRun (s : PS) : List Ev → Prop
  | [] => True
  | e :: es => (∀ t, e = .store t → t ∉ s.pool ∧ t ∉ s.sent) ∧ FreshRun (stepEv s e) es

theorem C11_single_use_step (s : PS) (e : Ev) (h : (s.pool ++ s.sent).Nodup)
    (hf : ∀ t, e = .store t → t ∉ s.pool ∧ t ∉ s.sent) : ((stepEv s e).pool ++ (stepEv s e).sent).Nodup := by
  cases e with
  | request =>
    cases hp : s.pool with
    | nil => simp [stepEv, fetchData, hp] at h ⊢; exact h
    | cons c rest =>
      rw [hp] at h
      simp only [stepEv, fetchData, hp, List.take_succ_cons, List.take_zero]
      have : (rest ++ (s.sent ++ [c])).Perm (c :: (rest ++ s.sent)) := by
        rw [← List.append_assoc]
        exact List.perm_append_comm
      exact (List.Perm.nodup_iff this).mpr h
  | store t =>
    obtain ⟨h1, h2⟩ := hf t rfl
    simp only [stepEv, storeCookie]
    have : ((s.pool ++ [t]) ++ s.sent).Perm (t :: (s.pool ++ s.sent)) := by
      simp only [List.append_assoc, List.singleton_append]
      exact List.perm_middle
    refine (List.Perm.nodup_iff this).mpr (List.nodup_cons.mpr ⟨?_, h⟩)
    simp [h1, h2]

/-- **single_use.** Along every history of requests and stores of fresh cookies, starting from a
    pool of distinct cookies, no cookie is sent twice (and nothing sent is ever back in the pool). -/
theorem C11_single_use (evs : List Ev) (s : PS) (h : (s.pool ++ s.sent).Nodup) (hf : FreshRun s evs) :
    (run s evs).sent.Nodup ∧ ∀ t ∈ (run s evs).sent, t ∉ (run s evs).pool := by
  induction evs generalizing s with
  | nil =>
    simp only [run]
    exact ⟨(List.nodup_append.mp h).2.1, fun t ht hp => (List.nodup_append.mp h).2.2 t hp t ht rfl⟩
  | cons e es ih => exact ih (stepEv s e) (C11_single_use_step s e h hf.1) hf.2

example : FreshRun ⟨[1, 2], []⟩ [.request, .store 3, .request, .request, .request, .store 4] := by
  simp [FreshRun, stepEv, fetchData, storeCookie]

/-- a request takes exactly one cookie from a non-empty pool -/
theorem C11_request_pops_one (A : AEAD) (st : Client) (hdr rnd : Bytes) (h : st.pool ≠ []) :
    (request A st hdr rnd).1.pool.length + 1 = st.pool.length := by
  cases hp : st.pool with
  | nil => exact absurd hp h
  | cons c rest =>
    simp only [request, fetchData, hp]
    split <;> simp

/-- an accepted response appends exactly the cookies `ProcessResponse` authenticated; a rejected
    datagram leaves the pool untouched -/
theorem C11_response_stores (A : AEAD) (st : Client) (b : Bytes) :
    (∃ cs d, decodePacket b = .ok d ∧ processResponse A b st.s2c d st.reqId = .ok cs ∧
        (response A st b).1.pool = st.pool ++ cs ∧ (response A st b).2 = .ok ()) ∨
    ((response A st b).1 = st ∧ (response A st b).2 ≠ .ok ()) := by
  unfold response
  cases hd : decodePacket b with
  | ok d =>
    simp only [Res.bind_ok]
    cases hp : processResponse A b st.s2c d st.reqId with
    | ok cs => left; exact ⟨cs, d, rfl, hp, by simp [storeCookies_foldl], rfl⟩
    | err _ | panic _ | hang => right; simp
  | err _ | panic _ | hang => right; simp

/-- **pool_bounds / lossfree_full.** With a server that returns one cookie per requested field
    (`1 + min (8 − l) 6` of them, see `C11_request_on_wire` and `C11_server_reply_ok`), a
    successful exchange takes the pool from level `l ∈ 1..8` to `l − 1 + 1 + min (8 − l) 6`: never
    below `l`, never above eight, exactly eight from every level ≥ 2 — in particular a full pool
    stays full (from level 1 it reaches 7 and is full after the next exchange). -/
theorem C11_pool_bounds (l : Nat) (h1 : 1 ≤ l) (h8 : l ≤ 8) :
    l ≤ (l - 1) + (1 + min (8 - l) 6) ∧ (l - 1) + (1 + min (8 - l) 6) ≤ 8 ∧
    (2 ≤ l → (l - 1) + (1 + min (8 - l) 6) = 8) := by
  omega

theorem C11_lossfree_full : (8 - 1) + (1 + min (8 - 8) 6) = 8 := by decide


/-- **server_reply_ok.** For every AEAD with the round-trip and size laws: when the listener's
    checks pass for a datagram `b` (it decodes to `d`, its first cookie `c0` decodes to `ec`, the
    provider has key `ec.num`, the cookie opens to session `sc` with two 32-byte keys, and
    `ProcessRequest` authenticates `b` under `sc`'s C2S key, yielding cookie list `cs`), then for
    every current key of valid size, response header and random stream the branch produces a reply
    `r` with: `|r| ≤ MaxPacketLen`, 4-byte aligned; it carries `min (as many as fit) (number of
    cookie + placeholder fields)` ≥ 1 fresh cookies; a requester with an aligned identifier decodes
    `r` and `ProcessResponse` under the S2C key and its identifier accepts it and recovers exactly
    those cookies; and every one of them decodes and opens under the *current* key, whose id it
    carries, to the same session `sc`.
    (`OpenSized`: `Open` only accepts ciphertexts 16 bytes longer than the plaintext — with it
    the request's cookie is proved to be at least the 124 bytes of an issued one, which is what makes
    the size test in `ProcessRequest` sufficient.) -/
theorem C11_server_reply_ok (A : AEAD) (hl : A.Lawful) (hs : A.Sized) (ho : A.OpenSized) (keys : Nat → Option Bytes) (curId : Nat) (curKey : Bytes)
    (b hdr rnd : Bytes) (d : Decoded) (c0 : Bytes) (ec sc : Triple) (key : Bytes) (cs : List Bytes)
    (hh : hdr.length = ntpPacketLen)
    (hd : decodePacket b = .ok d) (hc0 : firstCookie d = .ok c0) (hec : ecDecode c0 = .ok ec)
    (hkey : keys ec.num = some key) (hsc : decryptCookie A ec key = .ok sc)
    (hreq : processRequest A b sc.y d = .ok cs)
    (hx : sc.x.length = 32) (hy : sc.y.length = 32) (hnum : sc.num < 65536)
    (hcur : keyOk curKey = true) :
    ∃ r fresh, serverReply A keys curId curKey b hdr rnd = .ok r ∧ r.length ≤ maxPacketLen ∧ r.length % 4 = 0 ∧
      fresh.length = min (maxNumCookies d.uid.length 124) (cs.length + d.nph) ∧ 1 ≤ fresh.length ∧
      (d.uid.length % 4 = 0 → ∃ d', decodePacket r = .ok d' ∧ processResponse A r sc.x d' d.uid = .ok fresh) ∧
      ∀ f ∈ fresh, ∃ ec', ecDecode f = .ok ec' ∧ ec'.num = curId % 65536 ∧ decryptCookie A ec' curKey = .ok sc := by
  have hc0len : 124 ≤ c0.length := by
    have := opened_cookie_len A ho c0 ec sc key hec hsc
    omega
  obtain ⟨hu32, hroom, hauth⟩ := processRequest_ok_inv A b sc.y d cs hreq
  obtain ⟨extra, hcs⟩ := authenticate_prefix A b sc.y d cs hauth
  obtain ⟨crest, hdc⟩ : ∃ crest, d.cookies = c0 :: crest := by
    unfold firstCookie at hc0
    split at hc0
    · cases hc0; exact ⟨_, by assumption⟩
    · cases hc0
  have hn1 : 1 ≤ cs.length + d.nph := by rw [← hcs, hdc]; simp; omega
  have hroom' : 1 ≤ maxNumCookies d.uid.length 124 := by
    have := maxNumCookies_mono d.uid.length c0.length hc0len
    simp only [noRoomForCookie, hdc, decide_eq_false_iff_not] at hroom
    omega
  obtain ⟨hlen, hall⟩ := freshCookies_spec A sc curKey curId hcur (cs.length + d.nph) rnd
  generalize hfr : freshCookies A sc curKey curId (cs.length + d.nph) rnd = fr at hlen hall
  obtain ⟨fresh, rnd'⟩ := fr
  obtain ⟨c1, frest, rfl⟩ := List.exists_cons_of_length_pos (l := fresh) (Nat.lt_of_lt_of_eq hn1 hlen.symm)
  have hL : ∀ v ∈ c1 :: frest, v.length = 124 := fun v hv => by
    obtain ⟨nn, hnn, rfl⟩ := hall v hv
    rw [issued_length A hs sc curKey curId nn hnn, hx, hy]
  obtain ⟨pkt, r, hpk, her, hrl, hr4, hresp⟩ := reply_ok A hl hs hdr d.uid sc.x (draw16 rnd').1 _ hh hu32 hroom'
    (by simp [keyOk, hx]) (draw16_length _) (List.cons_ne_nil _ _) hL
  refine ⟨r, (c1 :: frest).take (maxNumCookies d.uid.length 124), ?_, hrl, hr4, by rw [List.length_take, hlen],
    by rw [List.length_take, hlen]; omega, hresp, fun f hf => ?_⟩
  · simp only [decodePacket, ecDecode, decryptCookie, processRequest, newResponsePacket, encodePacket] at hd hec hsc hreq hpk her
    simp only [serverReply, serverReplyG, hd, hc0, hec, hkey, hsc, hreq, bind, Res.bind, hfr, List.isEmpty_cons,
      Bool.false_eq_true, if_false, hpk, her]
  · obtain ⟨nn, hnn, rfl⟩ := hall f (List.mem_of_mem_take hf)
    exact issued_opens A hl hs sc curKey curId nn hcur hnn hnum (by simp only [scEncode, encodeTLV_length]; omega)

/-- a client request as the model's own client builds it (pool of two issued cookies) -/
def sampleRequest : Res Bytes :=
  let ck := ecEncode ⟨1, zeros 16, scEncode ⟨15, zeros 32, zeros 32⟩ ++ zeros 16⟩
  newRequestPacket [ck, ck] (zeros 32) (zeros 32) >>= fun p => encodePacket toyAEAD (zeros 48) p (zeros 16)

set_option maxRecDepth 100000 in
/-- the hypotheses of `C11_server_reply_ok` are met by that request (and it asks for 7 cookies) -/
example :
    (do let b ← sampleRequest
        let d ← decodePacket b
        let c0 ← firstCookie d
        let ec ← ecDecode c0
        let sc ← decryptCookie toyAEAD ec (zeros 32)
        let cs ← processRequest toyAEAD b sc.y d
        pure (sc.x.length, sc.y.length, sc.num, c0.length, cs.length + d.nph, d.uid.length)) = .ok (32, 32, 15, 124, 7, 32) := by
  decide +kernel

/-- With the requests this project's client sends (32-byte identifier, `1 + k ≤ 7` fields) the cap
    does not bite: the reply carries exactly one cookie per field. -/
theorem C11_reply_count (n : Nat) (h : n ≤ 7) : min (maxNumCookies 32 124) n = n := by
  rw [C11_maxFields]; omega

/-! ### the cookie budget of a reply, for every unique-identifier length

`C11_server_reply_ok` is stated for the identifier the request carries (`d.uid`, any length the
listener admits). `replyLen` and the `C11_budget_*` theorems isolate the arithmetic it rests on: the
budget `maxNumCookies u c` must be computed from the length `u` of the identifier that is echoed. -/

/-- bytes of a reply that echoes a `u`-byte identifier and carries `n` cookie fields of `c`
    bytes (`c` a multiple of 4, as every issued cookie is) inside its authenticator: header,
    identifier field, authenticator field (4 + 4 + 16-byte nonce + plaintext + 16-byte tag) -/
def replyLen (u c n : Nat) : Nat := ntpPacketLen + (4 + pad4 u) + (4 + 4 + 16 + (n * (4 + c) + 16))

/-- `replyLen` is the length of the reply in the model: for every identifier of at least 32 bytes
    (aligned or not) and `n` cookies of one aligned length `c`, if `replyLen` is within
    `MaxPacketLen` then `EncodePacket` of the response packet (plaintext = the `n` cookie fields)
    succeeds, untruncated, with exactly that many bytes. -/
theorem C11_reply_len (A : AEAD) (hs : A.Sized) (hdr uid key nonce : Bytes) (cs : List Bytes) (c : Nat)
    (hh : hdr.length = ntpPacketLen) (hu : 32 ≤ uid.length) (hk : keyOk key = true) (hn : nonce.length = 16)
    (hc : c % 4 = 0) (hcs : ∀ v ∈ cs, v.length = c) (fit : replyLen uid.length c cs.length ≤ maxPacketLen) :
    ∃ b, encodePacket A hdr ⟨uid, [], [], key, fields extCookie cs⟩ nonce = .ok b ∧
      b.length = replyLen uid.length c cs.length :=
  reply_len A hs hdr uid key nonce cs c hh hu hk hn hc hcs fit

/-- **budget_fits.** For every identifier length `u` and cookie length `c`: any number of cookies
    up to `maxNumCookies u c` (if that is at least one) gives a reply within `MaxPacketLen`. -/
theorem C11_budget_fits (u c n : Nat) (hc : c % 4 = 0) (h1 : 1 ≤ n) (hn : n ≤ maxNumCookies u c) :
    replyLen u c n ≤ maxPacketLen :=
  budget_fits u c n hc h1 hn

/-- **budget_maximal** ("as many as fit"): one cookie more than `maxNumCookies u c` never fits,
    whenever the identifier itself leaves room for the authenticator. -/
theorem C11_budget_maximal (u c : Nat) (hc : c % 4 = 0) (hu : ntpPacketLen + (4 + pad4 u) + 40 ≤ maxPacketLen) :
    maxPacketLen < replyLen u c (maxNumCookies u c + 1) := by
  unfold maxNumCookies
  have hp : pad4 c = c := by unfold pad4; omega
  rw [hp]
  have hk : 0 < 4 + c := by omega
  generalize hB : maxPacketLen - ntpPacketLen - (4 + pad4 u) - 40 = B
  have hlt : B < (B / (4 + c) + 1) * (4 + c) := by
    have h1 := Nat.div_add_mod B (4 + c)
    have h2 := Nat.mod_lt B hk
    have h3 : (B / (4 + c) + 1) * (4 + c) = (4 + c) * (B / (4 + c)) + (4 + c) := by
      rw [Nat.add_mul, Nat.one_mul, Nat.mul_comm]
    omega
  unfold replyLen
  unfold maxPacketLen ntpPacketLen at *
  omega

/-- the budget as a function of the identifier length for the 124-byte cookies this project's
    servers issue: 7 only up to 36 bytes, 6 up to 164, …, 1 up to 804, none beyond (such
    requests are refused by `ProcessRequest`). -/
theorem C11_budget_by_uid (u : Nat) :
    (u ≤ 36 → maxNumCookies u 124 = 7) ∧ (36 < u → u ≤ 164 → maxNumCookies u 124 = 6) ∧
    (164 < u → u ≤ 292 → maxNumCookies u 124 = 5) ∧ (292 < u → u ≤ 420 → maxNumCookies u 124 = 4) ∧
    (420 < u → u ≤ 548 → maxNumCookies u 124 = 3) ∧ (548 < u → u ≤ 676 → maxNumCookies u 124 = 2) ∧
    (676 < u → u ≤ 804 → maxNumCookies u 124 = 1) ∧ (804 < u → maxNumCookies u 124 = 0) := by
  unfold maxNumCookies maxPacketLen ntpPacketLen pad4
  omega

/-- A budget computed for a 32-byte identifier is wrong for every longer one: next to a 37-byte
    identifier the seven cookies that fit next to a 32-byte one make a reply of 1028 bytes. -/
example : maxNumCookies 32 124 = 7 ∧ maxNumCookies 37 124 = 6 ∧ replyLen 37 124 7 = 1028 ∧
    replyLen 37 124 6 = 900 ∧ replyLen 32 124 7 = 1020 := by decide

/-- non-vacuity of `C11_budget_fits` / `C11_budget_maximal` at a long identifier -/
example : 124 % 4 = 0 ∧ 1 ≤ 2 ∧ 2 ≤ maxNumCookies 600 124 ∧ ntpPacketLen + (4 + pad4 600) + 40 ≤ maxPacketLen := by decide

/-! ### the receive loop of one exchange (client_ip.go / client_scion.go)

The clients look at up to `maxNumRetries + 1` datagrams per exchange. `DecodePacket` appends the
cleartext cookie fields of a datagram to the packet it is given *while it walks the datagram* —
before it knows whether a unique identifier or an authenticator follows — and `ProcessResponse`
stores everything that packet holds once a datagram authenticates. The statements below are about
the loop as the code has it (`recvLoop`: a packet value of its own per datagram): whatever a
refused datagram carried has no effect on the pool. -/

/-- `recvLoop` looks at `maxNumRetries + 1` datagrams: the constant of both client functions -/
theorem C11_pin_maxNumRetries :
    Gen.Client.maxNumRetriesIP = (maxNumRetries : Int) ∧ Gen.Client.maxNumRetriesSCION = (maxNumRetries : Int) := by decide

/-- `recvLoop` applies `response` — decoding from the empty packet — to every datagram: in both
    client functions the variable handed to `nts.DecodePacket` is declared inside the body of the
    receive loop (exported by `harness/extract/x_c11.go`). -/
theorem C11_pin_recvLoopPacketScope :
    Gen.Client.ntsRespPacketScopeIP = "loop" ∧ Gen.Client.ntsRespPacketScopeSCION = "loop" := by decide

/-- a datagram the NTS stage refuses (or that makes it crash) leaves the client's state as it was -/
theorem C11_response_refused_no_trace (A : AEAD) (st : Client) (b : Bytes) (h : (response A st b).2 ≠ .ok ()) :
    (response A st b).1 = st := by
  rcases C11_response_stores A st b with ⟨cs, d, _, _, _, hok⟩ | ⟨hst, _⟩
  · exact absurd hok h
  · exact hst

/-- **recv_junk_prefix.** A refused datagram in front costs one retry and nothing else: the loop
    continues on the remaining datagrams from the very same state. -/
theorem C11_recv_junk_prefix (A : AEAD) (n : Nat) (st : Client) (j : Bytes) (ds : List Bytes) (e : Err)
    (hj : (response A st j).2 = .err e) :
    recvLoop A (n + 1) st (j :: ds) = recvLoop A n st ds := by
  have hst : (response A st j).1 = st := C11_response_refused_no_trace A st j (by rw [hj]; simp)
  have : response A st j = (st, .err e) := Prod.ext hst hj
  simp only [recvLoop, this]

/-- **recv_loop_pool.** For every budget, state and sequence of datagrams: either the loop ends
    with `.ok true` and the pool has grown by exactly the cookies of ONE datagram `b` — those
    `ProcessResponse` returns for `b` decoded on its own from the empty packet, under the S2C key
    and the identifier of the outstanding request — every datagram in front of `b` was refused and
    `b` is within the budget; or nothing at all changed (no datagram was accepted). Nothing else
    of the client state changes either way. -/
theorem C11_recv_loop_pool (A : AEAD) (n : Nat) (st : Client) (ds : List Bytes) :
    (∃ pre b post d cs, ds = pre ++ b :: post ∧ pre.length < n ∧
        (∀ x ∈ pre, ∃ e, (response A st x).2 = .err e) ∧
        decodePacket b = .ok d ∧ processResponse A b st.s2c d st.reqId = .ok cs ∧
        recvLoop A n st ds = ({ st with pool := st.pool ++ cs }, .ok true)) ∨
    ((recvLoop A n st ds).1 = st ∧ (recvLoop A n st ds).2 ≠ .ok true) := by
  induction n generalizing ds with
  | zero => right; simp [recvLoop]
  | succ n ih =>
    cases ds with
    | nil => right; simp [recvLoop]
    | cons b rest =>
      rcases C11_response_stores A st b with ⟨cs, d, hd, hp, hpool, hok⟩ | ⟨hst, hne⟩
      · left
        refine ⟨[], b, rest, d, cs, rfl, Nat.succ_pos n, by simp, hd, hp, ?_⟩
        simp only [recvLoop, response, hd, Res.bind_ok, hp, storeCookies_foldl]
      · cases hr : (response A st b).2 with
        | ok u => exact absurd (by rw [hr]) hne
        | err e =>
          have hstep := C11_recv_junk_prefix A n st b rest e hr
          rcases ih rest with ⟨pre, b', post, d, cs, hds, hlen, hpre, hd, hp, hloop⟩ | hno
          · left
            exact ⟨b :: pre, b', post, d, cs, by simp [hds], by simp; omega, List.forall_mem_cons.mpr ⟨⟨e, hr⟩, hpre⟩,
              hd, hp, by rw [hstep, hloop]⟩
          · right; rw [hstep]; exact hno
        | panic _ | hang =>
          right
          have : response A st b = (st, _) := Prod.ext hst hr
          simp [recvLoop, this]

/-- … so with the clients' budget (`maxNumRetries + 1 = 2`) the history [refused datagram,
    reply] ends exactly like the reply alone: same pool, same verdict. -/
theorem C11_recv_junk_then_reply (A : AEAD) (st : Client) (j g : Bytes) (e : Err)
    (hj : (response A st j).2 = .err e) (u : Unit) (hg : (response A st g).2 = .ok u) :
    recvLoop A (maxNumRetries + 1) st [j, g] = ((response A st g).1, .ok true) := by
  rw [show maxNumRetries + 1 = 1 + 1 from rfl, C11_recv_junk_prefix A 1 st j [g] e hj]
  have : response A st g = ((response A st g).1, .ok u) := Prod.ext rfl hg
  simp only [recvLoop]
  rw [this]

/-- **exchange_pool.** One whole exchange from a non-empty pool `c :: rest`: the pool afterwards
    is `rest` (no reply accepted) or `rest` followed by the cookies of one single datagram of the
    exchange that authenticates under S2C with the identifier of this request (`copyN 32 rnd`),
    decoded on its own. In particular its level is `rest.length + cs.length`: with a reply that
    carries at most one cookie per requested field (`C11_pool_bounds`) never more than eight. -/
theorem C11_exchange_pool (A : AEAD) (st : Client) (hdr rnd : Bytes) (ds : List Bytes) (c : Bytes) (rest : List Bytes)
    (hp : st.pool = c :: rest) :
    (exchange A st hdr rnd ds).1.pool = rest ∨
    ∃ b ∈ ds, ∃ d cs, decodePacket b = .ok d ∧ processResponse A b st.s2c d (copyN 32 rnd) = .ok cs ∧
      (exchange A st hdr rnd ds).1.pool = rest ++ cs := by
  let st1 : Client := { st with pool := rest, reqId := copyN 32 rnd }
  have hreq : (request A st hdr rnd).1 = st1 := by
    simp only [request, fetchData, hp]
    split <;> rfl
  have hq : ∀ r, (request A st hdr rnd).2 = r → request A st hdr rnd = (st1, r) := fun _ hr => Prod.ext hreq hr
  cases hr : (request A st hdr rnd).2 with
  | ok req =>
    rcases C11_recv_loop_pool A (maxNumRetries + 1) st1 ds with ⟨pre, b, post, d, cs, hds, _, _, hd, hpr, hloop⟩ | ⟨hst, hne⟩
    · right
      refine ⟨b, by simp [hds], d, cs, hd, hpr, ?_⟩
      simp only [exchange, hq _ hr, hloop]
      rfl
    · left
      simp only [exchange, hq _ hr]
      split <;> simp_all <;> rfl
  | err _ | panic _ | hang => left; simp only [exchange, hq _ hr]; rfl

/-- level bound of one exchange: a pool of `l ∈ 1..8` cookies and an accepted reply with at most
    one cookie per requested field (`1 + min (8 − l) 6`, `C11_request_shape`) never exceed eight,
    whatever was delivered in front of the reply. -/
theorem C11_exchange_level (l k : Nat) (h1 : 1 ≤ l) (h8 : l ≤ 8) (hk : k ≤ 1 + min (8 - l) 6) :
    (l - 1) + k ≤ 8 := by omega

/-- a datagram that is nothing but the NTP header and two (bogus) cookie fields — no unique
    identifier, no authenticator: the demonstration datagram of seeded change C11-8 (DESIGN 13.5) -/
def junkTwoCookies : Bytes :=
  zeros 48 ++ (be16 extCookie ++ be16 28 ++ List.replicate 24 7) ++ (be16 extCookie ++ be16 28 ++ List.replicate 24 7)

/-- a client with two 24-byte cookies left, and the server's reply to its request (identifier
    `copyN 32 rnd` with `rnd` = 48 zero bytes) carrying one fresh cookie -/
def sampleClient : Client := { pool := [List.replicate 24 1, List.replicate 24 2], c2s := zeros 32, s2c := zeros 32 }
def sampleReply : Res Bytes :=
  newResponsePacket [List.replicate 24 9] (zeros 32) (zeros 32) >>= fun p => encodePacket tagAEAD (zeros 48) p (zeros 16)

set_option maxRecDepth 100000 in
/-- non-vacuity, and the history of seeded change C11-8 in the model: the junk datagram decodes two
    cookie fields and is refused (no unique identifier); delivered in front of the genuine reply it
    changes nothing — the pool ends as [second old cookie, the reply's cookie], level 2. -/
example :
    (response tagAEAD (request tagAEAD sampleClient (zeros 48) (zeros 48)).1 junkTwoCookies).2 = .err .noUid ∧
    (sampleReply.bind fun g =>
      match exchange tagAEAD sampleClient (zeros 48) (zeros 48) [junkTwoCookies, g] with
      | (st, .ok (_, acc)) => .ok (acc, st.pool)
      | (_, _) => .err .noAuth) = .ok (true, [List.replicate 24 2, List.replicate 24 9]) := by
  decide +kernel

end ScionTime.C11
