/-
  C08 / C20 — the accept loops of the NTS-KE servers (`runNTSKEServerTLS`, `runNTSKEServerQUIC`)
  keep serving whatever arrived before: model Model/AcceptLoop.lean, rows pinned in Props/SkelC20
  (Model/Skel/NtskeSrv.lean), executed by harness c20srv op `ks.storm` (aborted / silent / garbage /
  failed-handshake connections, some of them still held open, then a genuine exchange on the real
  loops, served within a bound).
-/
import ScionTime.Model.AcceptLoop
import ScionTime.Model.NtskeSrv
namespace ScionTime.C08Accept
open ScionTime.AcceptLoop List

variable {κ α : Type}

/-- Every connection `Accept` returns is handed to a handler exactly once, in order, and nothing
    else is: errors in between (any number, of either kind) neither drop nor duplicate one. -/
theorem C08Accept_serves_exactly_the_accepted (l : List (Acc κ)) :
    served l = l.filterMap Acc.conn? := by
  rw [served, loop, List.filterMap_map]
  congr 1
  funext a
  cases a <;> rfl

/-- The loop performs exactly one iteration per result of `Accept` and never leaves: what it does
    on a longer sequence extends what it did on the prefix. -/
theorem C08Accept_never_exits (l1 l2 : List (Acc κ)) :
    loop (l1 ++ l2) = loop l1 ++ loop l2 ∧ (loop l1).length = l1.length := by
  simp [loop]

/-- PROGRESS (C08's clause for the NTS-KE server): after ANY finite sequence of earlier results —
    aborted, silent, garbage or failed-handshake connections, accept errors — the next connection is
    handed to a handler, and its answer is the handler's answer to its own stream alone. -/
theorem C08Accept_genuine_after_storm (handle : κ → α) (storm : List (Acc κ)) (c : κ) (later : List (Acc κ)) :
    answers handle (storm ++ .conn c :: later) =
      answers handle storm ++ handle c :: answers handle later ∧
    (answers handle (storm ++ .conn c :: later))[(answers handle storm).length]? = some (handle c) := by
  simp only [answers, C08Accept_serves_exactly_the_accepted, List.filterMap_append, List.filterMap_cons,
    Acc.conn?, List.map_append, List.map_cons, true_and]
  simp

/-- for the real servers: the answer to the genuine connection is `NtskeSrv.handle` of that
    connection, whatever the storm was -/
example (storm : List (Acc NtskeSrv.Conn)) (c : NtskeSrv.Conn) :
    (answers NtskeSrv.handle (storm ++ [.conn c])).getLast? = some (NtskeSrv.handle c) := by
  have := (C08Accept_genuine_after_storm NtskeSrv.handle storm c []).1
  rw [this]; simp [answers, served, loop]

example : served [Acc.tempErr, .conn 1, .closed, .conn 2, .tempErr] = [1, 2] := by decide

/-- Observation (not reachable from the network): once `Accept` fails permanently — the listener
    was closed, or over QUIC the context was cancelled — the loop does not end and does not wait:
    for every n it performs n more iterations, none of which blocks, each writing one log record,
    none serving anything (a busy loop). In the service the context is `context.Background()` and
    nobody closes the listener, so the regime is entered only through a future change. -/
theorem C08Accept_closed_spins (n : Nat) :
    loop (List.replicate n (Acc.closed : Acc κ)) = List.replicate n Ev.logErr ∧
    (List.replicate n (Acc.closed : Acc κ)).all (fun a => !a.blocks) = true ∧
    served (List.replicate n (Acc.closed : Acc κ)) = [] := by
  refine ⟨by simp [loop, body], by simp [Acc.blocks], ?_⟩
  rw [C08Accept_serves_exactly_the_accepted, List.filterMap_replicate_of_none rfl]

/-- … whereas a temporary error storm of any length delays but does not lose a connection. -/
theorem C08Accept_temp_errors_lose_nothing (n : Nat) (c : κ) :
    served (List.replicate n Acc.tempErr ++ [.conn c]) = [c] := by
  rw [C08Accept_serves_exactly_the_accepted, List.filterMap_append, List.filterMap_replicate_of_none rfl]
  rfl

end ScionTime.C08Accept
