/-
  C08Scion — fragment of C08 for the SCION listener: no parsed packet makes
  `runSCIONServer`'s decision logic panic (after the `fix:` commits), and each F4 input makes
  the code as found (`handleOld`) panic.  Model: `ScionTime/Model/ScionSrv.lean`.

  Scope: the listener's own logic after `DecodeLayers` (address conversion, authenticator
  metadata, DRKey fetch, MAC computation result, `Path.Reverse` result).  gopacket/slayers
  parsing and serialisation, `DeriveHostHostKey`, and the NTP/NTS payload layer are outside
  (the latter: C08's decoder models).
-/
import ScionTime.Proofs.ScionSrv
namespace ScionTime.C08Scion
open ScionTime.ScionSrv

/-- The repaired DRKey check never panics. -/
theorem C08Scion_authCheck_total (cfg : Cfg) (p : Pkt) : ∀ c, authCheck true cfg p ≠ .panic c :=
  fun _ => authCheck_spec

/-- **For every configuration and every parsed packet, the repaired listener step returns to the
    receive loop (drop / reply / forward) — it never panics.** -/
theorem C08Scion_handle_total (cfg : Cfg) (p : Pkt) : ∀ c, handle cfg p ≠ .panic c :=
  fun _ => handle_spec

/-- Progress: every step of the repaired listener yields exactly one of drop / reply / forward. -/
theorem C08Scion_listener_progress (cfg : Cfg) (p : Pkt) :
    (∃ r, handle cfg p = .drop r) ∨ (∃ r, handle cfg p = .reply r) ∨ (∃ f, handle cfg p = .forward f) := by
  cases hh : handle cfg p with
  | drop r => exact Or.inl ⟨r, rfl⟩
  | reply r => exact Or.inr (Or.inl ⟨r, rfl⟩)
  | forward f => exact Or.inr (Or.inr ⟨f, rfl⟩)
  | panic c => exact absurd hh (C08Scion_handle_total cfg p c)

/-- `PacketAuthOptMetadata` / `PacketAuthOptMAC` are only called on 28-byte data by the repaired
    listener; on exactly those they do not panic. -/
theorem C08Scion_authMeta_total (d : List Nat) (h : d.length = optDataLen) :
    (∀ c, authMeta d ≠ .panic c) ∧ (∀ c, authMAC d ≠ .panic c) := by
  unfold authMeta authMAC
  simp [h]

/-! ## F4: the code as found — one datagram kills the listener (inputs reproduced on the real
    code by harness/cmd/c13, see notes/C13.md) -/

/-- A well-formed NTP request to the service port, on the service socket, mock keys. -/
def req : Pkt :=
  { lastHop := 0, tc := 0, srcIA := 561850441797029, dstIA := 843325418555255, srcType := 0, dstType := 0,
    srcAddr := [10, 252, 240, 110], dstAddr := [127, 0, 13, 1], pathType := 0, path := [], rev := some (0, []),
    l4 := .udp, srcPort := 37407, dstPort := 10123, udpLenOk := true, e2e := false,
    auth := none, mac := none, payload := [35], ntpOk := true }

def cfgMock : Cfg := serverCfg 10123 10123 46 true true false
def cfgNoMock : Cfg := serverCfg 10123 10123 46 false true false

def authOpt (macByte : Nat) : List Nat := [0, 3, 0, 123, 0, 0, 0, 0, 0, 0, 0, 0] ++ List.replicate 16 macByte
/-- client-SPI authenticator with a matching MAC -/
def reqAuth : Pkt := { req with e2e := true, auth := some (authOpt 7), mac := some (List.replicate 16 7) }
/-- client-SPI authenticator on an unknown path type: the MAC cannot be computed -/
def reqAuthUnknownPath : Pkt := { req with pathType := 6, path := [1, 2, 3, 4], rev := none, e2e := true, auth := some (authOpt 0), mac := none }
/-- request over a complete one-hop path (32 bytes); its reverse is a SCION path (36 bytes) -/
def reqOneHop : Pkt := { req with pathType := 2, path := List.replicate 32 1, rev := some (1, List.replicate 36 1) }

/-- sanity: the base request is served by both versions. -/
theorem C08Scion_base_served :
    (∃ r, handleOld cfgMock req = .reply r) ∧ (∃ r, handle cfgMock req = .reply r) :=
  ⟨⟨_, rfl⟩, ⟨_, rfl⟩⟩

/-- F4(a): destination host address type 9 (length 8). -/
theorem C08Scion_F4_addr_len8 :
    handleOld cfgMock { req with dstType := 9, dstAddr := [81, 115, 188, 109, 36, 10, 219, 178] }
      = .panic "explicit:unexpected_IP_address_byte_slice" := by decide +kernel

/-- F4(a): source host address type 2 (length 12). -/
theorem C08Scion_F4_addr_len12 :
    handleOld cfgMock { req with srcType := 2, srcAddr := List.replicate 12 1 }
      = .panic "explicit:unexpected_IP_address_byte_slice" := by decide +kernel

/-- F4(b): authenticator option with empty data (any length ≠ 28). -/
theorem C08Scion_F4_auth_len :
    handleOld cfgMock { req with e2e := true, auth := some [] }
      = .panic "explicit:unexpected_authenticator_option_data" := by decide +kernel

/-- F4(c): path whose `Reverse()` fails (one-hop path with the second hop not filled in, or an
    unknown path type), NTP request. -/
theorem C08Scion_F4_reverse_ntp :
    handleOld cfgMock { req with pathType := 2, path := List.replicate 32 0, rev := none }
      = .panic "explicit:reverse" := by decide +kernel

/-- F4(c): the same through an SCMP traceroute request (also on the dispatcher). -/
theorem C08Scion_F4_reverse_scmp :
    handleOld dispatcherCfg { req with pathType := 5, path := [1, 2, 3, 4], rev := none, l4 := .scmp 130 0 }
      = .panic "explicit:reverse" := by decide +kernel

/-- F4(d): authenticator with the client SPI, no mock keys, nil daemon connector. -/
theorem C08Scion_F4_nil_connector :
    handleOld cfgNoMock reqAuth = .panic "nil" := by decide +kernel

/-- F4(e) (found by this check): client-SPI authenticator on a packet with an unknown path type —
    `spao.ComputeAuthCMAC` returns an error and the listener `panic(err)`s. -/
theorem C08Scion_F4_mac_error :
    handleOld cfgMock reqAuthUnknownPath = .panic "explicit:mac" := by decide +kernel

/-- The same inputs on the repaired code: dropped. -/
theorem C08Scion_F4_repaired :
    handle cfgMock { req with dstType := 9, dstAddr := [81, 115, 188, 109, 36, 10, 219, 178] } = .drop "dst-addr" ∧
    handle cfgMock { req with e2e := true, auth := some [] } = .drop "auth-option-length" ∧
    handle cfgMock { req with pathType := 2, path := List.replicate 32 0, rev := none } = .drop "reverse" ∧
    handle cfgMock reqAuthUnknownPath = .drop "mac-error" := by
  decide +kernel

/-- … and the nil-connector request is served without authentication (fetch error is logged). -/
theorem C08Scion_F4_nil_connector_repaired :
    ∃ r, handle cfgNoMock reqAuth = .reply r ∧ r.auth = none := ⟨_, rfl, rfl⟩

/-- One-hop request (found by this check): the code as found leaves the reply's path-type field
    at one-hop (2) although the reversed path is a SCION path (1); repaired: the reversed
    path's type. -/
theorem C08Scion_stale_path_type :
    (∃ r, handleOld cfgMock reqOneHop = .reply r ∧ r.pathType = 2 ∧ r.path.length = 36) ∧
    (∃ r, handle cfgMock reqOneHop = .reply r ∧ r.pathType = 1) :=
  ⟨⟨_, rfl, rfl, rfl⟩, ⟨_, rfl, rfl⟩⟩

end ScionTime.C08Scion
