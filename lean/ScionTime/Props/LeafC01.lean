/-
  Kernel-checked tie (C01): the clamp / cutoff / combine arithmetic of the loop body of
  `core/sync.Run` — the statements from `refClkCorr, peerClkCorr := refClkOff, peerClkOff` up to the
  `switch` that sets `corr`, i.e. everything between the two measured offsets and the argument of
  `adj.Do(corr)` — as lifted from /repo's Go source on every run into a function of its free
  variables (Gen/LeafSync.lean; the translator's statement-range mode also checks that the range
  is followed by `adj.Do(corr)`) is the model's `clamp` / `peerPart` / `combine`, hence
  `Sync.correction`, for every pair of offsets, every pair of caps (all doubles incl. NaN / ±Inf),
  every cutoff and every number of reference clocks and peers (below 2^62).
-/
import ScionTime.Gen.LeafSync
import ScionTime.Model.Sync
import ScionTime.Props.LeafC02
namespace ScionTime.LeafTieC01
open ScionTime ScionTime.Gen.Leaf ScionTime.LeafSlices ScionTime.Sync

theorem abs_eq (d : Int64) : Go.Duration.abs d = absDur d := by
  unfold Go.Duration.abs absDur
  simp only [ge_iff_le, Int64.le_iff_toInt_le, Int64.toInt_zero, beq_iff_eq]

theorem clamp_eq (M : F64.F64) (x : Int64) :
    (if (F64.gt (F64.ofInt ((Go.Duration.abs x)).toInt) M) then
      (Int64.ofInt (F64.toInt64 (F64.mul (F64.ofInt ((timemath_Sgn x)).toInt) M))) else x) = clamp M x := by
  unfold clamp f64OfDur durOfF64
  rw [abs_eq, LeafTieC02.C02_leaf_Sgn]
  rfl

/-- **the loop body's arithmetic** is the model's: the clamped reference correction, the peer
    branch (cutoff, clamp, `peerClkOk`) and the `switch` -/
theorem C01_leaf_correction (refOff peerOff : Int64) (M1 M2 : F64.F64) (cfg : S_Config) (refs peers : List Unit)
    (hr : refs.length < 4611686018427387904) (hp : peers.length < 4611686018427387904) :
    sync_Run_correction refOff peerOff M1 M2 cfg refs peers =
      combine (!refs.isEmpty) (peerPart M2 cfg.PeerClockCutoff (!peers.isEmpty) peerOff).2
        (clamp M1 refOff) (peerPart M2 cfg.PeerClockCutoff (!peers.isEmpty) peerOff).1 := by
  unfold sync_Run_correction peerPart
  simp only [clamp_eq]
  simp only [bne, len_beq_zero refs hr, len_beq_zero peers hp, abs_eq]
  by_cases hc : absDur peerOff > cfg.PeerClockCutoff
  · simp only [hc, decide_true, if_true]
    cases refs.isEmpty <;> cases peers.isEmpty <;> simp [combine, timemath_Midpoint, midpoint]
  · simp only [hc, decide_false, Bool.false_eq_true, if_false]
    cases refs.isEmpty <;> simp [combine]

/-- view of the configuration and the two caps computed before the loop as the model's `Cfg` -/
theorem C01_leaf_correction_model (c : Cfg) (refOff peerOff : Int64) (cfg : S_Config) (refs peers : List Unit)
    (hr : refs.length < 4611686018427387904) (hp : peers.length < 4611686018427387904)
    (hcut : cfg.PeerClockCutoff = c.cutoff) :
    sync_Run_correction refOff peerOff (refCap c) (peerCap c) cfg refs peers =
      correction c (!refs.isEmpty) (!peers.isEmpty) refOff peerOff := by
  rw [C01_leaf_correction _ _ _ _ _ _ _ hr hp, hcut]
  rfl

/-! non-vacuity through the generated definition (cap 1000 ns on both sides, cutoff 50 ns): a
    reference offset of 5000 ns is clamped to 1000; a peer offset of 40 ns is below the cutoff and
    ignored; with both, the midpoint; with neither kind of clock configured, 0 -/

def exCfg : S_Config := { ReferenceClockImpact := F64.ofInt 2, PeerClockImpact := F64.ofInt 4, PeerClockCutoff := 50, SyncTimeout := 0, SyncInterval := 1 }
example : sync_Run_correction 5000 40 (F64.ofInt 1000) (F64.ofInt 1000) exCfg [()] [(), ()] = 1000 := by decide +kernel
example : sync_Run_correction 5000 (-3000) (F64.ofInt 1000) (F64.ofInt 1000) exCfg [()] [(), ()] = 0 := by decide +kernel
example : sync_Run_correction 600 300 (F64.ofInt 1000) (F64.ofInt 1000) exCfg [()] [(), ()] = 450 := by decide +kernel
example : sync_Run_correction 600 300 (F64.ofInt 1000) (F64.ofInt 1000) exCfg [] [] = 0 := by decide +kernel

end ScionTime.LeafTieC01
