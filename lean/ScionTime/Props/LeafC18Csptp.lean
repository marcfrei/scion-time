/-
  Kernel-checked ties (C18): `csptp.TimestampFromTime` and `csptp.TimeFromTimestamp` as regenerated
  from /repo's Go source on every run (Gen/LeafCsptp.lean; fixed-size arrays as lists, array
  literals, constant array indices) are the model of Model/CsptpConv.lean — for every instant whose Unix seconds fit an int64 (±2^62 s), resp. every
  well-formed timestamp (six second bytes).
-/
import ScionTime.Gen.LeafCsptp
import ScionTime.Model.CsptpConv
import ScionTime.Proofs.GoPrelude
import ScionTime.Proofs.LeafBytes
namespace ScionTime.LeafTieC18Csptp
open ScionTime ScionTime.Gen.Leaf ScionTime.GoLemmas ScionTime.CsptpConv ScionTime.LeafBytes ScionTime.Wire

/-- view of a generated timestamp -/
def tsv (t : S_Timestamp) : Timestamp := { seconds := t.Seconds.map UInt8.toNat, ns := t.Nanoseconds.toNat }

/-- view of the result: both argument panics are `none` in the generated definition -/
def encv : Enc → Option Timestamp
  | .ok ts => some ts
  | _ => none

theorem C18_leaf_TimestampFromTime (t : Int)
    (h1 : -4611686018427387904 ≤ t / 1000000000) (h2 : t / 1000000000 ≤ 4611686018427387904) :
    (csptp_TimestampFromTime t).map tsv = encv (timestampFromTime t) := by
  unfold csptp_TimestampFromTime timestampFromTime nsPerSec Go.Time.unix
  have hs : (Int64.ofInt (t / 1000000000)).toInt = t / 1000000000 := Int64.toInt_ofInt_of_le (by omega) (by omega)
  have hlt : Int64.ofInt (t / 1000000000) < 0 ↔ t / 1000000000 < 0 := by
    rw [Int64.lt_iff_toInt_lt, hs]; rfl
  have hgt : Int64.ofInt (t / 1000000000) > (Go.shl64 (1 : Int64) 48) - (1 : Int64) ↔ t / 1000000000 > 2 ^ 48 - 1 := by
    rw [gt_iff_lt, Int64.lt_iff_toInt_lt, hs]; rfl
  simp only [hlt, hgt]
  by_cases hneg : t / 1000000000 < 0
  · rw [if_pos (decide_eq_true hneg), if_pos hneg]; rfl
  · rw [if_neg (by simpa using hneg), if_neg hneg]
    by_cases hbig : t / 1000000000 > 2 ^ 48 - 1
    · rw [if_pos (decide_eq_true hbig), if_pos hbig]; rfl
    · rw [if_neg (by simpa using hbig), if_neg hbig]
      simp only [Option.map_some, encv, tsv, Option.some.injEq, Timestamp.mk.injEq]
      have hu : (Int64.ofInt (t / 1000000000)).toUInt64.toNat = (t / 1000000000).toNat := by
        have := toNat_toUInt64 (Int64.ofInt (t / 1000000000)); omega
      constructor
      · show ((b64 (Int64.ofInt (t / 1000000000)).toUInt64).drop 2).map UInt8.toNat = _
        rw [List.map_drop, b64_bytes, hu]
        simp [beBytes, secBytes]
      · unfold Go.Time.nanosecond
        have hn : (Int64.ofInt (t % 1000000000)).toInt = t % 1000000000 := Int64.toInt_ofInt_of_le (by omega) (by omega)
        have := toNat_narrow32 (Int64.ofInt (t % 1000000000))
        omega

theorem C18_leaf_TimeFromTimestamp (t : S_Timestamp) (h6 : t.Seconds.length = 6) :
    csptp_TimeFromTimestamp t = timeFromTimestamp (tsv t) := by
  obtain ⟨a, b, c, d, e, f, hl⟩ := list6 t.Seconds h6
  unfold csptp_TimeFromTimestamp timeFromTimestamp tsv nsPerSec Go.unixTime
  simp only [hl, Go.arrGet, List.getD_cons_zero, List.getD_cons_succ, List.map_cons, List.map_nil, secOfBytes]
  have hbe := be48 a b c d e f
  have ha := a.toNat_lt; have hb := b.toNat_lt; have hc := c.toNat_lt; have hd := d.toNat_lt
  have he := e.toNat_lt; have hf := f.toNat_lt
  generalize (((((a.toUInt64 <<< (40 : UInt64) ||| b.toUInt64 <<< (32 : UInt64)) ||| c.toUInt64 <<< (24 : UInt64)) |||
    d.toUInt64 <<< (16 : UInt64)) ||| e.toUInt64 <<< (8 : UInt64)) ||| f.toUInt64) = s at hbe ⊢
  simp only [beVal, List.length_cons, List.length_nil] at hbe
  rw [u_i64, ofU, if_pos (by omega), toInt_widen32, hbe]
  simp only [Nat.reducePow, Nat.reduceAdd]
  omega

/-- non-vacuity through the generated definitions: 2021-01-01T00:00:00.5Z and back; both panics -/
example : (csptp_TimestampFromTime 1609459200500000000).map tsv = some ⟨[0, 0, 95, 238, 102, 0], 500000000⟩ := by decide
example : (csptp_TimestampFromTime 1609459200500000000).map csptp_TimeFromTimestamp = some 1609459200500000000 := by decide
example : csptp_TimestampFromTime (-1) = none ∧ csptp_TimestampFromTime (281474976710656 * 1000000000) = none := by decide

end ScionTime.LeafTieC18Csptp
