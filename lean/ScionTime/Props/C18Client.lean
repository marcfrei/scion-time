/-
  C18, client side — "the CSPTP offset and mean-path-delay formulas recover any true offset and
  symmetric delay exactly" is about what a measurement RETURNS, so it needs the client's use of
  the formulas (core/client/client_csptp_ip.go, the tail of MeasureClockOffset; model:
  `CsptpClient.evaluate` in Model/CsptpClient.lean), not only the formulas (Props/C18.lean).

  * the returned offset and the mean path delay are the exact formulas on (t0, t1, t2, t3, t1Corr,
    t3Corr) and do not depend on the announced UTC offset or its valid flag;
  * end to end: a server ahead by θ behind a symmetric delay d, with arbitrary correction fields
    in the request-ingress TLV and in both response messages, is measured as exactly θ and d;
  * the two one-way delays the client logs DO include the UTC correction (C2S − utc, S2C + utc,
    only when `FlagCurrentUTCOffsetValid` is set), so their half-difference is NOT the offset
    (decided witness: 37 s).
-/
import ScionTime.Props.C18
import ScionTime.Model.CsptpClient
import ScionTime.Gen.Csptp
import ScionTime.Gen.Client
namespace ScionTime.C18
open ScionTime.CsptpConv ScionTime.Int64Arith ScionTime.Csptp ScionTime.CsptpClient

/-- the time a decoded timestamp denotes -/
def tsTime (ts : Csptp.Timestamp) : Int := (ts.seconds : Int) * 1000000000 + ts.nanoseconds

theorem timeFromTimestamp_conv (ts : Csptp.Timestamp) (h : ts.seconds < 2^48) :
    timeFromTimestamp (convTimestamp ts) = tsTime ts := by
  unfold timeFromTimestamp convTimestamp tsTime nsPerSec
  simp only [secOfBytes_secBytes ts.seconds h]

def InI64 (v : Int) : Prop := -9223372036854775808 ≤ v ∧ v ≤ 9223372036854775807

theorem ofInt_toInt {v : Int} (h : InI64 v) : (Int64.ofInt v).toInt = v :=
  Int64.toInt_ofInt_of_le h.1 (Int.lt_add_one_iff.mpr h.2)

/-- nanoseconds of a correction field: floor division by 2^16 -/
theorem corr_toInt {v : Int} (h : InI64 v) :
    (durationFromTimeInterval (Int64.ofInt v)).toInt = v / 65536 := by
  rw [C18_interval_shift, ofInt_toInt h]

/-- `t3Corr` never wraps: each part is below 2^47 in magnitude -/
theorem t3Correction_toInt (m0 m1 : Message) (h0 : InI64 m0.correctionField) (h1 : InI64 m1.correctionField) :
    (t3Correction m0 m1).toInt = m0.correctionField / 65536 + m1.correctionField / 65536 := by
  unfold t3Correction
  have a := corr_toInt h0
  have b := corr_toInt h1
  unfold InI64 at h0 h1
  rw [toInt_add_of_fits _ _ (by rw [a, b]; omega) (by rw [a, b]; omega), a, b]

theorem corr_fits {v : Int} (h : InI64 v) : Fits60 (durationFromTimeInterval (Int64.ofInt v)).toInt := by
  rw [corr_toInt h]; unfold Fits60; unfold InI64 at h; omega

theorem t3Correction_fits (m0 m1 : Message) (h0 : InI64 m0.correctionField) (h1 : InI64 m1.correctionField) :
    Fits60 (t3Correction m0 m1).toInt := by
  rw [t3Correction_toInt m0 m1 h0 h1]; unfold Fits60; unfold InI64 at h0 h1; omega

/-- The returned offset and the mean path delay are the formulas of net/csptp on the client's own
    Sync timestamps, the TLV's request-ingress timestamp, the Follow_Up's timestamp and the
    corrections — and nothing else: -/
theorem C18_client_offset_is_formula (t0 t3 : Int) (m0 m1 : Message) (tlv : ResponseTLV) :
    (evaluate t0 t3 m0 m1 tlv).clockOffset =
      clockOffset t0 (timeFromTimestamp (convTimestamp tlv.requestIngressTimestamp))
        (timeFromTimestamp (convTimestamp m1.timestamp)) t3
        (durationFromTimeInterval (Int64.ofInt tlv.requestCorrectionField)) (t3Correction m0 m1) ∧
    (evaluate t0 t3 m0 m1 tlv).meanPathDelay =
      meanPathDelay t0 (timeFromTimestamp (convTimestamp tlv.requestIngressTimestamp))
        (timeFromTimestamp (convTimestamp m1.timestamp)) t3
        (durationFromTimeInterval (Int64.ofInt tlv.requestCorrectionField)) (t3Correction m0 m1) ∧
    (evaluate t0 t3 m0 m1 tlv).timestamp = t3 := ⟨rfl, rfl, rfl⟩

/-- …in particular they are independent of the announced UTC offset and of every flag: two
    exchanges that differ only in the Follow_Up's flag field and the TLV's UTC offset return the
    same offset and mean path delay. -/
theorem C18_client_offset_ignores_utc (t0 t3 : Int) (m0 m1 : Message) (tlv : ResponseTLV)
    (flags : Nat) (utc : Int) :
    (evaluate t0 t3 m0 { m1 with flagField := flags } { tlv with utcOffset := utc }).clockOffset =
      (evaluate t0 t3 m0 m1 tlv).clockOffset ∧
    (evaluate t0 t3 m0 { m1 with flagField := flags } { tlv with utcOffset := utc }).meanPathDelay =
      (evaluate t0 t3 m0 m1 tlv).meanPathDelay := ⟨rfl, rfl⟩

/-- csptp_offset_exact / csptp_delay_exact, end to end through the client.  The server's clock is
    ahead by `θ`, the one-way delay is `d` both ways; the server reports the request's ingress
    `t1 = t0 + d + θ + c1` with residence correction `c1` in the TLV and sends at `t2` such that the
    client receives at `t3 = t2 + d − θ + c3`, `c3` split over the correction fields of Sync and
    Follow_Up (`c1`, `c3` in whole nanoseconds: the fields' floor quotients by 2^16).  Then the
    measurement returns exactly `θ` and logs exactly `d` — whatever UTC offset is announced, with
    the valid flag set or not — for magnitudes below 2^60 ns. -/
theorem C18_client_offset_exact (t0 t3 : Int) (m0 m1 : Message) (tlv : ResponseTLV) (d θ : Int)
    (hc0 : InI64 m0.correctionField) (hc1 : InI64 m1.correctionField)
    (hct : InI64 tlv.requestCorrectionField)
    (hs1 : tlv.requestIngressTimestamp.seconds < 2^48) (hs2 : m1.timestamp.seconds < 2^48)
    (hd : Fits60 d) (hθ : Fits60 θ)
    (h1 : tsTime tlv.requestIngressTimestamp = t0 + d + θ + tlv.requestCorrectionField / 65536)
    (h3 : t3 = tsTime m1.timestamp + d - θ + (m0.correctionField / 65536 + m1.correctionField / 65536)) :
    (evaluate t0 t3 m0 m1 tlv).clockOffset.toInt = θ ∧
    (evaluate t0 t3 m0 m1 tlv).meanPathDelay.toInt = d ∧
    (evaluate t0 t3 m0 m1 tlv).timestamp = t3 := by
  have e1 := corr_toInt hct
  have e3 := t3Correction_toInt m0 m1 hc0 hc1
  have key := C18_csptp_offset_delay_exact t0 (tsTime m1.timestamp) d θ
    (durationFromTimeInterval (Int64.ofInt tlv.requestCorrectionField)) (t3Correction m0 m1) hd hθ
    (corr_fits hct) (t3Correction_fits m0 m1 hc0 hc1)
  simp only at key
  rw [e1, e3, ← h1, ← h3] at key
  obtain ⟨k1, k2, _⟩ := C18_client_offset_is_formula t0 t3 m0 m1 tlv
  rw [k1, k2, timeFromTimestamp_conv _ hs1, timeFromTimestamp_conv _ hs2]
  exact ⟨key.1, key.2, rfl⟩

/-- a concrete exchange: θ = −3 ms, d = 250 µs, ingress correction 40.5 ns (2654208·2^-16), Sync
    correction −1·2^-16 ns (floor: −1 ns), Follow_Up correction 18 ns, UTC offset 37 s announced as
    valid.  Offset and delay come out exactly; the logged one-way delays carry ∓37 s. -/
def demoSync : Message := { zeroMessage with correctionField := -1 }
def demoFollowUp : Message :=
  { zeroMessage with sdoIDMessageType := 8, flagField := 1024 + 4, correctionField := 18 * 65536,
                     timestamp := ⟨1790000000, 100000000⟩ }
def demoTLV : ResponseTLV :=
  { type := 3, length := 36, organizationID := 0xEC4670, organizationSubType := 0x526573, flagField := 0,
    error := 0, requestIngressTimestamp := ⟨1789999999, 1000000000 + 250000 - 3000000 + 40⟩,
    requestCorrectionField := 2654208, utcOffset := 37, serverStateDS := zeroDS }

example :
    let e := evaluate 1790000000000000000 (1790000000100000000 + 250000 + 3000000 + 17) demoSync demoFollowUp demoTLV
    e.clockOffset.toInt = -3000000 ∧ e.meanPathDelay.toInt = 250000 ∧
    e.c2sDelay.toInt = 250000 - 3000000 - 37000000000 ∧ e.s2cDelay.toInt = 250000 + 3000000 + 37000000000 ∧
    e.utcCorr.toInt = 37000000000 := by decide +kernel

/-- the hypotheses of `C18_client_offset_exact` are met by it -/
example :
    tsTime demoTLV.requestIngressTimestamp =
      1790000000000000000 + 250000 + (-3000000) + demoTLV.requestCorrectionField / 65536 ∧
    (1790000000100000000 + 250000 + 3000000 + 17 : Int) =
      tsTime demoFollowUp.timestamp + 250000 - (-3000000) +
        (demoSync.correctionField / 65536 + demoFollowUp.correctionField / 65536) := by decide +kernel

/-- The one-way delays the client logs include the UTC correction exactly as the code does:
    subtracted from client→server, added to server→client, `UTCOffset` whole seconds when the
    Follow_Up carries `FlagCurrentUTCOffsetValid`, nothing otherwise. -/
theorem C18_client_delays_include_utc (t0 t3 : Int) (m0 m1 : Message) (tlv : ResponseTLV)
    (hc0 : InI64 m0.correctionField) (hc1 : InI64 m1.correctionField)
    (hct : InI64 tlv.requestCorrectionField) (hu : -32768 ≤ tlv.utcOffset ∧ tlv.utcOffset ≤ 32767)
    (hs1 : tlv.requestIngressTimestamp.seconds < 2^48) (hs2 : m1.timestamp.seconds < 2^48)
    (ha : Fits60 (tsTime tlv.requestIngressTimestamp - t0)) (hb : Fits60 (t3 - tsTime m1.timestamp)) :
    let u : Int := if m1.flagField &&& 4 = 4 then tlv.utcOffset * 1000000000 else 0
    (evaluate t0 t3 m0 m1 tlv).utcCorr.toInt = u ∧
    (evaluate t0 t3 m0 m1 tlv).c2sDelay.toInt =
      (tsTime tlv.requestIngressTimestamp - t0) - tlv.requestCorrectionField / 65536 - u ∧
    (evaluate t0 t3 m0 m1 tlv).s2cDelay.toInt =
      (t3 - tsTime m1.timestamp) - (m0.correctionField / 65536 + m1.correctionField / 65536) + u := by
  intro u
  have e1 := corr_toInt hct
  have e3 := t3Correction_toInt m0 m1 hc0 hc1
  have eu : (utcCorrection m1.flagField tlv.utcOffset).toInt = u := by
    unfold utcCorrection flagCurrentUTCOffsetValid
    simp only [u]
    split
    · exact ofInt_toInt (by unfold InI64; omega)
    · rfl
  have fu : Fits60 (utcCorrection m1.flagField tlv.utcOffset).toInt := by
    rw [eu]; simp only [u]; unfold Fits60; split <;> omega
  have key := C18_csptp_oneway_exact t0 (tsTime tlv.requestIngressTimestamp) (tsTime m1.timestamp) t3
    (durationFromTimeInterval (Int64.ofInt tlv.requestCorrectionField)) (t3Correction m0 m1)
    (utcCorrection m1.flagField tlv.utcOffset) ha hb (corr_fits hct) (t3Correction_fits m0 m1 hc0 hc1) fu
  rw [e1, e3, eu] at key
  refine ⟨eu, ?_, ?_⟩
  · show (c2sDelay t0 (timeFromTimestamp (convTimestamp tlv.requestIngressTimestamp)) _ _).toInt = _
    rw [timeFromTimestamp_conv _ hs1]; exact key.1
  · show (s2cDelay (timeFromTimestamp (convTimestamp m1.timestamp)) t3 _ _).toInt = _
    rw [timeFromTimestamp_conv _ hs2]; exact key.2

/-- Deriving the offset from the two logged one-way delays (`(C2S − S2C)/2`, the text-book
    identity) is wrong by the announced UTC offset: on the demo exchange it gives θ − 37 s. -/
theorem C18_client_offset_not_from_delays_witness :
    let e := evaluate 1790000000000000000 (1790000000100000000 + 250000 + 3000000 + 17) demoSync demoFollowUp demoTLV
    ((e.c2sDelay - e.s2cDelay) / 2).toInt = -3000000 - 37000000000 ∧ e.clockOffset.toInt = -3000000 ∧
    ((e.c2sDelay + e.s2cDelay) / 2).toInt = e.meanPathDelay.toInt := by decide +kernel

/-- `FlagCurrentUTCOffsetValid` as extracted from net/csptp -/
theorem C18_pin_client_utc_flag : Gen.Csptp.FlagCurrentUTCOffsetValid = flagCurrentUTCOffsetValid := by decide

/-- the tail of `MeasureClockOffset` is, statement for statement, what `evaluate` transcribes
    (re-read from core/client/client_csptp_ip.go on every run by harness/extract/x_c18cli.go) -/
theorem C18_pin_client_evaluation :
    Gen.Client.csptpcli_eval_stmts = evaluateSource ∧ Gen.Client.csptpcli_eval_stmtCount = 16 := ⟨rfl, by decide⟩

end ScionTime.C18
