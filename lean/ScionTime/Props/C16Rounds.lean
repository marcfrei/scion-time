/-
  Props/C16Rounds.lean — C16 over SEVERAL rounds on one `ReferenceClockClient`: no result of one
  round ever reaches the result slice of another.

  Model: Model/CollectRounds.lean — the product of single-round systems (`Collect.St`, one per call
  of `MeasureClockOffsets`, each with its own channel) sharing the virtual clock and the entry
  guard; the goroutines a round leaves behind (senders that had not returned by its deadline, its
  drain goroutine) keep taking steps while later rounds run. Every theorem is for EVERY global
  schedule (`List MChoice`: entering rounds with any arguments at any admissible point, steps of
  any goroutine of any round in any interleaving, time passing), from a fresh client:
  `mrun (minit t) sched = some m`, and for EVERY round `r ∈ m.rounds` of it.
  Invariants: Proofs/CollectRounds.lean (`minv_run`: each round satisfies the single-round
  invariant `Collect.Inv` for its own arguments).
-/
import ScionTime.Proofs.CollectRounds
import ScionTime.Gen.Client
namespace ScionTime.C16
open ScionTime.Collect ScionTime.CollectRounds

/-- WHY a round is a system of its own (re-read from core/client/client.go on every run,
    harness/extract/x_c16rounds.go): the client struct holds the guard word and nothing else;
    `MeasureClockOffsets` touches the client through that word only; the result channel `msc` is
    declared exactly once, by `msc := make(chan …)` INSIDE the call; its only uses are the senders'
    `msc <- …` and being handed to `collectMeasurements`, which receives from that parameter and
    from `ctx.Done()` and sends nowhere. A channel kept across calls (a field, a package variable)
    breaks this pin. -/
theorem C16_pin_channel_is_local :
    Gen.Client.c16_clientFields = ["numOpsInProgress:uint32"] ∧
    Gen.Client.c16_clientSelectorUses = ["c.numOpsInProgress"] ∧
    Gen.Client.c16_mscDecls = ["msc := make(chan measurements.Measurement)"] ∧
    Gen.Client.c16_mscUses = ["argument of collectMeasurements", "send on msc"] ∧
    Gen.Client.c16_collectRecvs = ["ctx.Done()", "msc"] :=
  ⟨rfl, rfl, rfl, rfl, rfl⟩

/-- NO CROSS-ROUND LEAKAGE. In every global schedule, for every round ever entered on the client —
    also while senders and the drain goroutine of earlier rounds are still running, and after later
    rounds have been entered —: the front of that round's result slice is exactly what that round's
    own collector received successfully, in arrival order; every entry of it is a successful result
    of one of THAT round's own measurement calls; with distinct clock ids none occurs twice; the
    rest of the slice is as the caller passed it in (nobody — no straggler of any round — wrote
    to it); the slice keeps its length. -/
theorem C16_rounds_no_cross_round_leak {t : Int} {sched : List MChoice} {m : Multi}
    (hr : mrun (minit t) sched = some m) {r : Round} (hmem : r ∈ m.rounds) :
    r.st.ms.take r.st.j = r.st.received.filter (·.ok) ∧
    (∀ x ∈ r.st.ms.take r.st.j, x.ok = true ∧ ∃ y ∈ r.spec.senders, y.id = x.id) ∧
    ((r.spec.senders.map (·.id)).Nodup → ((r.st.ms.take r.st.j).map (·.id)).Nodup) ∧
    r.st.ms.drop r.st.j = r.spec.ms0.drop r.st.j ∧
    r.st.ms.length = r.spec.senders.length := by
  obtain ⟨_, h, hn⟩ := round_inv hr hmem
  refine ⟨h.slice.front, ?_, fun hnd => (h.received_nodup hnd).2, h.slice.tail, by rw [h.slice.len, hn]⟩
  intro x hx
  rw [h.slice.front, List.mem_filter] at hx
  refine ⟨hx.2, ?_⟩
  have hid : x.id ∈ allIds r.st := by
    unfold allIds
    simp only [List.mem_append, List.mem_map]
    exact Or.inl (Or.inl (Or.inl ⟨x, hx.1, rfl⟩))
  exact List.mem_map.mp ((h.cons.mem_iff).mp hid)

/-- Every round of every global schedule ends by ITS deadline: its collector is never in its loop
    later than `max deadline t0` of that round, and returned no later than that — whatever the
    stragglers of earlier rounds do meanwhile. -/
theorem C16_rounds_by_deadline {t : Int} {sched : List MChoice} {m : Multi}
    (hr : mrun (minit t) sched = some m) {r : Round} (hmem : r ∈ m.rounds) :
    (r.st.phase = .loop → m.now ≤ max r.spec.deadline r.t0) ∧
    (∀ left, r.st.phase = .done left → r.st.retAt ≤ max r.spec.deadline r.t0) := by
  obtain ⟨hnow, h, _⟩ := round_inv hr hmem
  exact ⟨fun hp => by rw [← hnow]; exact h.time.inLoop hp, h.time.ret⟩

/-- A straggler never needs another round: a sender of ANY round that is blocked on its round's
    channel always has a receiver in its own round that can take a step in the product — that
    round's collector (receive or return) or that round's drain goroutine. -/
theorem C16_rounds_straggler_has_own_receiver {t : Int} {sched : List MChoice} {m : Multi}
    (hr : mrun (minit t) sched = some m) {k : Nat} {r : Round} (hk : m.rounds[k]? = some r)
    (hs : r.st.sending ≠ []) :
    ∃ c, (mstep m (.inRound k c)).isSome ∧
      ((∃ id, c = .recv id) ∨ c = .retFull ∨ (∃ id, c = .drain id)) := by
  obtain ⟨_, h, _⟩ := round_inv hr (List.mem_of_getElem? hk)
  obtain ⟨c, hsome, hc⟩ := h.progress hs
  refine ⟨c, ?_, hc⟩
  have hnt : isTick c = false := by
    rcases hc with ⟨_, rfl⟩ | rfl | ⟨_, rfl⟩ <;> rfl
  obtain ⟨s', hs'⟩ := Option.isSome_iff_exists.mp hsome
  simp [mstep, hnt, hk, hs']

/-- Nothing is left behind by any round: once a round's measurement calls have all returned and
    none of its senders is blocked, every one of its results was received exactly once — by its
    collector or by its drain goroutine — and that drain goroutine has exited. -/
theorem C16_rounds_no_leak {t : Int} {sched : List MChoice} {m : Multi}
    (hr : mrun (minit t) sched = some m) {r : Round} (hmem : r ∈ m.rounds)
    (hm : r.st.measuring = []) (hs : r.st.sending = []) :
    r.st.received.length + r.st.drained.length = r.spec.senders.length ∧
    (∀ left, r.st.phase = .done left → left = 0) := by
  obtain ⟨_, h, hn⟩ := round_inv hr hmem
  rw [← hn]
  exact h.all_accounted hm hs

/-- A step of a goroutine of round `k` — a straggler returning, a drain receive — changes round `k`
    only: every other round's state, result slice included, is what it was. -/
theorem C16_rounds_step_is_local {m m' : Multi} {k : Nat} {c : Choice}
    (h : mstep m (.inRound k c) = some m') {j : Nat} (hj : j ≠ k) :
    m'.rounds[j]? = m.rounds[j]? ∧ m'.now = m.now := by
  simp only [mstep] at h
  split at h
  · cases h
  · split at h
    · split at h
      · cases h
        exact ⟨by simp [Ne.symm hj], rfl⟩
      · cases h
    · cases h

/-- A new round is entered only when no collector is in its loop: calls of `MeasureClockOffsets` on
    one client do not overlap (the caller is sequential and the guard refuses otherwise), while the
    goroutines earlier rounds left behind may well be running. -/
theorem C16_rounds_enter_only_when_idle {m m' : Multi} {spec : RoundSpec}
    (h : mstep m (.start spec) = some m') :
    (∀ r ∈ m.rounds, r.st.phase ≠ .loop) ∧ spec.ms0.length = spec.senders.length ∧
    m'.rounds = m.rounds ++ [{ spec := spec, t0 := m.now, st := init m.now spec.deadline spec.senders spec.ms0 }] := by
  simp only [mstep] at h
  split at h
  · rename_i hc
    cases h
    refine ⟨fun r hr hp => ?_, hc.2, rfl⟩
    have := List.all_eq_true.mp hc.1 r hr
    simp [returned, hp] at this
  · cases h

/-! ### a schedule in which all of it happens

Round 0 (entered at 0, deadline 10): clock 0 answers at 3, clock 1 is stuck until 14.
Round 1 (entered at 12, deadline 22): clock 10 answers at 13, clock 11 fails at 15.
The straggler of round 0 returns at 14 — in the middle of round 1 — and is received by round 0's
drain goroutine; round 1's slice holds its own result only. -/

def demoR0 : RoundSpec :=
  { deadline := 10, senders := [⟨0, 3, true, false⟩, ⟨1, 14, true, false⟩],
    ms0 := [⟨90, false⟩, ⟨91, false⟩] }
def demoR1 : RoundSpec :=
  { deadline := 22, senders := [⟨10, 13, true, false⟩, ⟨11, 15, false, false⟩],
    ms0 := [⟨92, false⟩, ⟨93, false⟩] }

def demoRounds : List MChoice :=
  [.start demoR0, .tick 3, .inRound 0 (.finish 0), .inRound 0 (.recv 0), .tick 10, .inRound 0 .cancel,
   .inRound 0 .observeCancel, .tick 12, .start demoR1, .tick 13, .inRound 1 (.finish 10), .inRound 1 (.recv 10),
   .tick 14, .inRound 0 (.finish 1), .inRound 0 (.drain 1), .tick 15, .inRound 1 (.finish 11), .inRound 1 (.recv 11),
   .inRound 1 .retFull]

example : (mrun (minit 0) demoRounds).map (fun m => m.rounds.map (fun r => (r.st.retAt, r.st.j, r.st.ms.map (·.id)))) =
    some [(10, 1, [0, 91]), (15, 1, [10, 93])] := by decide
example : (mrun (minit 0) demoRounds).map (fun m => m.rounds.map (fun r =>
      (r.st.drained.map (·.id), returned r.st, r.st.sending.length))) =
    some [([1], true, 0), ([], true, 0)] := by decide

end ScionTime.C16
