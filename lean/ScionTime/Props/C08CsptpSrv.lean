/-
  C08 — the CSPTP listener (core/server/server_csptp_ip.go: StartCSPTPServerIP, runCSPTPServerIP)
  as a state machine; model: Model/CsptpSrv.lean; lemmas: Proofs/CsptpSrv.lean.

  What holds for the code at this commit, for every history of datagrams on all sixteen sockets:
  * no iteration panics; every iteration ends (the model is a total function without fuel);
  * the package-level client table is never written: the pending state is empty for ever
    (bounded, trivially) — and the listener never sends a datagram: the pairing of Sync and
    Follow_Up is not implemented (`sequenceComplete` is never set), the response block is dead;
  * what an iteration decides depends on the datagram alone — not on earlier datagrams, stale
    buffer content or the table: after ANY history a well-formed request pair is still taken up
    (verdict `requestSync` / `requestFollowUp` with exactly the header and TLV sent).  This is the
    form "the next well-formed request on the same socket is still answered" takes for a listener
    that answers nothing: it is processed exactly as a fresh listener processes it;
  * acceptance is characterised byte for byte; the TLV's `Length` field is not looked at;
  * a Follow_Up that carries a response TLV is never accepted as a request (no reflection at the
    validation level, independent of the missing pairing), a response Sync however is
    indistinguishable from a request Sync;
  * the dead response block, were it reached, would dereference the nil `eConn`; with connections
    it would send a pair whose timestamps are all zero (decided: not a measurement).
-/
import ScionTime.Proofs.CsptpSrv
import ScionTime.Model.CsptpSkeleton
import ScionTime.Model.CsptpClient
import ScionTime.Gen.Server
import ScionTime.Gen.Csptp
namespace ScionTime.C08CsptpSrv
open ScionTime.Wire ScionTime.Csptp ScionTime.CsptpSrv

/-! ### constants and code shape, re-read from /repo on every run -/

theorem C08_pin_csptpsrv_constants :
    Gen.Csptp.EventPortIP = eventPortIP ∧ Gen.Csptp.GeneralPortIP = generalPortIP ∧
    Gen.Csptp.MaxMessageLength = maxMessageLength ∧ Gen.Csptp.MinMessageLength = minMessageLength ∧
    Gen.Csptp.MessageTypeSync = messageTypeSync ∧ Gen.Csptp.MessageTypeFollowUp = messageTypeFollowUp ∧
    Gen.Csptp.PTPVersion = ptpVersion ∧ Gen.Csptp.FlagTwoStep = flagTwoStep ∧ Gen.Csptp.FlagUnicast = flagUnicast ∧
    Gen.Csptp.ControlSync = controlSync ∧ Gen.Csptp.ControlFollowUp = controlFollowUp ∧
    Gen.Csptp.LogMessageInterval = logMessageInterval ∧ Gen.Csptp.DomainNumber = 0 ∧ Gen.Csptp.MinorSdoID = 0 ∧
    Gen.Csptp.TLVTypeOrganizationExtension = tlvTypeOrganizationExtension ∧
    Gen.Csptp.TLVFlagServerStateDS = tlvFlagServerStateDS ∧
    Gen.Csptp.OrganizationIDMeinberg0 * 65536 + Gen.Csptp.OrganizationIDMeinberg1 * 256 + Gen.Csptp.OrganizationIDMeinberg2 = orgIDMeinberg ∧
    Gen.Csptp.OrganizationSubTypeRequest0 * 65536 + Gen.Csptp.OrganizationSubTypeRequest1 * 256 + Gen.Csptp.OrganizationSubTypeRequest2 = orgSubTypeRequest ∧
    Gen.Csptp.OrganizationSubTypeResponse0 * 65536 + Gen.Csptp.OrganizationSubTypeResponse1 * 256 + Gen.Csptp.OrganizationSubTypeResponse2 = orgSubTypeResponse ∧
    Gen.Server.csptpContextCap = csptpContextCap ∧ Gen.Server.csptpClientCap = csptpClientCap ∧
    Gen.Server.ipServerNumGoroutine = ipServerNumGoroutine := by decide +kernel

/-- the validation part of one loop iteration is, condition for condition and record for record,
    what `validate` transcribes -/
theorem C08_pin_csptpsrv_validation : Gen.Server.csptpsrv_skeleton = CsptpSkeleton.serverValidation := rfl

/-- the pairing is not implemented: the locked section only reads two lengths, none of
    `sequenceComplete`, `sequenceID`, `syncSrcPort`, `followUpSrcPort`, `eConn`, `gConn` is ever
    assigned, and no statement of the package writes `csptpClients` / `csptpClientsQ` -/
theorem C08_pin_csptpsrv_pairing_unimplemented :
    Gen.Server.csptpsrv_pairing = CsptpSkeleton.serverPairing ∧ Gen.Server.csptpsrv_neverAssigned = 0 ∧
    Gen.Server.csptpsrv_tableWrites = 0 := ⟨rfl, by decide, by decide⟩

/-- buffer size, ports, and the refusal of a configured port -/
theorem C08_pin_csptpsrv_sockets :
    Gen.Server.csptpsrv_bufLen = "csptp.MaxMessageLength" ∧
    Gen.Server.csptpsrv_ports = ["csptp.EventPortIP", "csptp.GeneralPortIP"] ∧
    Gen.Server.csptpsrv_portMustBeZero = 1 := ⟨rfl, rfl, by decide⟩

/-- C08 for one iteration on any socket in any state: it does not panic, sends nothing, leaves
    the client table and the socket's identity alone, and keeps the buffer at 98 bytes. -/
theorem C08_csptpsrv_step_total (k : Sock) (s : State) (e : Event) (hk : k.backing.length = maxMessageLength) :
    (step k s e).2.2.1.isPanic = false ∧ (step k s e).2.2.2 = ⟨[], none⟩ ∧ (step k s e).2.1 = s ∧
    (step k s e).1.backing.length = maxMessageLength ∧ (step k s e).1.port = k.port ∧
    (step k s e).1.eConn = k.eConn ∧ (step k s e).1.gConn = k.gConn := by
  cases e with
  | readErr => exact ⟨rfl, rfl, rfl, hk, rfl, rfl, rfl⟩
  | dgram wire f src rxt =>
    rw [step_dgram k s wire f src rxt hk]
    exact ⟨verdictOf_no_panic _ _ _, rfl, rfl, recvInto_length _ _ hk, rfl, rfl, rfl⟩

/-- The verdict on a datagram is a function of the port and the datagram: stale buffer content
    (earlier datagrams, shorter or longer) and the table play no part. -/
theorem C08_csptpsrv_verdict_is_function_of_datagram (k : Sock) (s : State) (wire : List Nat) (f : Nat)
    (src : AddrPort) (rxt : Int) (hk : k.backing.length = maxMessageLength) :
    (step k s (.dgram wire f src rxt)).2.2.1 = verdictOf k.port wire f := by
  rw [step_dgram k s wire f src rxt hk]

/-- reachable shape of the listener: sixteen sockets, 98-byte buffers, ports 319 ×8 then 320 ×8 -/
def SysWF (y : Sys) : Prop :=
  y.socks.length = 2 * ipServerNumGoroutine ∧
  ∀ i k, y.socks[i]? = some k → k.backing.length = maxMessageLength ∧
    k.port = (if i < ipServerNumGoroutine then eventPortIP else generalPortIP)

theorem C08_csptpsrv_start_wellformed : SysWF Sys.start := by
  refine ⟨by decide, fun i k h => ?_⟩
  have : ∀ j, j < Sys.start.socks.length → ∀ k, Sys.start.socks[j]? = some k → k.backing.length = maxMessageLength ∧
      k.port = (if j < ipServerNumGoroutine then eventPortIP else generalPortIP) := by decide
  exact this i (List.getElem?_eq_some_iff.mp h).1 k h

theorem C08_csptpsrv_sysStep_spec (y : Sys) (i : Nat) (e : Event) (hy : SysWF y) :
    SysWF (sysStep y i e).1 ∧ (sysStep y i e).1.state = y.state ∧ (sysStep y i e).2.2 = ⟨[], none⟩ ∧
    (sysStep y i e).2.1.isPanic = false := by
  unfold sysStep
  cases hk : y.socks[i]? with
  | none => exact ⟨hy, rfl, rfl, rfl⟩
  | some k =>
    obtain ⟨hb, hp⟩ := hy.2 i k hk
    obtain ⟨h1, h2, h3, h4, h5, _, _⟩ := C08_csptpsrv_step_total k y.state e hb
    simp only
    refine ⟨⟨by simpa using hy.1, ?_⟩, h3, h2, h1⟩
    intro j k' hj
    by_cases hij : i = j
    · subst hij
      have hi : i < y.socks.length := (List.getElem?_eq_some_iff.mp hk).1
      rw [List.getElem?_set_self hi] at hj
      cases hj
      exact ⟨h4, by rw [h5, hp]⟩
    · rw [List.getElem?_set_ne hij] at hj
      exact hy.2 j k' hj

theorem C08_csptpsrv_sysRun_spec (h : List (Nat × Event)) : ∀ (y : Sys), SysWF y →
    SysWF (sysRun y h).1 ∧ (sysRun y h).1.state = y.state ∧ ∀ eff ∈ (sysRun y h).2, eff = ⟨[], none⟩ := by
  induction h with
  | nil => intro y hy; exact ⟨hy, rfl, by simp [sysRun]⟩
  | cons ie rest ih =>
    intro y hy
    obtain ⟨i, e⟩ := ie
    obtain ⟨w1, s1, e1, _⟩ := C08_csptpsrv_sysStep_spec y i e hy
    obtain ⟨w2, s2, e2⟩ := ih (sysStep y i e).1 w1
    simp only [sysRun]
    refine ⟨w2, by rw [s2, s1], ?_⟩
    intro eff hm
    rcases List.mem_cons.mp hm with h | h
    · rw [h]; exact e1
    · exact e2 eff h

/-- **C08, all histories.**  Whatever datagrams arrive on whichever of the sixteen sockets in
    whatever order: no iteration panics, and the listener never sends a datagram. -/
theorem C08_csptpsrv_never_panics_never_sends (h : List (Nat × Event)) :
    ∀ eff ∈ (sysRun Sys.start h).2, eff.panic = none ∧ eff.outs = [] := by
  intro eff hm
  rw [(C08_csptpsrv_sysRun_spec h Sys.start C08_csptpsrv_start_wellformed).2.2 eff hm]
  exact ⟨rfl, rfl⟩

/-- **Pending state.**  After any history the client table is what it was at start: empty.  The
    code does not bound the table by evicting — it never inserts.  (`csptpClientCap` = 2^20
    queue slots are allocated once at package initialisation; no input makes memory grow.) -/
theorem C08_csptpsrv_pending_state_constant (h : List (Nat × Event)) :
    (sysRun Sys.start h).1.state = init ∧ (sysRun Sys.start h).1.state.clients.length ≤ csptpClientCap ∧
    (sysRun Sys.start h).1.state.queue.length ≤ csptpClientCap := by
  have := (C08_csptpsrv_sysRun_spec h Sys.start C08_csptpsrv_start_wellformed).2.1
  rw [this]
  exact ⟨rfl, by decide, by decide⟩

/-- **Progress / history independence.**  After any history, the iteration socket `i` performs on
    a datagram gives the verdict a fresh listener gives: a function of the socket's port and the
    datagram. -/
theorem C08_csptpsrv_verdict_after_any_history (h : List (Nat × Event)) (i : Nat) (hi : i < 2 * ipServerNumGoroutine)
    (wire : List Nat) (f : Nat) (src : AddrPort) (rxt : Int) :
    (sysStep (sysRun Sys.start h).1 i (.dgram wire f src rxt)).2.1 =
      verdictOf (if i < ipServerNumGoroutine then eventPortIP else generalPortIP) wire f := by
  obtain ⟨⟨hl, hw⟩, _, _⟩ := C08_csptpsrv_sysRun_spec h Sys.start C08_csptpsrv_start_wellformed
  unfold sysStep
  have hlt : i < (sysRun Sys.start h).1.socks.length := by rw [hl]; exact hi
  rw [List.getElem?_eq_getElem hlt]
  obtain ⟨hb, hp⟩ := hw i _ (List.getElem?_eq_getElem hlt)
  simp only
  rw [step_dgram _ _ wire f src rxt hb, hp]

/-- A datagram is taken up as a Sync request exactly when it arrives on port 319 untruncated, is
    44 bytes long, says so in its length field, and its first byte is 0. -/
theorem C08_csptpsrv_sync_accept_iff (port : Nat) (wire : List Nat) (f : Nat) (m : Message) :
    verdictOf port wire f = .requestSync m ↔
      f = 0 ∧ port = eventPortIP ∧ wire.length = minMessageLength ∧ decodeMessage wire = .ok m ∧
      m.sdoIDMessageType = messageTypeSync ∧ m.messageLength = minMessageLength :=
  (verdictOf_request_iff rfl).trans
    ⟨fun ⟨_, hf, hv⟩ => ⟨hf, hv⟩, fun ⟨hf, hv⟩ => ⟨by rw [hv.2.1]; decide, hf, hv⟩⟩

/-- A datagram is taken up as a Follow_Up request exactly when it arrives on port 320 untruncated,
    its length field equals its length, its first byte is 8, the bytes after the header decode
    as a TLV of type 3 with Meinberg's organisation id and the request sub-type, and the
    datagram is exactly as long as that TLV's flag field says (36 or 54 bytes after the header).
    The TLV's own `Length` field does not occur. -/
theorem C08_csptpsrv_followup_accept_iff (port : Nat) (wire : List Nat) (f : Nat) (m : Message) (t : RequestTLV) :
    verdictOf port wire f = .requestFollowUp m t ↔
      f = 0 ∧ port = generalPortIP ∧ wire.length ≤ maxMessageLength ∧
      decodeMessage (wire.take minMessageLength) = .ok m ∧ m.sdoIDMessageType = messageTypeFollowUp ∧
      m.messageLength = wire.length ∧ decodeRequestTLV (wire.drop minMessageLength) = .ok t ∧
      isRequestKind t = true ∧ wire.length = minMessageLength + encodedTLVLength t.flagField :=
  (verdictOf_request_iff rfl).trans
    ⟨fun ⟨hl, hf, hp, hv⟩ => ⟨hf, hp, hl, hv⟩, fun ⟨hf, hp, hl, hv⟩ => ⟨hl, hf, hp, hv⟩⟩

theorem C08_csptpsrv_encoded_sync_accept (m : Message) (hm : m.Valid) (hty : m.sdoIDMessageType = messageTypeSync)
    (hl : m.messageLength = minMessageLength) : verdictOf eventPortIP (messageBytes m) 0 = .requestSync m :=
  (C08_csptpsrv_sync_accept_iff _ _ _ _).mpr
    ⟨rfl, rfl, C14.msg_bytes_length m, List.append_nil (messageBytes m) ▸ C14.msg_decode_bytes m [] hm, hty, hl⟩

/-- **Declared lengths (C14's "at their declared lengths", on the listener's side).**  Any
    well-typed Follow_Up header followed by any well-typed request TLV of the right kind is taken
    up exactly when the header's length field is 44 plus the length the TLV's FLAG field
    declares; the TLV's `Length` field is free. -/
theorem C08_csptpsrv_encoded_followup_accept (m : Message) (t : RequestTLV) (hm : m.Valid) (ht : t.Valid)
    (hty : m.sdoIDMessageType = messageTypeFollowUp) (hk : isRequestKind t = true) :
    verdictOf generalPortIP (messageBytes m ++ requestTLVBytes t) 0 = .requestFollowUp m t ↔
      m.messageLength = minMessageLength + encodedTLVLength t.flagField := by
  have hd := C14.msg_decode_bytes m [] hm
  have hdt := C14.req_decode_bytes t [] ht
  rw [List.append_nil] at hd hdt
  have hlen : (messageBytes m ++ requestTLVBytes t).length = minMessageLength + encodedTLVLength t.flagField := by
    rw [List.length_append, C14.msg_bytes_length, C14.req_bytes_length]; rfl
  have hle : minMessageLength + encodedTLVLength t.flagField ≤ maxMessageLength := by
    rcases C14.encodedTLVLength_cases t.flagField with ⟨_, h⟩ | ⟨_, h⟩ <;> rw [h] <;> decide
  rw [C08_csptpsrv_followup_accept_iff, take_messageBytes_append, drop_messageBytes_append, hlen]
  exact ⟨fun h => h.2.2.2.2.2.1, fun h => ⟨rfl, rfl, hle, hd, hty, h, hdt, hk, rfl⟩⟩

/-- the `Length` field really is free: the client's TLV with `Length` 0 or 65535 is taken up like
    the one with the declared 54 -/
example : verdictOf generalPortIP (messageBytes (clientFollowUp 3) ++ requestTLVBytes { clientTLV with length := 0 }) 0 =
    .requestFollowUp (clientFollowUp 3) { clientTLV with length := 0 } := by decide +kernel
example : verdictOf generalPortIP (messageBytes (clientFollowUp 3) ++ requestTLVBytes { clientTLV with length := 65535 }) 0 =
    .requestFollowUp (clientFollowUp 3) { clientTLV with length := 65535 } := by decide +kernel

/-- **The request pair of the real client is taken up** — for every sequence id, on every
    socket of the right port, after every history (combine with
    `C08_csptpsrv_verdict_after_any_history`): the listener's record carries exactly the header
    and the TLV the client sent. -/
theorem C08_csptpsrv_client_request_taken_up (seq : Nat) (h : seq < 65536) :
    verdictOf eventPortIP (clientSyncBytes seq) 0 = .requestSync (clientSync seq) ∧
    verdictOf generalPortIP (clientFollowUpBytes seq) 0 = .requestFollowUp (clientFollowUp seq) clientTLV :=
  ⟨C08_csptpsrv_encoded_sync_accept _ (clientSync_valid seq h) rfl rfl,
    (C08_csptpsrv_encoded_followup_accept _ clientTLV (clientFollowUp_valid seq h) (by decide) rfl (by decide)).mpr rfl⟩

/-- non-vacuity: sequence id 7 -/
example : verdictOf eventPortIP (clientSyncBytes 7) 0 = .requestSync (clientSync 7) := by decide +kernel

/-- what the code itself declares: the client's request TLV and the dead block's response TLV
    carry their encoded length in `Length`, the Follow_Up headers carry 44 + that, and the
    response fits the 98-byte buffer exactly -/
theorem C08_csptpsrv_declared_lengths (seq : Nat) :
    clientTLV.length = (requestTLVBytes clientTLV).length ∧
    (clientFollowUp seq).messageLength = minMessageLength + clientTLV.length ∧
    respTLV.length = (responseTLVBytes respTLV).length ∧
    (respFollowUp seq).messageLength = minMessageLength + respTLV.length ∧
    (respFollowUp seq).messageLength = maxMessageLength := by
  exact ⟨by decide, rfl, by decide, rfl, rfl⟩

/-- **No reflection at the validation level.**  A message whose TLV is a response TLV (sub-type
    "Res") is never taken up as a request — on either port, with any header, whatever the length
    fields say.  (Two listeners cannot bounce Follow_Ups; that the listener sends nothing at all
    at this commit is `C08_csptpsrv_never_panics_never_sends`.) -/
theorem C08_csptpsrv_response_followup_not_a_request (port f : Nat) (m : Message) (t : ResponseTLV)
    (hm : m.Valid) (ht : t.Valid) (hs : t.organizationSubType = orgSubTypeResponse) :
    (verdictOf port (messageBytes m ++ responseTLVBytes t) f).isRequest = false := by
  cases hv : verdictOf port (messageBytes m ++ responseTLVBytes t) f with
  | requestSync m' =>
    have hl := ((C08_csptpsrv_sync_accept_iff _ _ _ _).mp hv).2.2.1
    rw [List.length_append, C14.msg_bytes_length, C14.resp_bytes_length] at hl
    rcases C14.encodedTLVLength_cases t.flagField with ⟨_, h⟩ | ⟨_, h⟩ <;> rw [h] at hl <;> exact absurd hl (by decide)
  | requestFollowUp m' t' =>
    obtain ⟨_, _, _, _, _, _, hdt, hk, _⟩ := (C08_csptpsrv_followup_accept_iff _ _ _ _ _).mp hv
    rw [drop_messageBytes_append, req_decode_of_resp_bytes t ht] at hdt
    cases hdt
    have hne : (orgSubTypeResponse == orgSubTypeRequest) = false := by decide
    rw [isRequestKind, hs, hne, Bool.and_false] at hk
    cases hk
  | _ => rfl

/-- the dead block's own Follow_Up, fed back to either port -/
example : verdictOf generalPortIP (messageBytes (respFollowUp 5) ++ responseTLVBytes respTLV) 0 = .tlvKind := by decide +kernel
example : verdictOf eventPortIP (messageBytes (respFollowUp 5) ++ responseTLVBytes respTLV) 0 = .unexpectedMessage := by decide +kernel

/-- Observation (not a defect at this commit): the Sync half of a response is, for the
    validation, a Sync request — only type, length and port are looked at; `SourcePortIdentity`,
    flags, control field, version and domain are not. -/
theorem C08_csptpsrv_response_sync_taken_as_request (seq : Nat) (h : seq < 65536) :
    verdictOf eventPortIP (messageBytes (respSync seq)) 0 = .requestSync (respSync seq) :=
  C08_csptpsrv_encoded_sync_accept _ (respSync_valid seq h) rfl rfl

/-- the locked section assigns nothing: the table is unchanged and `sequenceComplete` is false,
    so `respond` does nothing — for every table, verdict, sender and time -/
theorem C08_csptpsrv_response_block_unreachable (k : Sock) (s : State) (v : Verdict) (src : AddrPort) (rxt : Int) :
    (maintain s v src rxt).1 = s ∧ (maintain s v src rxt).2.sequenceComplete = false ∧
    respond k (maintain s v src rxt).2 src = (k, ⟨[], none⟩) := ⟨rfl, rfl, rfl⟩

/-- Observation: were the block reached as the code stands (`eConn` is nil), the loop would
    panic with a nil dereference at `eConn.mu.Lock()` — after having overwritten the receive
    buffer with the response Sync. -/
theorem C08_csptpsrv_response_block_would_panic :
    (respond (Sock.start eventPortIP) ⟨7, true, 4000, 4001⟩ ⟨1, 4000⟩).2 = ⟨[], some "nil"⟩ := by decide +kernel

/-- With connections it would send the Sync from port 319 to the Sync's source port and the
    Follow_Up + TLV (98 bytes) from port 320 to the Follow_Up's source port, both to the sender's
    address. -/
theorem C08_csptpsrv_response_block_outputs :
    (respond { Sock.start eventPortIP with eConn := some (), gConn := some () } ⟨7, true, 4000, 4001⟩ ⟨1, 4000⟩).2 =
      ⟨[⟨eventPortIP, ⟨1, 4000⟩, messageBytes (respSync 7)⟩,
        ⟨generalPortIP, ⟨1, 4001⟩, messageBytes (respFollowUp 7) ++ responseTLVBytes respTLV⟩], none⟩ := by decide +kernel

/-- …and that pair is not a measurement: request-ingress and origin timestamps are the zero
    "TODO" values, so the client model evaluates a server whose clock reads 1970 — for a client at
    2023-11-14T22:13:20Z with a 1 ms round trip, an "offset" of minus its own time. -/
theorem C08_csptpsrv_dead_reply_not_a_measurement :
    (CsptpClient.evaluate 1700000000000000000 1700000000001000000 (respSync 7) (respFollowUp 7) respTLV).clockOffset.toInt
      = -1700000000000500000 := by decide +kernel

end ScionTime.C08CsptpSrv
