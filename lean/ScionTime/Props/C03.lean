/-
  C03 — the reported offset is within half the round-trip delay of the true offset, and the
  four timestamps it combines belong to one exchange.
  Property theorems; models: ScionTime/Model/NtpMath.lean, ScionTime/Model/ClientNtp.lean,
  ScionTime/Model/Time64.lean (C04); helper lemmas: Proofs/NtpMath.lean, Proofs/ClientNtp.lean.
-/
import ScionTime.Proofs.ClientNtp
import ScionTime.Props.C04
import ScionTime.Gen.Client
namespace ScionTime.C03
open ScionTime.Time64 ScionTime.NtpMath ScionTime.ClientNtp

theorem C03_pin_window :
    Gen.Client.windowSecondsIP * nsPerSec = window ∧ Gen.Client.windowSecondsSCION * nsPerSec = window := by
  decide
/-- IP: `<= 3 s`, SCION: `< 3 s` — as `windowOk` has it -/
theorem C03_pin_window_operator :
    Gen.Client.windowInclusiveIP = true ∧ Gen.Client.windowInclusiveSCION = false := by decide

/-- **offset_half_rtt.** True instants `T0..T3` of one exchange on the two clocks, server clock
    ahead of the client's by `θ` during the exchange, non-negative one-way delays `d1`, `d2`;
    each observed timestamp is the true instant or 1 ns earlier (C04: what a pass through the
    2⁻³² s wire format does). Then the offset formula is within half the round-trip delay
    + 1.5 ns of `θ`. -/
theorem C03_offset_half_rtt (T0 T1 T2 T3 d1 d2 θ t0 t1 t2 t3 : Int)
    (h1 : T1 = T0 + d1 + θ) (h3 : T3 = T2 + d2 - θ) (hd1 : 0 ≤ d1) (hd2 : 0 ≤ d2)
    (r0 : T0 - 1 ≤ t0 ∧ t0 ≤ T0) (r1 : T1 - 1 ≤ t1 ∧ t1 ≤ T1)
    (r2 : T2 - 1 ≤ t2 ∧ t2 ≤ T2) (r3 : T3 - 1 ≤ t3 ∧ t3 ≤ T3) :
    2 * (clockOffset t0 t1 t2 t3 - θ) ≤ roundTripDelay t0 t1 t2 t3 + 3 ∧
    2 * (θ - clockOffset t0 t1 t2 t3) ≤ roundTripDelay t0 t1 t2 t3 + 3 :=
  offset_half_rtt_enclosed T0 T1 T2 T3 d1 d2 θ t0 t1 t2 t3 h1 h3 hd1 hd2 r0.2 r1 r2 r3.1

/-- The constant 3 is tight: with `+ 2` the statement is false (θ = −10 ns, forward delay
    10 ns, backward delay 0, only `t3` rounded down; all hypotheses hold and the timestamps
    pass `ValidateResponseTimestamps`). -/
example : ∃ T0 T1 T2 T3 d1 d2 θ t0 t1 t2 t3 : Int,
    T1 = T0 + d1 + θ ∧ T3 = T2 + d2 - θ ∧ 0 ≤ d1 ∧ 0 ≤ d2 ∧
    (T0 - 1 ≤ t0 ∧ t0 ≤ T0) ∧ (T1 - 1 ≤ t1 ∧ t1 ≤ T1) ∧
    (T2 - 1 ≤ t2 ∧ t2 ≤ T2) ∧ (T3 - 1 ≤ t3 ∧ t3 ≤ T3) ∧ t0 ≤ t3 ∧ t1 ≤ t2 ∧
    ¬ (2 * (clockOffset t0 t1 t2 t3 - θ) ≤ roundTripDelay t0 t1 t2 t3 + 2) :=
  ⟨0, 0, 0, 10, 10, 0, -10, 0, 0, 0, 9, by decide⟩

/-- The same for what the code computes (int64, saturating `Sub`, wrap-around), as long as the
    four instants are within 2^61 ns of each other — which decoding relative to one
    reference guarantees (±2^31 s ≈ ±2^61 ns). -/
theorem C03_offset_half_rtt_int64 (T0 T1 T2 T3 d1 d2 θ t0 t1 t2 t3 : Int)
    (h1 : T1 = T0 + d1 + θ) (h3 : T3 = T2 + d2 - θ) (hd1 : 0 ≤ d1) (hd2 : 0 ≤ d2)
    (r0 : T0 - 1 ≤ t0 ∧ t0 ≤ T0) (r1 : T1 - 1 ≤ t1 ∧ t1 ≤ T1)
    (r2 : T2 - 1 ≤ t2 ∧ t2 ≤ T2) (r3 : T3 - 1 ≤ t3 ∧ t3 ≤ T3)
    (hr : InRange t0 t1 t2 t3) :
    2 * ((clockOffset64 t0 t1 t2 t3).toInt - θ) ≤ (roundTripDelay64 t0 t1 t2 t3).toInt + 3 ∧
    2 * (θ - (clockOffset64 t0 t1 t2 t3).toInt) ≤ (roundTripDelay64 t0 t1 t2 t3).toInt + 3 := by
  rw [clockOffset64_eq _ _ _ _ hr, roundTripDelay64_eq _ _ _ _ hr]
  exact C03_offset_half_rtt T0 T1 T2 T3 d1 d2 θ t0 t1 t2 t3 h1 h3 hd1 hd2 r0 r1 r2 r3

/-- Outside that range the int64 formula is *not* the integer formula: instants 2^63 ns
    (292 years) apart saturate `Sub` (closed instance; the harness exercises the same
    inputs against net/ntp). -/
example : (clockOffset64 0 9223372036854775808 0 0).toInt ≠ clockOffset 0 9223372036854775808 0 0 := by
  decide

/-- Ghost record of exchange `id`: the four wire-format stamps taken in it — client transmit
    (kernel), server receive, server transmit (as the server stores it for interleaved mode),
    client receive. `G : Nat → ExStamps` assigns them to exchange ids. -/
structure ExStamps where
  cTx : T64
  sRx : T64
  sTx : T64
  cRx : T64

/-- `prev` holds the three stamps of *one* accepted exchange of the history `H`. -/
def Coherent (G : Nat → ExStamps) (H : List Nat) (prev : Prev) : Prop :=
  prev.reference ≠ "" →
    ∃ p ∈ H, prev.cTx = (G p).cTx ∧ prev.cRx = (G p).cRx ∧ prev.sRx = (G p).sRx

/-- The server's reply contract (C06, `handleRequest`) for request `req` of exchange `k`:
    its own receive stamp, and either basic (echo the request's transmit field, own transmit
    stamp) or — only when the request's receive and transmit fields differ and its origin
    equals the receive stamp of an exchange `e` the server has served — interleaved (echo the
    receive field, stored transmit stamp of `e`). -/
def Conformant (G : Nat → ExStamps) (Srv : List Nat) (k : Nat) (req : Req) (pkt : NtpPkt) : Prop :=
  pkt.rx = (G k).sRx ∧
  ((pkt.origin = req.tx ∧ pkt.tx = (G k).sTx) ∨
   (req.rx ≠ req.tx ∧ pkt.origin = req.rx ∧ ∃ e ∈ Srv, (G e).sRx = req.origin ∧ pkt.tx = (G e).sTx))

/-- **A1**: the receive stamps the server hands to this client are pairwise distinct over the
    exchanges it has served (C06 guarantees it among kept entries). -/
def A1 (G : Nat → ExStamps) (Srv : List Nat) : Prop :=
  ∀ e ∈ Srv, ∀ e' ∈ Srv, (G e).sRx = (G e').sRx → e = e'

/-- **A2**: the client's transmit and receive stamps of an exchange differ at 2⁻³² s
    resolution. -/
def A2 (G : Nat → ExStamps) (H : List Nat) : Prop := ∀ p ∈ H, (G p).cTx ≠ (G p).cRx

/-- **A4** (with the conformant server): every datagram with the server's source address that
    the socket of exchange `k` delivers answers *this* exchange's request — none answers an
    earlier exchange's. Stated on the payload of the datagrams that pass the source check. -/
def A4 {D : Type} (srcOk : D → Prop) (payload : D → Payload) (G : Nat → ExStamps) (Srv : List Nat)
    (k : Nat) (req : Req) (evs : List (Event D)) : Prop :=
  ∀ d cRx b, Event.dgram d cRx b ∈ evs → srcOk d → Conformant G Srv k req (payload d).pkt

/-- The four timestamps carry one ghost exchange id: basic — this exchange `k` (own kernel
    transmit and receive times, the reply's own stamps); interleaved — one earlier accepted
    exchange `p`. `ref` is the reading wire stamps are decoded against. -/
def Uniform (G : Nat → ExStamps) (H : List Nat) (k : Nat) (ref cTx1 : Int) (a : Accepted) : Prop :=
  (a.il = false ∧ a.t0 = cTx1 ∧ a.t1 = toTime (G k).sRx ref ∧ a.t2 = toTime (G k).sTx ref ∧ a.t3 = a.cRx) ∨
  (a.il = true ∧ ∃ p ∈ H, a.t0 = toTime (G p).cTx ref ∧ a.t1 = toTime (G p).sRx ref ∧
      a.t2 = toTime (G p).sTx ref ∧ a.t3 = toTime (G p).cRx ref)

/-- Core of the pairing argument, at the NTP stage shared by both clients. -/
theorem C03_pairing_stage (G : Nat → ExStamps) (H Srv : List Nat) (k : Nat)
    (cfg : Cfg) (prev : Prev) (reference : String) (now cTx1 cRx : Int) (p : Payload) (a : Accepted)
    (href : reference ≠ "") (hco : Coherent G H prev) (hsub : ∀ x ∈ H, x ∈ Srv)
    (a1 : A1 G Srv) (a2 : A2 G H)
    (hconf : Conformant G Srv k (mkRequest cfg prev reference now) p.pkt)
    (hacc : ntpStage cfg prev (mkRequest cfg prev reference now) cTx1 cRx p = .accept a) :
    Uniform G H k now cTx1 a ∧ a.cRx = cRx ∧
    ((G k).cTx = ofTime cTx1 → (G k).cRx = ofTime cRx →
      Coherent G (k :: H) (updatePrev cfg prev reference cTx1 a)) := by
  obtain ⟨_, _, ho', _, ha, _, _⟩ := ntpStage_accept _ _ _ _ _ _ _ hacc
  obtain ⟨hrx, hkind⟩ := hconf
  have hc0 := mkRequest_cTx0 cfg prev reference now
  subst ha
  have hupd : ∀ a' : Accepted, a'.cRx = cRx → a'.sRx64 = (G k).sRx → cfg.interleavedMode = true →
      (G k).cTx = ofTime cTx1 → (G k).cRx = ofTime cRx →
      Coherent G (k :: H) (updatePrev cfg prev reference cTx1 a') := by
    intro a' h1 h2 hmode hk1 hk2 _
    rw [updatePrev, if_pos hmode]
    exact ⟨k, List.mem_cons_self, hk1.symm, by rw [h1]; exact hk2.symm, h2⟩
  cases hil : ((mkRequest cfg prev reference now).interleaved &&
      p.pkt.origin == (mkRequest cfg prev reference now).rx) with
  | false =>
    have htx : p.pkt.tx = (G k).sTx := by
      rcases hkind with ⟨_, h⟩ | ⟨hne, ho, _⟩
      · exact h
      · -- an interleaved-style reply echoes req.rx ≠ req.tx: it is not evaluated as a basic one
        rcases ho' with ⟨h1, _⟩ | h2
        · simp [h1, ho] at hil
        · exact absurd (ho.symm.trans h2) hne
    rw [tupleOf_basic _ _ _ _ _ hil, hc0, hrx, htx]
    refine ⟨.inl ⟨rfl, rfl, rfl, rfl, rfl⟩, rfl, fun hk1 hk2 hr => ?_⟩
    by_cases hmode : cfg.interleavedMode = true
    · exact hupd _ rfl rfl hmode hk1 hk2 hr
    · rw [updatePrev, if_neg hmode] at hr ⊢
      obtain ⟨q, hq, h⟩ := hco hr
      exact ⟨q, List.mem_cons_of_mem _ hq, h⟩
  | true =>
    have hil' := hil
    simp only [Bool.and_eq_true, beq_iff_eq] at hil'
    obtain ⟨hpr, hmode, horg, hrq, htq⟩ := mkRequest_interleaved cfg prev reference now hil'.1
    obtain ⟨q, hq, hq1, hq2, hq3⟩ := hco (by rw [hpr]; exact href)
    have hne : (mkRequest cfg prev reference now).rx ≠ (mkRequest cfg prev reference now).tx := by
      rw [hrq, htq, hq1, hq2]; exact fun h => a2 q hq h.symm
    rcases hkind with ⟨ho, _⟩ | ⟨_, _, e, he, hes, hetx⟩
    · exact absurd (hil'.2.symm.trans ho) hne
    · -- the stored transmit stamp is that of the exchange `prev` stems from (A1)
      have heq : e = q := a1 e he q (hsub q hq) (by rw [hes, horg, hq3])
      subst heq
      rw [tupleOf_interleaved _ _ _ _ _ hil, hc0, hq1, hq2, hq3, hetx]
      exact ⟨.inr ⟨rfl, e, hq, rfl, rfl, rfl, rfl⟩, rfl, hupd _ rfl hrx hmode⟩

/-- **pairing**, one IP exchange: under A1, A2, A4 an accepted response yields a tuple of one
    ghost exchange, and `prev` stays coherent (so the statement carries over to the next
    exchange: see `C03_pairing_history_ip`). -/
theorem C03_pairing_ip (G : Nat → ExStamps) (H Srv : List Nat) (k : Nat)
    (cfg : Cfg) (server : Nat) (prev : Prev) (reference : String) (now cTx1 : Int)
    (evs : List (Event IpDgram)) (a : Accepted) (n : Nat)
    (href : reference ≠ "") (hco : Coherent G H prev) (hsub : ∀ x ∈ H, x ∈ Srv)
    (a1 : A1 G Srv) (a2 : A2 G H)
    (a4 : A4 (fun d : IpDgram => d.src = server) IpDgram.payload G Srv k
            (mkRequest cfg prev reference now) evs)
    (hres : (exchangeIP cfg server prev reference now cTx1 evs).1 = .accepted a n) :
    Uniform G H k now cTx1 a ∧
    ((G k).cTx = ofTime cTx1 → (G k).cRx = ofTime a.cRx →
      Coherent G (k :: H) (exchangeIP cfg server prev reference now cTx1 evs).2) := by
  simp only [exchangeIP] at hres ⊢
  obtain ⟨d, cRx, b, hm, hc⟩ := runLoop_accepted _ _ _ _ _ _ _ hres
  obtain ⟨hs, hn⟩ := classifyIP_accept _ _ _ _ _ _ _ _ hc
  obtain ⟨hu, hcrx, hupd⟩ := C03_pairing_stage G H Srv k cfg prev reference now cTx1 cRx d.payload a
    href hco hsub a1 a2 (a4 d cRx b hm hs) hn
  rw [hres]
  exact ⟨hu, fun h1 h2 => hupd h1 (hcrx ▸ h2)⟩

/-- **pairing**, one SCION exchange (receive time = kernel stamp or the packet's timestamp
    option, whichever the code used — the ghost record takes the one used). -/
theorem C03_pairing_scion (G : Nat → ExStamps) (H Srv : List Nat) (k : Nat)
    (cfg : Cfg) (sc : ScionCtx) (prev : Prev) (reference : String) (now cTx1 : Int)
    (evs : List (Event ScionDgram)) (a : Accepted) (n : Nat)
    (href : reference ≠ "") (hco : Coherent G H prev) (hsub : ∀ x ∈ H, x ∈ Srv)
    (a1 : A1 G Srv) (a2 : A2 G H)
    (a4 : A4 (fun d : ScionDgram => d.srcIA = sc.remoteIA ∧ equalsIP d.srcHost sc.remoteHost = true ∧
              d.dstIA = sc.localIA ∧ equalsIP d.dstHost sc.localHost = true) ScionDgram.payload G Srv k
            (mkRequest cfg prev reference now) evs)
    (hres : (exchangeSCION cfg sc prev reference now cTx1 evs).1 = .accepted a n) :
    Uniform G H k now cTx1 a ∧
    ((G k).cTx = ofTime cTx1 → (G k).cRx = ofTime a.cRx →
      Coherent G (k :: H) (exchangeSCION cfg sc prev reference now cTx1 evs).2) := by
  simp only [exchangeSCION] at hres ⊢
  obtain ⟨d, cRx, b, hm, hc⟩ := runLoop_accepted _ _ _ _ _ _ _ hres
  obtain ⟨_, _, _, _, s1, s2, s3, s4, _, hn⟩ := classifySCION_accept _ _ _ _ _ _ _ _ hc
  obtain ⟨hu, hcrx, hupd⟩ := C03_pairing_stage G H Srv k cfg prev reference now cTx1 (scionRxTime d cTx1 cRx)
    d.payload a href hco hsub a1 a2 (a4 d cRx b hm ⟨s1, s2, s3, s4⟩) hn
  rw [hres]
  exact ⟨hu, fun h1 h2 => hupd h1 (hcrx ▸ h2)⟩

/-! #### A4 is needed: the mixed tuple

Exchange 1 (t = 1.00 … 1.03 s) was accepted; exchange 2 (request at 2.00 s, interleaved)
timed out — its reply is late; exchange 3 (request at 3.00 s) has the same request fields
(`prev` unchanged) and its socket is handed the late reply to request 2 (this violates A4
only; the datagram is a conformant reply, A1 and A2 hold). The client accepts it — with a
uniform tuple of exchange 1 — but stores the *server receive stamp of exchange 2* next to
its own stamps of exchange 3. Exchange 4 is then entirely regular (its reply answers its own
request), yet combines client stamps of exchange 3 with server stamps of exchange 2: the
true offset is 0, the reported one is −1 s at a round-trip delay of 20 ms.
The real client binds port 0 for every exchange, so the kernel — outside the model — is what
keeps A4; a scripted peer can still send such a datagram to the new port (the harness has a
scenario doing so against the real code, with the same outcome as the model). -/

def mixCfg : Cfg := ⟨.ip, true, false, true⟩
/-- `prev` after exchange 1 -/
def mixPrev1 : Prev := ⟨"S", false, ofTime 1000000000, ofTime 1030000000, ofTime 1010000000⟩
/-- interleaved reply to request 2: origin = cRx(1), rx = sRx(2) = 2.01 s, tx = sTx(1) = 1.02 s -/
def mixLate : IpDgram :=
  ⟨7, ⟨48, ⟨36, 1, ofTime 1030000000, ofTime 2010000000, ofTime 1020000000⟩, true, true, true⟩⟩
def mixEx3 : Outcome × Prev :=
  exchangeIP mixCfg 7 mixPrev1 "S" 3000000000 3000000000 [.dgram mixLate 3030000000 true]
/-- the server's regular interleaved reply to request 4 (origin = its rx field = cRx(3),
    rx = sRx(4) = 4.01 s, tx = stored sTx(2) = 2.02 s, found under the request's origin sRx(2)) -/
def mixReply4 : IpDgram :=
  ⟨7, ⟨48, ⟨36, 1, ofTime 3030000000, ofTime 4010000000, ofTime 2020000000⟩, true, true, true⟩⟩
def mixEx4 : Outcome × Prev :=
  exchangeIP mixCfg 7 mixEx3.2 "S" 4000000000 4000000000 [.dgram mixReply4 4030000000 true]

/-- after exchange 3, `prev` mixes exchanges 3 (client stamps) and 2 (server stamp) -/
example : mixEx3.1.hasOffset = true ∧
    mixEx3.2 = ⟨"S", true, ofTime 3000000000, ofTime 3030000000, ofTime 2010000000⟩ := by decide

/-- exchange 4 is accepted with client stamps of exchange 3 and server stamps of exchange 2,
    and its offset (−1 s against a true offset of 0) violates the half-round-trip bound. -/
example : ∃ a n, mixEx4.1 = .accepted a n ∧ a.il = true ∧
    a.t0 = toTime (ofTime 3000000000) 4000000000 ∧ a.t1 = toTime (ofTime 2010000000) 4000000000 ∧
    a.t2 = toTime (ofTime 2020000000) 4000000000 ∧ a.t3 = toTime (ofTime 3030000000) 4000000000 ∧
    ¬ (2 * (0 - a.offset.toInt) ≤ a.rtd.toInt + 3) :=
  ⟨tupleOf mixEx3.2 (mkRequest mixCfg mixEx3.2 "S" 4000000000) 4000000000 4030000000 mixReply4.payload, 1,
    by decide⟩

/-- non-vacuity of the pairing hypotheses: the regular continuation of the same scenario —
    request 2 answered in time, interleaved — meets Coherent, A1, A2 and conformance (A4), and is
    accepted. -/
def okG : Nat → ExStamps := fun i =>
  if i = 1 then ⟨ofTime 1000000000, ofTime 1010000000, ofTime 1020000000, ofTime 1030000000⟩
  else ⟨ofTime 2000000000, ofTime 2010000000, ofTime 2020000000, ofTime 2030000000⟩
example :
    Coherent okG [1] mixPrev1 ∧ A1 okG [1, 2] ∧ A2 okG [1] ∧
    Conformant okG [1, 2] 2 (mkRequest mixCfg mixPrev1 "S" 2000000000) mixLate.payload.pkt ∧
    (exchangeIP mixCfg 7 mixPrev1 "S" 2000000000 2000000000 [.dgram mixLate 2030000000 true]).1.hasOffset = true := by
  refine ⟨fun _ => ⟨1, by decide⟩, by unfold A1; decide, by unfold A2; decide, ?_, by decide⟩
  refine ⟨by decide, Or.inr ⟨by decide, by decide, 1, by decide⟩⟩

/-- one exchange of a history: ghost id, the clock reading `cTxTime0`, the kernel transmit
    time, and what the exchange's socket delivers -/
structure ExIn where
  id : Nat
  now : Int
  cTx1 : Int
  evs : List (Event IpDgram)

/-- The hypotheses along a history of IP exchanges of one client (state threaded through
    `exchangeIP`): A4 + conformant server for every exchange, the ghost records of the client's
    own stamps, A2 for every exchange, every exchange known to the server. `H` collects the
    accepted exchanges. -/
def HistoryHyps (G : Nat → ExStamps) (Srv : List Nat) (cfg : Cfg) (server : Nat) (reference : String) :
    Prev → List Nat → List ExIn → Prop
  | _, _, [] => True
  | prev, H, x :: xs =>
    let r := exchangeIP cfg server prev reference x.now x.cTx1 x.evs
    A4 (fun d : IpDgram => d.src = server) IpDgram.payload G Srv x.id (mkRequest cfg prev reference x.now) x.evs ∧
    (G x.id).cTx = ofTime x.cTx1 ∧ (G x.id).cTx ≠ (G x.id).cRx ∧ x.id ∈ Srv ∧
    (∀ a n, r.1 = .accepted a n → (G x.id).cRx = ofTime a.cRx) ∧
    HistoryHyps G Srv cfg server reference r.2 (if r.1.hasOffset then x.id :: H else H) xs

/-- every accepted response along the history combines stamps of one exchange -/
def AllUniform (G : Nat → ExStamps) (cfg : Cfg) (server : Nat) (reference : String) :
    Prev → List Nat → List ExIn → Prop
  | _, _, [] => True
  | prev, H, x :: xs =>
    let r := exchangeIP cfg server prev reference x.now x.cTx1 x.evs
    (∀ a n, r.1 = .accepted a n → Uniform G H x.id x.now x.cTx1 a) ∧
    AllUniform G cfg server reference r.2 (if r.1.hasOffset then x.id :: H else H) xs

/-- **pairing** for all histories: from any coherent state (in particular the initial one and
    any state after `ResetInterleavedMode`), under A1, A2, A4, every accepted response of every
    exchange — whatever is dropped, duplicated, delayed within an exchange, however the
    server's clock moves between exchanges — yields four timestamps of one exchange. -/
theorem C03_pairing_history_ip (G : Nat → ExStamps) (Srv : List Nat) (cfg : Cfg) (server : Nat)
    (reference : String) (href : reference ≠ "") (a1 : A1 G Srv) (xs : List ExIn) :
    ∀ (prev : Prev) (H : List Nat), Coherent G H prev → (∀ x ∈ H, x ∈ Srv) → A2 G H →
      HistoryHyps G Srv cfg server reference prev H xs → AllUniform G cfg server reference prev H xs := by
  induction xs with
  | nil => intro _ _ _ _ _ _; trivial
  | cons x xs ih =>
    intro prev H hco hsub a2 hh
    obtain ⟨a4, hk1, hk2, hks, hk3, hrest⟩ := hh
    have hp := fun a n => C03_pairing_ip G H Srv x.id cfg server prev reference x.now x.cTx1 x.evs a n
      href hco hsub a1 a2 a4
    refine ⟨fun a n hacc => (hp a n hacc).1, ?_⟩
    cases hout : (exchangeIP cfg server prev reference x.now x.cTx1 x.evs).1 with
    | accepted a n =>
      simp only [hout, Outcome.hasOffset, if_true] at hrest ⊢
      exact ih _ _ ((hp a n hout).2 hk1 (hk3 a n hout)) (List.forall_mem_cons.mpr ⟨hks, hsub⟩)
        (List.forall_mem_cons.mpr ⟨hk2, a2⟩) hrest
    | _ =>
      have h2 : (exchangeIP cfg server prev reference x.now x.cTx1 x.evs).2 = prev :=
        prev_of_no_offset cfg prev reference x.cTx1 (exchangeIP cfg server prev reference x.now x.cTx1 x.evs).1
          (by rw [hout]; rfl)
      simp only [hout, Outcome.hasOffset, h2] at hrest ⊢
      exact ih _ _ hco hsub a2 hrest

/-- the initial state and any state after `ResetInterleavedMode` is coherent -/
theorem C03_coherent_initial (G : Nat → ExStamps) (H : List Nat) (prev : Prev)
    (h : prev.reference = "") : Coherent G H prev := fun hne => absurd h hne

/-- ghost truth of an exchange: the true instants of transmit / receive events on the two
    clocks and the server-minus-client offset `θ` in force during the exchange -/
structure Truth where
  T0 : Int
  T1 : Int
  T2 : Int
  T3 : Int
  θ : Int

/-- NTP's timing model of one exchange: non-negative one-way delays -/
def Truth.Valid (t : Truth) : Prop :=
  ∃ d1 d2 : Int, 0 ≤ d1 ∧ 0 ≤ d2 ∧ t.T1 = t.T0 + d1 + t.θ ∧ t.T3 = t.T2 + d2 - t.θ

/-- the wire stamps of an exchange are the 2⁻³² s encodings of its true instants, all within
    the decoding window of `ref` -/
def Encodes (g : ExStamps) (t : Truth) (ref : Int) : Prop :=
  g.cTx = ofTime t.T0 ∧ g.sRx = ofTime t.T1 ∧ g.sTx = ofTime t.T2 ∧ g.cRx = ofTime t.T3 ∧
  C04.InWindow t.T0 ref ∧ C04.InWindow t.T1 ref ∧ C04.InWindow t.T2 ref ∧ C04.InWindow t.T3 ref

/-- **C03_main** (= pairing + arithmetic), one exchange, IP. Under A1, A2, A4, with the ghost
    truth `Tr` of every exchange satisfying the timing model: the offset of an accepted
    response is within half its round-trip delay (+1.5 ns) of the true offset of the exchange
    whose timestamps it combines — exchange `k` itself for a basic response (kernel transmit and
    receive times are the true `T0`, `T3`), an earlier accepted exchange `p` for an
    interleaved one. -/
theorem C03_main (G : Nat → ExStamps) (Tr : Nat → Truth) (H Srv : List Nat) (k : Nat)
    (cfg : Cfg) (server : Nat) (prev : Prev) (reference : String) (now cTx1 : Int)
    (evs : List (Event IpDgram)) (a : Accepted) (n : Nat)
    (href : reference ≠ "") (hco : Coherent G H prev) (hsub : ∀ x ∈ H, x ∈ Srv)
    (a1 : A1 G Srv) (a2 : A2 G H)
    (a4 : A4 (fun d : IpDgram => d.src = server) IpDgram.payload G Srv k
            (mkRequest cfg prev reference now) evs)
    (hres : (exchangeIP cfg server prev reference now cTx1 evs).1 = .accepted a n)
    (hvalid : ∀ e, (Tr e).Valid)
    (hpast : ∀ p ∈ H, Encodes (G p) (Tr p) now)
    (hk : (Tr k).T0 = cTx1 ∧ (Tr k).T3 = a.cRx ∧ (G k).sRx = ofTime (Tr k).T1 ∧ (G k).sTx = ofTime (Tr k).T2 ∧
          C04.InWindow (Tr k).T1 now ∧ C04.InWindow (Tr k).T2 now)
    (hr : InRange a.t0 a.t1 a.t2 a.t3) :
    ∃ e ∈ k :: H, (a.il = false → e = k) ∧
      2 * (a.offset.toInt - (Tr e).θ) ≤ a.rtd.toInt + 3 ∧
      2 * ((Tr e).θ - a.offset.toInt) ≤ a.rtd.toInt + 3 := by
  obtain ⟨hu, _⟩ := C03_pairing_ip G H Srv k cfg server prev reference now cTx1 evs a n href hco hsub a1 a2 a4 hres
  -- a stamp decoded from the encoding of `T` is `T` or 1 ns earlier (C04)
  have near : ∀ (g : T64) (T t : Int), g = ofTime T → t = toTime g now → C04.InWindow T now →
      T - 1 ≤ t ∧ t ≤ T := by
    rintro _ T _ rfl rfl w
    exact C04.C04_roundtrip T now w
  rcases hu with ⟨hil, h0, h1, h2, h3⟩ | ⟨hil, p, hp, h0, h1, h2, h3⟩
  · obtain ⟨d1, d2, hd1, hd2, e1, e3⟩ := hvalid k
    obtain ⟨k0, k3, k1, k2, w1, w2⟩ := hk
    exact ⟨k, List.mem_cons_self, fun _ => rfl,
      C03_offset_half_rtt_int64 _ _ _ _ d1 d2 _ _ _ _ _ e1 e3 hd1 hd2 (by omega) (near _ _ _ k1 h1 w1)
        (near _ _ _ k2 h2 w2) (by omega) hr⟩
  · obtain ⟨d1, d2, hd1, hd2, e1, e3⟩ := hvalid p
    obtain ⟨g0, g1, g2, g3, w0, w1, w2, w3⟩ := hpast p hp
    exact ⟨p, List.mem_cons_of_mem _ hp, fun h => (by rw [hil] at h; cases h),
      C03_offset_half_rtt_int64 _ _ _ _ d1 d2 _ _ _ _ _ e1 e3 hd1 hd2 (near _ _ _ g0 h0 w0) (near _ _ _ g1 h1 w1)
        (near _ _ _ g2 h2 w2) (near _ _ _ g3 h3 w3) hr⟩

end ScionTime.C03
