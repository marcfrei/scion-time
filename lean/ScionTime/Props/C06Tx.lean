/-
  C06 / C09 / C03 (server side) — how the listeners obtain and record transmit timestamps.
  Model: ScionTime/Model/ListenerTx.lean (`code` = the repaired listeners, `codeOld` = before the
  `fix:` commit for finding F20), composed with the store of Model/Server.lean.
  Helper lemmas: Proofs/ListenerTx.lean (socket layer), Proofs/ServerFrame.lean (store).

  Clause of C06: "the recorded transmit time is the kernel transmit timestamp once it has been
  read, and an exchange for which none could be read is dropped from the record rather than
  served"; C09: "sends exactly one reply for each well-formed request" (the step after the
  write terminates whatever the kernel delivers); C03 (server side): the transmit time served in
  interleaved mode is never a clock reading taken after the departure.
-/
import ScionTime.Proofs.ListenerTx
import ScionTime.Proofs.ServerFrame
import ScionTime.Props.C06
import ScionTime.Gen.Server
import ScionTime.Gen.Udp
namespace ScionTime.Props.C06Tx
open ScionTime.Time64 ScionTime.Server ScionTime.ListenerTx ScionTime.Props.C06

/-! ### pins: the statements in the sources are the modelled ones (re-read from /repo on every run
    by harness/extract/x_c06tx.go; log statements left out) -/

/-- what follows the write-error check in the NTP branches: read, skip timestamps of earlier
    datagrams, the three-way bookkeeping with both fallbacks `txt1 = txt0`, the store update -/
def srcPostSendNtp : String :=
  "txt1, id, err := udp.ReadTXTimestamp(conn) ;; for err == nil && int32(id-txid) < 0 { txt1, id, err = udp.ReadTXTimestamp(conn) } ;; if err != nil { txt1 = txt0 txid++ } else if id != txid { txt1 = txt0 txid = id + 1 } else { txid++ } ;; updateTXTimestamp(clientID, rxt, &txt1)"
/-- the same in the SCMP and forwarding branches (the timestamp itself is discarded) -/
def srcPostSendAux : String :=
  "_, id, err := udp.ReadTXTimestamp(conn) ;; for err == nil && int32(id-txid) < 0 { _, id, err = udp.ReadTXTimestamp(conn) } ;; if err != nil { txid++ } else if id != txid { txid = id + 1 } else { txid++ }"

/-- every send site of the listeners is followed by exactly this step (`sendRead code`): one
    send site in `runIPServer`; three in `runSCIONServer` — SCMP reply, forwarded packet, NTP reply -/
theorem C06_pin_txPostSend :
    Gen.Server.txSendSites_runIPServer = 1 ∧ Gen.Server.txPostSend_runIPServer = [srcPostSendNtp] ∧
    Gen.Server.txSendSites_runSCIONServer = 3 ∧
    Gen.Server.txPostSend_runSCIONServer = [srcPostSendAux, srcPostSendAux, srcPostSendNtp] :=
  ⟨rfl, rfl, rfl, rfl⟩

/-- `txid` is changed by these statements only (`decide3`: `txid++`, `txid = id + 1`, `txid++` per
    send site) and its address is never taken -/
theorem C06_pin_txidAssignments :
    Gen.Server.txidAssignments_runIPServer = ["txid++", "txid = id + 1", "txid++"] ∧
    Gen.Server.txidAssignments_runSCIONServer =
      ["txid++", "txid = id + 1", "txid++", "txid++", "txid = id + 1", "txid++", "txid++", "txid = id + 1", "txid++"] :=
  ⟨rfl, rfl⟩

/-- F21 repair: the `updateTXTimestamp` calls of the listeners, in source order — one with the
    unchanged software reading `&txt0` in front of every `continue` that ends an iteration after
    `handleRequest` without a reply (IP: no cookie, failed write; SCION: path not reversible, no
    cookie, failed write: `stepEv code | .unsent`), and the one after the send with `&txt1` -/
theorem C06_pin_updateTxCalls :
    Gen.Server.updateTxCalls_runIPServer =
      ["updateTXTimestamp(clientID, rxt, &txt0)", "updateTXTimestamp(clientID, rxt, &txt0)",
       "updateTXTimestamp(clientID, rxt, &txt1)"] ∧
    Gen.Server.updateTxCalls_runSCIONServer =
      ["updateTXTimestamp(clientID, rxt, &txt0)", "updateTXTimestamp(clientID, rxt, &txt0)",
       "updateTXTimestamp(clientID, rxt, &txt0)", "updateTXTimestamp(clientID, rxt, &txt1)"] :=
  ⟨rfl, rfl⟩

/-- C03: no statement after a send reads the clock (the model's step after the write has no
    clock input) -/
theorem C03_pin_noClockAfterSend :
    Gen.Server.fact_noClockAfterSend_runIPServer = true ∧ Gen.Server.fact_noClockAfterSend_runSCIONServer = true := by
  decide

/-- C09: every `return` of the closure handed to `RawConn.Read` is `return true` — the runtime
    never re-runs it, one call is one bounded poll — and the poll waits `pollTimeoutMs` = 1 ms
    for `POLLPRI` on the one descriptor -/
theorem C09_pin_readTxGivesUp :
    Gen.Udp.fact_readTxClosureAlwaysDone = true ∧
    Gen.Udp.readTxPollArgs = ["pollFds", toString pollTimeoutMs] ∧ Gen.Udp.readTxPollEvents = "unix.POLLPRI" :=
  ⟨rfl, rfl, rfl⟩

/-- the closure of `ReadTXTimestamp`, statement by statement, is what `readTX` models: poll (EINTR
    retried), error exit, time-out exit with `errTimestampNotFound`, recvmsg on the error queue
    (EINTR retried), error exit, the three `errUnexpectedData` exits, the control-message walk -/
theorem C06_pin_readTxClosure :
    Gen.Udp.readTxClosure =
      ["pollFds := []unix.PollFd{{Fd: int32(fd), Events: unix.POLLPRI}}",
       "var n int",
       "for { n, err = unix.Poll(pollFds, 1) if err == unix.EINTR { continue } break }",
       "if err != nil { res.err = err return true }",
       "if n != len(pollFds) { res.err = errTimestampNotFound return true }",
       "buf := make([]byte, 0)",
       "oob := make([]byte, 128)",
       "var oobn, flags int",
       "var srcAddr unix.Sockaddr",
       "for { n, oobn, flags, srcAddr, err = unix.Recvmsg(int(fd), buf, oob, unix.MSG_ERRQUEUE) if err == unix.EINTR { continue } break }",
       "if err != nil { res.err = err return true }",
       "if n != 0 { res.err = errUnexpectedData return true }",
       "if flags != unix.MSG_ERRQUEUE { res.err = errUnexpectedData return true }",
       "if srcAddr != nil { res.err = errUnexpectedData return true }",
       "res.ts, res.id, res.err = timestampFromOOBData(oob[:oobn])",
       "return true"] := rfl

/-- A call succeeds exactly when poll(2) reported the descriptor ready and recvmsg returned an
    empty, source-less error-queue message whose control data carries both a timestamp and an
    id; it then returns exactly those. -/
theorem C06_readTX_success_iff (k : Kernel) (t : Int) (id : Nat) :
    readTX k = .ret t id .none ↔ k = stampMsg id t := by
  refine ⟨fun h => ?_, fun h => h ▸ readTX_stampMsg id t⟩
  rcases readTX_spec k with ⟨id', t', rfl⟩ | hp | ⟨e, hne, he⟩
  · rw [readTX_stampMsg] at h
    cases h
    rfl
  · rw [hp] at h
    cases h
  · rw [he] at h
    cases h
    exact absurd rfl hne

/-- Every failure returns the zero time and id 0 together with a non-nil error: no failure
    can be mistaken for a timestamp (in particular a poll time-out is `errTimestampNotFound`,
    not success). -/
theorem C06_readTX_failure_shape (k : Kernel) (t : Int) (id : Nat) (e : Err)
    (h : readTX k = .ret t id e) : e = .none ∨ (t = zeroTime ∧ id = 0) := by
  rcases readTX_spec k with ⟨id', t', rfl⟩ | hp | ⟨e', _, he⟩
  · rw [readTX_stampMsg] at h
    cases h
    exact .inl rfl
  · rw [hp] at h
    cases h
  · rw [he] at h
    cases h
    exact .inr ⟨rfl, rfl⟩

/-- C09: when nothing arrives on the error queue within the poll time-out the call gives up
    (for any number of ready descriptors other than the one polled). -/
theorem C09_readTX_timeout_gives_up (n : Nat) (r : RecvAns) (h : n ≠ 1) :
    readTX (.sys (.ready n) r) = .ret zeroTime 0 .notFound := by
  simp [readTX, pollFdsLen, h]

example : readTX emptyQueue = .ret zeroTime 0 .notFound := by decide
example : readTX (stampMsg 7 1700000000000000000) = .ret 1700000000000000000 7 .none := by decide

/-- The `if err != nil … else if id != txid … else …` block (both variants): the value handed on
    is the timestamp read only if the read succeeded **and** carries the expected id; in every
    other case it is the software reading `txt0` taken before the write. -/
theorem C06_decide3_value (fixed : Bool) (txid : Nat) (txt0 : Int) (r : Int × Nat × Err) :
    ((decide3 fixed txid txt0 r).1 = r.1 ∧ r.2.2 = .none ∧ r.2.1 = txid) ∨
    (decide3 fixed txid txt0 r).1 = txt0 := by
  unfold decide3
  by_cases h1 : r.2.2 = .none
  · by_cases h2 : r.2.1 = txid
    · left; simp [h1, h2]
    · right; simp [h1, h2]
  · right; simp [h1]

/-- C09: an iteration calls `ReadTXTimestamp` at least once and at most once more than there are
    entries on the error queue — each call is one poll of at most 1 ms — so the step after the
    write terminates whatever the kernel has delivered; the original code reads exactly once. -/
theorem C09_reads_bounded (cfg : Cfg) (s : LSock) (txt0 : Int) (kb : KB) :
    1 ≤ (sendRead cfg s txt0 kb).nreads ∧
    (sendRead cfg s txt0 kb).nreads ≤ (s.send kb).queue.length + 1 ∧
    (cfg.fixed = false → (sendRead cfg s txt0 kb).nreads = 1) := by
  unfold sendRead
  simp only
  refine ⟨(reads_count_le _ _ _).1, (reads_count_le _ _ _).2, ?_⟩
  intro h; rw [h]; exact reads_old_once _ _

/-- Repaired code, aligned socket: the listener's `txid` stays equal to the kernel's datagram
    counter, everything older is gone from the queue, and the value handed on is this
    datagram's own kernel timestamp if it was delivered in time and `txt0` otherwise —
    whatever was late or lost before. -/
theorem C06_sendRead_own_or_fallback (sr : Bool) (s : LSock) (al : Aligned s) (txt0 : Int) (kb : KB) :
    Aligned (sendRead ⟨true, sr, true⟩ s txt0 kb).sock ∧
    (sendRead ⟨true, sr, true⟩ s txt0 kb).dgram = s.sent ∧
    (∀ t, kb.own = some t → (sendRead ⟨true, sr, true⟩ s txt0 kb).txt1 = t) ∧
    (kb.own = none → (sendRead ⟨true, sr, true⟩ s txt0 kb).txt1 = txt0) := by
  have a := sendRead_fixed sr s al txt0 kb
  rw [sendRead_fixed_eq sr s al txt0 kb] at a ⊢
  exact ⟨a, rfl, fun t h => by rw [h]; rfl, fun h => by rw [h]; rfl⟩

/-- C09, cost of the repaired loop over a whole history on one socket: n datagrams written cost
    at most 2·n `ReadTXTimestamp` calls (plus one per timestamp still under way at the start) —
    one per datagram and at most one more for each timestamp that arrived late. Each call is one
    poll of at most 1 ms; none of them can block. -/
theorem C09_reads_amortised (sr : Bool) (kbs : List KB) (s : LSock) (al : Aligned s) (hq : s.queue = []) :
    (runSock sr s kbs).2 ≤ 2 * kbs.length + s.pending.length := by
  have := runSock_reads sr kbs s al hq
  omega

example : (runSock true LSock.init [.late 0 5, .late 0 6, .intime 7, .never, .intime 9]).2 = 7 := by decide

/-- what is invariant in a listener process: every socket aligned, the store well-formed -/
structure WInv (cap icap : Nat) (w : World) : Prop where
  socks : ∀ k, Aligned (w.socks k)
  store : Inv0 (fun _ => True) cap icap w.store

theorem C06_tx_inv_init (cap icap : Nat) : WInv cap icap World.init :=
  ⟨fun _ => aligned_init, inv0_init _ cap icap⟩

/-- `e` is the record of an exchange of client `cl` in `outs`: its receive timestamp is the one
    that reply carried and its transmit time is the kernel transmit timestamp of *that reply's
    own datagram*, delivered in time (forced at least 1 ns later than the receive time) -/
def Good (outs : List Out) (cl : Nat) (e : Entry) : Prop :=
  ∃ o ∈ outs, o.cl = cl ∧ o.sent = true ∧ o.reply ≠ none ∧ e.rx = ofTime o.rxt ∧
    ∃ t, o.own = some t ∧ e.tx = ofTime (utxTxt o.rxt t)

def RecInv (w : World) (outs : List Out) : Prop :=
  ∀ cl it e, w.store.items.find cl = some it → e ∈ it.buf → Good outs cl e

theorem good_mono_left {a : List Out} (b : List Out) {cl : Nat} {e : Entry} (h : Good a cl e) : Good (a ++ b) cl e := by
  obtain ⟨o, ho, r⟩ := h
  exact ⟨o, List.mem_append_left _ ho, r⟩

section
variable (cap icap : Nat) (hcap : 1 ≤ cap) (hic : 1 ≤ icap) (hic2 : icap < 1000000000)
include hcap hic hic2

theorem C06_tx_inv_step (w : World) (inv : WInv cap icap w) (e : Ev) :
    WInv cap icap (stepEv code cap icap w e).1 := by
  have hsk : ∀ sk txt0 kb k, Aligned (setSock w.socks sk (sendRead code (w.socks sk) txt0 kb).sock k) := by
    intro sk txt0 kb k
    unfold setSock
    split
    · exact sendRead_fixed true _ (inv.socks sk) txt0 kb
    · exact inv.socks k
  have hst := inv0_hr_utx hcap hic hic2 inv.store
  cases e with
  | ntp sk cl req krx nowRx now kb => exact ⟨hsk sk _ kb, hst cl req _ now _⟩
  | aux sk kb => exact ⟨hsk sk 0 kb, inv.store⟩
  | drop sk => exact inv
  | unsent sk cl req krx nowRx now => exact ⟨inv.socks, hst cl req _ now _⟩

theorem C06_tx_inv_run : ∀ (evs : List Ev) (w : World), WInv cap icap w →
    WInv cap icap (runEvs code cap icap w evs).1 := by
  intro evs
  induction evs with
  | nil => intro w h; exact h
  | cons e es ih => intro w h; exact ih _ (C06_tx_inv_step cap icap hcap hic hic2 w h e)

/-- **txid alignment**: after every history — NTP replies, SCMP replies, forwarded packets and
    unanswered datagrams of any clients on any sockets, transmit timestamps in time, late or
    lost — each listener's `txid` equals the number of datagrams written on its socket (the
    kernel's id of the next datagram), and no timestamp of an earlier datagram is left. -/
theorem C06_txid_counts_datagrams (evs : List Ev) (k : Nat) :
    let w := (runEvs code cap icap World.init evs).1
    (w.socks k).txid = (w.socks k).sent ∧ ∀ x ∈ (w.socks k).queue, x.id < (w.socks k).sent := by
  have h := (C06_tx_inv_run cap icap hcap hic hic2 evs World.init (C06_tx_inv_init cap icap)).socks k
  exact ⟨h.txid, h.queue⟩

/-- what one iteration hands to the store -/
def OutOk (o : Out) : Prop :=
  o.reply ≠ none → (∀ t, o.own = some t → o.txt1 = t) ∧ (o.own = none → o.txt1 = o.txt0)

omit hcap hic hic2 in
theorem C06_tx_step_value (w : World) (inv : WInv cap icap w) (e : Ev) :
    OutOk (stepEv code cap icap w e).2 := by
  cases e with
  | ntp sk cl req krx nowRx now kb => exact fun _ => (C06_sendRead_own_or_fallback true _ (inv.socks sk) _ kb).2.2
  | aux _ _ | drop _ | unsent _ _ _ _ _ _ => exact fun h => absurd rfl h

/-- **value handed to the store, all histories**: for every datagram written in any history the
    value handed to `updateTXTimestamp` is the kernel transmit timestamp *of that very datagram*
    when it was delivered in time, and otherwise — lost, late, or an earlier timestamp showing
    up in its place — the software reading `txt0` (which makes the store drop the exchange).
    No other value is ever handed over. -/
theorem C06_tx_value_all_histories : ∀ (evs : List Ev) (w : World), WInv cap icap w →
    ∀ o ∈ (runEvs code cap icap w evs).2, OutOk o := by
  intro evs
  induction evs with
  | nil => intro w _ o h; simp [runEvs] at h
  | cons e es ih =>
    intro w inv o ho
    simp only [runEvs, List.mem_cons] at ho
    rcases ho with rfl | ho
    · exact C06_tx_step_value cap icap w inv e
    · exact ih _ (C06_tx_inv_step cap icap hcap hic hic2 w inv e) o ho

/-- **recorded or dropped** (one NTP exchange in any reachable state): after the iteration, an
    entry of this client with the reply's receive timestamp is on record only if the kernel
    delivered this datagram's transmit timestamp `t` in time, and then its recorded transmit time
    is the encoding of `t` (forced later than the receive time by at least 1 ns); it was written
    for this client. In every other case the exchange is not on record. -/
theorem C06_tx_recorded_or_dropped (w : World) (inv : WInv cap icap w) (sk cl : Nat) (req : Req)
    (krx : Option Int) (nowRx now : Int) (kb : KB) :
    let r := stepEv code cap icap w (.ntp sk cl req krx nowRx now kb)
    ∀ it e, r.1.store.items.find cl = some it → e ∈ it.buf → e.rx = ofTime r.2.rxt →
      ∃ t, kb = .intime t ∧ e.tx = ofTime (utxTxt r.2.rxt t) ∧ e.owner = cl := by
  intro r it e hfind he hrx
  obtain ⟨hne, rfl⟩ := hr_utx_recorded hcap hic hic2 inv.store cl req (krx.getD nowRx) now _ it e
    hfind he hrx
  have hval := C06_tx_step_value cap icap w inv (.ntp sk cl req krx nowRx now kb) (Option.some_ne_none _)
  cases kb with
  | intime t => exact ⟨t, rfl, congrArg (fun x => ofTime (utxTxt _ x)) (hval.1 t rfl), rfl⟩
  | never | late _ _ =>
    have hlater := (C06_txt_later true cap icap w.store cl req (krx.getD nowRx) now (Or.inl rfl)).1
    exact absurd ((congrArg ofTime (utxTxt_of_lt hlater).symm).trans
      (congrArg (fun x => ofTime (utxTxt _ x)) (hval.2 rfl).symm)) hne

/-- **an exchange whose reply was not sent is dropped** (repaired code, any reachable state): after
    an iteration in which `handleRequest` recorded the exchange and then no datagram was written
    — irreversible SCION path, failed or short write, no cookie — no exchange with that receive
    timestamp is on record for the client: a request quoting it is answered in basic mode
    (`C06_interleaved_iff`), however the client came by the value. -/
theorem C06_tx_unsent_dropped (w : World) (inv : WInv cap icap w) (sk cl : Nat) (req : Req)
    (krx : Option Int) (nowRx now : Int) :
    let r := stepEv code cap icap w (.unsent sk cl req krx nowRx now)
    r.2.sent = false ∧ r.2.reply = none ∧ r.1.socks = w.socks ∧
    ∀ it e, r.1.store.items.find cl = some it → e ∈ it.buf → e.rx ≠ ofTime r.2.rxt := by
  intro r
  refine ⟨rfl, rfl, rfl, fun it e hf he hrx => ?_⟩
  have hlater := (C06_txt_later true cap icap w.store cl req (krx.getD nowRx) now (Or.inl rfl)).1
  exact (hr_utx_recorded hcap hic hic2 inv.store cl req (krx.getD nowRx) now _ it e hf he hrx).1
    (congrArg ofTime (utxTxt_of_lt hlater).symm)

theorem C06_tx_record_frame (w : World) (inv : WInv cap icap w) (pre : List Out) (h : RecInv w pre)
    (cl : Nat) (req : Req) (rxt now txt1 : Int) (k : Nat) (it : Item) (e : Entry) :
    let r := handleRequestG true cap icap w.store cl req rxt now
    (updateTX r.st cl r.rxt txt1).1.items.find k = some it → e ∈ it.buf →
      Good pre k e ∨ (k = cl ∧ e.rx = ofTime r.rxt) := by
  intro r hf he
  exact (hr_utx_frame hcap hic hic2 inv.store cl req rxt now txt1 k it e hf he).imp_left
    fun ⟨it0, hf0, he0⟩ => h k it0 e hf0 he0

theorem C06_tx_record_step (w : World) (inv : WInv cap icap w) (pre : List Out) (h : RecInv w pre) (ev : Ev) :
    RecInv (stepEv code cap icap w ev).1 (pre ++ [(stepEv code cap icap w ev).2]) := by
  cases ev with
  | aux _ _ | drop _ => exact fun cl it e hf he => good_mono_left _ (h cl it e hf he)
  | unsent sk cl req krx nowRx now =>
    intro k it e hf he
    rcases C06_tx_record_frame cap icap hcap hic hic2 w inv pre h cl req _ now _ k it e hf he with hg | ⟨rfl, hrx⟩
    · exact good_mono_left _ hg
    · exact absurd hrx ((C06_tx_unsent_dropped cap icap hcap hic hic2 w inv sk k req krx nowRx now).2.2.2 it e hf he)
  | ntp sk cl req krx nowRx now kb =>
    intro k it e hf he
    rcases C06_tx_record_frame cap icap hcap hic hic2 w inv pre h cl req _ now _ k it e hf he with hg | ⟨rfl, hrx⟩
    · exact good_mono_left _ hg
    · obtain ⟨t, rfl, htx, _⟩ :=
        C06_tx_recorded_or_dropped cap icap hcap hic hic2 w inv sk k req krx nowRx now kb it e hf he hrx
      exact ⟨_, List.mem_append_right _ List.mem_cons_self, rfl, rfl, Option.some_ne_none _, hrx, t, rfl, htx⟩

/-- **what is on record, all histories**: after every history of NTP requests of any clients,
    SCMP requests, forwarded and dropped datagrams on any listener sockets, with transmit
    timestamps delivered in time, late or never — every exchange on record carries, as its
    transmit time, the kernel transmit timestamp of the datagram of the very reply that carried
    its receive timestamp. Nothing else is ever on record (in particular no exchange whose
    timestamp was late or lost, and no timestamp of another datagram). -/
theorem C06_tx_record_all_histories : ∀ (evs : List Ev) (w : World) (pre : List Out), WInv cap icap w →
    RecInv w pre → RecInv (runEvs code cap icap w evs).1 (pre ++ (runEvs code cap icap w evs).2) := by
  intro evs
  induction evs with
  | nil => intro w pre _ h; simpa [runEvs] using h
  | cons e es ih =>
    intro w pre inv h
    have := ih _ (pre ++ [(stepEv code cap icap w e).2]) (C06_tx_inv_step cap icap hcap hic hic2 w inv e)
      (C06_tx_record_step cap icap hcap hic hic2 w inv pre h e)
    simpa [runEvs, List.append_assoc] using this

/-- **interleaved replies serve kernel timestamps** (the clause of C06, end to end): whatever
    history the listeners have been through, an interleaved reply carries the kernel transmit
    timestamp of the datagram of an earlier reply to the same client — the reply whose receive
    timestamp the request quotes as its origin. -/
theorem C06_tx_interleaved_serves_kernel_stamp (evs : List Ev) (sk cl : Nat) (req : Req)
    (krx : Option Int) (nowRx now : Int) (kb : KB) :
    let h := runEvs code cap icap World.init evs
    let r := stepEv code cap icap h.1 (.ntp sk cl req krx nowRx now kb)
    ∀ rep, r.2.reply = some rep → rep.inter = true → Good h.2 cl ⟨req.org, rep.tx, cl⟩ := by
  intro h r rep hrep hi
  have inv := C06_tx_inv_run cap icap hcap hic hic2 evs World.init (C06_tx_inv_init cap icap)
  have hrec := C06_tx_record_all_histories cap icap hcap hic hic2 evs World.init [] (C06_tx_inv_init cap icap)
    (by intro cl it e hf; simp [World.init, Server.init] at hf)
  obtain rfl := Option.some.inj hrep
  obtain ⟨_, it, e, hf, he, hrx, htx, _⟩ :=
    C06_interleaved_shape true cap icap h.1.store inv.store cl req (krx.getD nowRx) now hi
  obtain ⟨o, ho, a, a', b, c, t, d, f⟩ := hrec cl it e hf he
  exact ⟨o, ho, a, a', b, hrx.symm.trans c, t, d, htx.trans f⟩

/-- **an unsent exchange is never served** (repaired code): the request that follows a "recorded,
    nothing sent" iteration of the same client and quotes that exchange's receive timestamp as
    its origin — however it came by the value — is answered in basic mode. -/
theorem C06_tx_unsent_not_served (w : World) (inv : WInv cap icap w) (sk sk' cl : Nat) (req req' : Req)
    (krx krx' : Option Int) (nowRx now nowRx' now' : Int) (kb : KB) :
    let r := stepEv code cap icap w (.unsent sk cl req krx nowRx now)
    let r' := stepEv code cap icap r.1 (.ntp sk' cl req' krx' nowRx' now' kb)
    req'.org = ofTime r.2.rxt → ∀ rep, r'.2.reply = some rep → rep.inter = false := by
  intro r r' horg rep hrep
  have inv' := C06_tx_inv_step cap icap hcap hic hic2 w inv (.unsent sk cl req krx nowRx now)
  have hdrop := (C06_tx_unsent_dropped cap icap hcap hic hic2 w inv sk cl req krx nowRx now).2.2.2
  obtain rfl := Option.some.inj hrep
  refine Bool.eq_false_iff.2 fun hi => ?_
  obtain ⟨_, it, e, hf, he, hrx, _⟩ :=
    C06_interleaved_shape true cap icap r.1.store inv'.store cl req' (krx'.getD nowRx') now' hi
  exact hdrop it e hf he (by rw [hrx, horg])

omit hcap hic hic2 in
/-- **C03, server side**: when no kernel timestamp is available for a reply, the value handed to
    the store and what `updateTXTimestamp` makes of it is `txt0`, the reading `handleRequest` took
    **before** the datagram was written (not later than the clock reading `now` inside
    `handleRequest`, or 1 ns after the receive time): never a reading taken after the departure.
    The listener's post-send step has no clock input at all. -/
theorem C03_tx_fallback_is_presend_reading (w : World) (inv : WInv cap icap w) (sk cl : Nat) (req : Req)
    (krx : Option Int) (nowRx now : Int) (kb : KB) (hkb : kb.own = none) :
    let o := (stepEv code cap icap w (.ntp sk cl req krx nowRx now kb)).2
    o.txt1 = o.txt0 ∧ o.utx = o.txt0 ∧ o.rxt < o.txt0 ∧ (o.txt0 ≤ now ∨ o.txt0 ≤ o.rxt + 1) := by
  intro o
  have hl := C06_txt_later true cap icap w.store cl req (krx.getD nowRx) now (Or.inl rfl)
  have h1 : o.txt1 = o.txt0 :=
    (C06_tx_step_value cap icap w inv (.ntp sk cl req krx nowRx now kb) (Option.some_ne_none _)).2 hkb
  simp only [o, stepEv, handleRequest] at h1 ⊢
  refine ⟨h1, ?_, hl.1, hl.2⟩
  rw [utx_txt, h1]
  exact utxTxt_of_lt hl.1

end

/-- `C06_tx_interleaved_serves_kernel_stamp` with the capacities of the code (2^20 clients, 8
    exchanges per client; pinned by `C06_pin_tssCap`, `C06_pin_tssItemCap`) -/
theorem C06_tx_interleaved_serves_kernel_stamp_real (evs : List Ev) (sk cl : Nat) (req : Req)
    (krx : Option Int) (nowRx now : Int) (kb : KB) :
    let h := runEvs code tssCap tssItemCap World.init evs
    let r := stepEv code tssCap tssItemCap h.1 (.ntp sk cl req krx nowRx now kb)
    ∀ rep, r.2.reply = some rep → rep.inter = true →
      ∃ o ∈ h.2, o.cl = cl ∧ o.sent = true ∧ o.reply ≠ none ∧ req.org = ofTime o.rxt ∧
        ∃ t, o.own = some t ∧ rep.tx = ofTime (utxTxt o.rxt t) :=
  C06_tx_interleaved_serves_kernel_stamp tssCap tssItemCap (by decide) (by decide) (by decide) evs sk cl req krx nowRx now kb

/-- receive-timestamp fallback: without a kernel receive timestamp the receive time of the
    exchange is the clock reading taken after the datagram was read (`timebase.Now()`), with a
    kernel timestamp it is that timestamp; the reply's receive timestamp encodes it (possibly
    moved later to keep the client's receive timestamps distinct). -/
theorem C06_rx_fallback (cap icap : Nat) (w : World) (sk cl : Nat) (req : Req) (krx : Option Int) (nowRx now : Int) (kb : KB) :
    let o := (stepEv code cap icap w (.ntp sk cl req krx nowRx now kb)).2
    krx.getD nowRx ≤ o.rxt ∧ (∀ r, o.reply = some r → r.rx = ofTime o.rxt) ∧
    (krx = none → nowRx ≤ o.rxt) ∧ (∀ t, krx = some t → t ≤ o.rxt) := by
  intro o
  obtain ⟨hle, hrx⟩ := hr_rxt true cap icap w.store cl req (krx.getD nowRx) now
  refine ⟨hle, ?_, ?_, ?_⟩
  · intro r hr
    obtain rfl := Option.some.inj hr
    exact hrx
  · intro h; subst h; exact hle
  · intro t h; subst h; exact hle

/-! ### finding F20: the listeners before the repair

  One transmit timestamp that arrives after the 1 ms poll has given up (`late 0`): the exchange
  itself is dropped (correct), but `txid` is not advanced, so at the next reply the late
  timestamp is at the head of the error queue, carries the expected id and is recorded as that
  reply's transmit time — and so on for every later reply on the socket. -/

def f20req (j : Nat) (org : T64) : Req := ⟨org, ⟨2000 + j, 2⟩, ⟨1000 + j, 1⟩⟩
def f20T : Int := 1700000000000000000

/-- exchanges A (timestamp late), B (quotes A), C (quotes B) of one client on one socket;
    every transmit timestamp is taken 5 µs after the receive time -/
def f20run (cfg : Cfg) : List Out :=
  let w0 := World.init
  let a := stepEv cfg tssCap tssItemCap w0 (.ntp 0 1 (f20req 0 ⟨0, 0⟩) (some f20T) f20T (f20T + 1000) (.late 0 (f20T + 5000)))
  let rxA := (a.2.reply.map (·.rx)).getD ⟨0, 0⟩
  let b := stepEv cfg tssCap tssItemCap a.1 (.ntp 0 1 (f20req 1 rxA) (some (f20T + 1000000)) 0 (f20T + 1001000) (.intime (f20T + 1005000)))
  let rxB := (b.2.reply.map (·.rx)).getD ⟨0, 0⟩
  let c := stepEv cfg tssCap tssItemCap b.1 (.ntp 0 1 (f20req 2 rxB) (some (f20T + 2000000)) 0 (f20T + 2001000) (.intime (f20T + 2005000)))
  [a.2, b.2, c.2]

/-- Original code: B is (correctly) answered in basic mode, but recorded with A's timestamp —
    earlier than B's receive time, hence clamped to rx + 1 ns — and C is served that value in
    interleaved mode instead of B's kernel transmit timestamp (rx + 5 µs). -/
theorem C06_old_code_late_timestamp_counterexample :
    (f20run codeOld).map (fun o => (o.reply.map (·.inter), o.txt1 - o.rxt)) =
      [(some false, 1000), (some false, -995000), (some true, -995000)] ∧
    ((f20run codeOld)[2]?.bind (·.reply)).map (·.tx) = some (ofTime (f20T + 1000000 + 1)) := by
  decide

/-- The repaired code on the same history: A dropped, B recorded with its own timestamp, C served
    exactly that. -/
theorem C06_f20_repaired :
    (f20run code).map (fun o => (o.reply.map (·.inter), o.txt1 - o.rxt)) =
      [(some false, 1000), (some false, 5000), (some true, 5000)] ∧
    ((f20run code)[2]?.bind (·.reply)).map (·.tx) = some (ofTime (f20T + 1005000)) := by
  decide

/-- What holds of the original code (`…_partial`: the gap is exactly the late timestamps): on a
    socket whose queue is empty and with `txid` not ahead of the kernel's counter, a timestamp
    delivered in time or never is handled soundly — the value handed on is the datagram's own
    timestamp or `txt0` — and the queue is empty again. A lost timestamp leaves `txid` behind,
    which costs the next exchange (its own timestamp is refused, `txid` resynchronised). -/
theorem C06_old_code_partial (s : LSock) (hq : s.queue = []) (hp : s.pending = []) (hle : s.txid ≤ s.sent)
    (txt0 : Int) (kb : KB) (hkb : ∀ d t, kb ≠ .late d t) :
    let p := sendRead codeOld s txt0 kb
    p.sock.queue = [] ∧ p.sock.pending = [] ∧ p.sock.txid ≤ p.sock.sent ∧ p.nreads = 1 ∧
    (p.txt1 = txt0 ∨ kb = .intime p.txt1) := by
  cases kb with
  | late d t => exact absurd rfl (hkb d t)
  | never =>
    simp [sendRead, LSock.send, hq, hp, arrive, reads, decide3, codeOld]
    omega
  | intime t =>
    by_cases h : s.sent = s.txid <;> simp [sendRead, LSock.send, hq, hp, arrive, reads, decide3, codeOld, h]

/-- Why the SCMP and forwarding branches must read their transmit timestamp too (the value is
    discarded there): a listener whose SCMP branch writes without reading records, after one
    echo reply, every NTP reply with the timestamp of the datagram written before it. -/
theorem C06_aux_branches_must_read_counterexample :
    let cfg : Cfg := ⟨true, false, true⟩
    let e := stepEv cfg tssCap tssItemCap World.init (.aux 0 (.intime (f20T - 1000000)))
    let a := stepEv cfg tssCap tssItemCap e.1 (.ntp 0 1 (f20req 0 ⟨0, 0⟩) (some f20T) 0 (f20T + 1000) (.intime (f20T + 5000)))
    let a' := stepEv code tssCap tssItemCap (stepEv code tssCap tssItemCap World.init (.aux 0 (.intime (f20T - 1000000)))).1
      (.ntp 0 1 (f20req 0 ⟨0, 0⟩) (some f20T) 0 (f20T + 1000) (.intime (f20T + 5000)))
    a.2.txt1 = f20T - 1000000 ∧ a.2.utx = f20T + 1 ∧ a'.2.txt1 = f20T + 5000 ∧ a'.2.utx = f20T + 5000 := by
  decide

/-! ### finding F21: an exchange recorded by `handleRequest` whose reply is then not sent

  After `handleRequest` the listeners could end the iteration without a datagram and without
  `updateTXTimestamp` (`scionLayer.Path.Reverse()` fails — runSCIONServer only, reachable with one
  datagram from the network —, the write fails or is short, no cookie could be encrypted). The
  exchange stayed on record as (rx, software `txt0`); a later request of the same client whose
  origin equals that rx was served in interleaved mode with `txt0` as "the transmit time recorded
  for the earlier reply" — of a reply that never existed. -/

/-- exchange A of client 1 (recorded, nothing sent), then B quoting A's receive timestamp -/
def f21run (cfg : Cfg) : List Out :=
  let a := stepEv cfg tssCap tssItemCap World.init (.unsent 0 1 (f20req 0 ⟨0, 0⟩) (some f20T) f20T (f20T + 1000))
  let b := stepEv cfg tssCap tssItemCap a.1
    (.ntp 0 1 (f20req 1 (ofTime a.2.rxt)) (some (f20T + 1000000)) 0 (f20T + 1001000) (.intime (f20T + 1005000)))
  [a.2, b.2]

/-- Code before the repair: nothing was sent for A (no datagram, no reply), yet B is answered in
    interleaved mode, with A's software reading `txt0` (rx + 1 µs here) as transmit timestamp. -/
theorem C06_old_code_unsent_exchange_served_counterexample :
    (f21run codeUnsentOld).map (fun o => (o.sent, o.reply.map (·.inter))) = [(false, none), (true, some true)] ∧
    ((f21run codeUnsentOld)[1]?.bind (·.reply)).map (·.tx) = some (ofTime (f20T + 1000)) := by
  decide

/-- The repaired code on the same history: A is taken off the record, B is answered in basic mode. -/
theorem C06_f21_repaired :
    (f21run code).map (fun o => (o.sent, o.reply.map (·.inter))) = [(false, none), (true, some false)] := by
  decide

/-! Non-vacuity: reachable worlds satisfy `WInv`; the histories above exercise every `KB`. -/
example : WInv tssCap tssItemCap World.init := C06_tx_inv_init _ _
example : (f20run code).length = 3 := by decide
/-- the "recorded, nothing sent" event does occur in a history and did record the exchange
    (hypotheses of `C06_tx_unsent_dropped` / `C06_tx_unsent_not_served`; the all-histories theorems
    quantify over event lists that may contain it) -/
example : ((f21run code)[0]?.map (fun o => (o.unsent, o.rxt, o.txt0))) = some (true, f20T, f20T + 1000) := by decide
/-- an interleaved reply does occur after a history (hypothesis of `C06_tx_interleaved_serves_kernel_stamp`) -/
example : ((f20run code)[2]?.bind (·.reply)).map (·.inter) = some true := by decide

end ScionTime.Props.C06Tx
