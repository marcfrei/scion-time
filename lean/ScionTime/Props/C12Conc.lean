/-
  C12, concurrency clause — linearizability of the key provider under its mutex.

  harness/extract/x_c12.go checks on every run (and stops the run otherwise; there is no Lean
  pin for it) that every Provider method except `generateNext` locks `mu` first and unlocks by
  defer, and that `generateNext` is called only from `Current` and `NewProvider`. Over the interleaving semantics of Model/Mutex.lean (any number of
  goroutines — listeners and NTS-KE handlers —, any schedule, critical sections split into any
  micro-steps): whenever the mutex is free the provider's state is what the sequential model
  `Provider.exec` yields for the calls in lock-acquisition order, which keeps every goroutine's
  own call order. The clock readings of the model's operations are taken inside the critical
  sections, so along the lock-acquisition order they are non-decreasing for a monotonic clock
  (hypothesis `Timed` of the sequential theorems, stated on that order); under it every theorem
  of Props/C12.lean (`Reach`) applies to every concurrent execution.
-/
import ScionTime.Proofs.Mutex
import ScionTime.Props.C12
namespace ScionTime.Props.C12Conc
open ScionTime ScionTime.Provider ScionTime.Mutex

theorem seqResult_eq_exec (P : Params) (sem : Provider.Op → Body State)
    (hsem : ∀ op st, runOp (sem op) st = (step P st op).1) (st : State) (log : List (Nat × Provider.Op)) :
    seqResult sem st log = exec P st (log.map (·.2)) := by
  unfold seqResult
  induction log generalizing st with
  | nil => rfl
  | cons e l ih =>
    simp only [List.foldl_cons, List.map_cons, exec]
    rw [hsem]; exact ih _

/-- Linearizability of the provider: at every quiescent point the state is the sequential
    model's for the calls in lock order, and that order respects each goroutine's program. -/
theorem C12_linearizable (P : Params) (sem : Provider.Op → Body State)
    (hsem : ∀ op st, runOp (sem op) st = (step P st op).1)
    (s0 : State) (progs : List (List Provider.Op)) (sched : List Nat) :
    let s := Mutex.run sem (start s0 progs) sched
    ProgOrder progs s ∧ (s.holder = none → s.shared = exec P s0 (s.log.map (·.2))) := by
  intro s
  refine ⟨run_preserves sem (step_progOrder sem progs) sched _ (start_progOrder s0 progs), ?_⟩
  intro hfree
  rw [inv_free (run_preserves sem (step_inv sem s0) sched _ (start_inv sem s0 progs)) hfree, seqResult_eq_exec P sem hsem]

/-- A call in its critical section works on the sequential state of the calls logged before it
    (plus its own completed micro-steps): the key it returns is the one the sequential model
    returns at that point of the lock order. -/
theorem C12_critical_section_isolated (P : Params) (sem : Provider.Op → Body State)
    (hsem : ∀ op st, runOp (sem op) st = (step P st op).1)
    (s0 : State) (progs : List (List Provider.Op)) (sched : List Nat) (i : Nat) :
    let s := Mutex.run sem (start s0 progs) sched
    s.holder = some i →
    ∃ prev op done rem, s.log = prev ++ [(i, op)] ∧ sem op = done ++ rem ∧
      s.shared = runOp done (exec P s0 (prev.map (·.2))) := by
  intro s hh
  obtain ⟨_, prev, op, done, rem, _, _, _, hlog, hop, hsh⟩ :=
    inv_held (run_preserves sem (step_inv sem s0) sched _ (start_inv sem s0 progs)) hh
  exact ⟨prev, op, done, rem, hlog, hop, by rw [hsh, seqResult_eq_exec P sem hsem]⟩

/-- Hence the provider invariant and every `Reach` theorem of Props/C12.lean (current key valid
    and at most one renewal interval old, Get only within validity, identifiers never repeat …)
    hold at every quiescent point of every concurrent execution whose clock readings, in lock
    order, do not go backwards. -/
theorem C12_concurrent_reach (P : Params) (sem : Provider.Op → Body State)
    (hsem : ∀ op st, runOp (sem op) st = (step P st op).1)
    (t0 now : Int) (s0 : State) (hr : Reach P t0 now s0)
    (progs : List (List Provider.Op)) (sched : List Nat) :
    let s := Mutex.run sem (start s0 progs) sched
    s.holder = none → Timed now (s.log.map (·.2)) →
    Reach P t0 (endTime now (s.log.map (·.2))) s.shared := by
  intro s hfree ht
  rw [(C12_linearizable P sem hsem s0 progs sched).2 hfree]
  exact reach_exec hr ht

/-- the whole method body as one micro-step -/
def atomicBody (P : Params) (op : Provider.Op) : Body State := [fun st => (step P st op).1]

/-- non-vacuity: two goroutines calling Current / Get on the standard provider, interleaved;
    both calls are logged and the mutex is free at the end -/
example :
    let progs : List (List Provider.Op) := [[.current 100 101], [.get 1 50]]
    let s := Mutex.run (atomicBody std) (start (init std 0) progs) [1, 0, 1, 0, 1, 0, 0, 0]
    s.holder = none ∧ s.log.map (·.1) = [1, 0] := by
  decide

end ScionTime.Props.C12Conc
