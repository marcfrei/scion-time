/-
  C20 (client clause) — "NTP requests go to the server and port named in the exchange", over
  HISTORIES of key exchanges on one client object (Model/ClientFlow.lean `destStep`, `destHistory`).

  The clients write the named server and port into the caller's long-lived address object on every
  call and keep nothing else from one call to the next. So the k-th request of any history goes to
  exactly (`net.ParseIP(Server_k)` in its 4-byte form when it has one, `Port_k`) — or nowhere when
  `Server_k` is no IP literal — independent of what earlier exchanges named and of what the address
  object held. The variant that caches the parsed address in the client keyed by the server name only
  is refuted: after a re-key that names the same server with another port its request goes to the
  old port.
-/
import ScionTime.Proofs.ClientNtp
namespace ScionTime.Props.C20Dest
open ScionTime.ClientNtp ScionTime.ClientFlow

/-- the destination named by one key exchange alone -/
def named (kx : KxDest) : Option (List Nat × Nat) := ntsDestination ([], 0) kx.parsed kx.port

/-- **Every request of a history goes where ITS exchange says.** -/
theorem C20Dest_history (kxs : List KxDest) : ∀ held : List Nat × Nat, destHistory held kxs = kxs.map named := by
  induction kxs with
  | nil => intro held; rfl
  | cons kx rest ih =>
    intro held
    simp only [destHistory, List.map_cons, ih]
    rfl

/-- the k-th destination depends on the k-th exchange only: not on the address object's content
    before the first call, not on any other exchange of the history -/
theorem C20Dest_kth (kxs kxs' : List KxDest) (held held' : List Nat × Nat) (k : Nat) (kx : KxDest)
    (h : kxs[k]? = some kx) (h' : kxs'[k]? = some kx) :
    (destHistory held kxs)[k]? = some (named kx) ∧ (destHistory held' kxs')[k]? = some (named kx) := by
  rw [C20Dest_history, C20Dest_history]
  simp [h, h']

/-- what `named` is: the parsed literal (unmapped) and the port of that exchange; nothing when the
    server is no IP literal -/
theorem C20Dest_named (kx : KxDest) :
    (∀ ip p, named kx = some (ip, p) → p = kx.port ∧ ∃ lit, kx.parsed = some lit ∧ unmapIP lit = some ip) ∧
    (kx.parsed = none → named kx = none) :=
  ⟨fun _ _ => ntsDestination_some, fun h => by unfold named; rw [h]; rfl⟩

def ipA : List Nat := [0, 0, 0, 0, 0, 0, 0, 0, 0, 0, 255, 255, 127, 0, 0, 1]
def ipB : List Nat := [0, 0, 0, 0, 0, 0, 0, 0, 0, 0, 255, 255, 127, 0, 0, 2]

/-- non-vacuity: same server with another port, another server with the same port, a host name in
    between — each request goes to what its own exchange named -/
example : destHistory ([9, 9, 9, 9], 9)
    [⟨"127.0.0.1", some ipA, 4001⟩, ⟨"127.0.0.1", some ipA, 4002⟩, ⟨"127.0.0.2", some ipB, 4002⟩,
     ⟨"localhost", none, 4003⟩, ⟨"127.0.0.1", some ipA, 4003⟩] =
    [some ([127, 0, 0, 1], 4001), some ([127, 0, 0, 1], 4002), some ([127, 0, 0, 2], 4002), none,
     some ([127, 0, 0, 1], 4003)] := by decide

/-- **The name-keyed cache is refuted**: the second exchange names the same server with port 4002,
    the variant's request still goes to port 4001 (and keeps doing so until another NAME appears). -/
theorem C20Dest_name_cache_refuted :
    destHistoryNameCache none
      [⟨"127.0.0.1", some ipA, 4001⟩, ⟨"127.0.0.1", some ipA, 4002⟩, ⟨"127.0.0.2", some ipB, 4002⟩, ⟨"127.0.0.1", some ipA, 4003⟩] =
      [some ([127, 0, 0, 1], 4001), some ([127, 0, 0, 1], 4001), some ([127, 0, 0, 2], 4002), some ([127, 0, 0, 1], 4003)] ∧
    destHistory ([], 0)
      [⟨"127.0.0.1", some ipA, 4001⟩, ⟨"127.0.0.1", some ipA, 4002⟩, ⟨"127.0.0.2", some ipB, 4002⟩, ⟨"127.0.0.1", some ipA, 4003⟩] =
      [some ([127, 0, 0, 1], 4001), some ([127, 0, 0, 1], 4002), some ([127, 0, 0, 2], 4002), some ([127, 0, 0, 1], 4003)] := by
  decide

end ScionTime.Props.C20Dest
