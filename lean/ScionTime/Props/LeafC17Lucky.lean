/-
  Kernel-checked ties (C17): the lucky-packet filter — `(*LuckyPacketFilter).Do` and `Reset` of
  core/client/filter_flash.go — as regenerated from /repo's Go source on every run
  (Gen/LeafClient.lean; seventh generation of the leaf translator: slices with a capacity —
  `cap`, `s[:n]`, overlapping `copy`, `append` below capacity, `slices.SortFunc` with a
  `cmp.Compare` closure —, struct elements, an `Out` result) is the hand-written model
  `luckyDo` / `luckyReset` of Model/Filters.lean: same window, same returned offset, no panic, and
  never `stuck` (the `append` never reallocates), for every filter as `NewLuckyPacketFilter`
  builds it and `Do` / `Reset` keep it (`WFL`), of capacity at most 12 — the regime in which
  `slices.SortFunc` is the stable insertion sort the model transcribes — and every four instants.
-/
import ScionTime.Gen.LeafClient
import ScionTime.Model.Filters
import ScionTime.Proofs.LeafSlice2
import ScionTime.Props.LeafC17
import ScionTime.Proofs.LeafC17Lucky
namespace ScionTime.LeafTieC17Lucky
open ScionTime ScionTime.Gen.Leaf ScionTime.GoLemmas ScionTime.Filters ScionTime.GoSlice ScionTime.Go

/-- view of a stored measurement (the `stamp` field is stored but never read) -/
def meas (m : S_measurement) : Meas := { off := m.off, rtd := m.rtd }

/-- view of a generated filter as the model's: capacity of `state`, `pick`, the live window -/
def lk (f : S_LuckyPacketFilter) : Lucky :=
  { cap := f.state.arr.length, pick := f.pick.toInt.toNat, state := f.state.live.map meas }

/-- a filter as `NewLuckyPacketFilter(cap, pick)` builds it (`1 ≤ pick ≤ cap`, both slices of
    capacity `cap`), in the insertion-sort regime of `slices.SortFunc` -/
structure WFL (f : S_LuckyPacketFilter) : Prop where
  caps : f.luckyPkts.arr.length = f.state.arr.length
  pick1 : 1 ≤ f.pick.toInt
  pickc : f.pick.toInt ≤ f.state.arr.length
  small : f.state.arr.length ≤ 12

theorem clockOffset_eq (a b c d : Int) : ntp_ClockOffset a b c d = clockOffset a b c d := rfl

theorem roundTripDelay_eq (a b c d : Int) : ntp_RoundTripDelay a b c d = roundTripDelay a b c d := rfl

theorem insert_view (k : S_measurement → Int64) (k' : Meas → Int64) (hk : ∀ a, k a = k' (meas a))
    (x : S_measurement) (l : List S_measurement) :
    (Slice.insertByKey k x l).map meas = insertBy k' (meas x) (l.map meas) := by
  induction l with
  | nil => rfl
  | cons y ys ih =>
    simp only [Slice.insertByKey, List.map_cons, insertBy, hk]
    split <;> simp [ih]

theorem sort_view (k : S_measurement → Int64) (k' : Meas → Int64) (hk : ∀ a, k a = k' (meas a))
    (l : List S_measurement) : (Slice.sortByKey k l).map meas = sortBy k' (l.map meas) := by
  unfold Slice.sortByKey sortBy
  rw [List.foldl_map]
  exact (List.foldl_hom (List.map meas) (H := fun acc x => (insert_view k k' hk x acc).symm)).symm

theorem ofOption_some {α : Type} (c : String) (a : α) : Out.ofOption c (some a) = Out.ok a := rfl
theorem ofStuck_some {α : Type} (a : α) : Out.ofOptionStuck (some a) = Out.ok a := rfl

theorem C17_leaf_LuckyDo (f : S_LuckyPacketFilter) (hw : WFL f) (cTx sRx sTx cRx : Int) :
    ∃ f' v, client_LuckyPacketFilter_Do f cTx sRx sTx cRx = .ok (f', v) ∧
      lk f' = (luckyDo (lk f) ⟨cTx, sRx, sTx, cRx⟩).1 ∧
      some v = (luckyDo (lk f) ⟨cTx, sRx, sTx, cRx⟩).2 ∧ WFL f' := by
  obtain ⟨pick, st, lp⟩ := f
  obtain ⟨hcaps, hp1, hpc, hsm⟩ := hw
  simp only at hcaps hp1 hpc hsm
  have hbig : st.arr.length < 4611686018427387904 := by omega
  have hcap0 : st.arr.length ≠ 0 := by omega
  have hcapne : ¬ (st.cap == 0) = true := fun h => by
    have := cap_toInt st hbig
    rw [eq_of_beq h] at this
    have h0 : (0 : Int64).toInt = 0 := by decide
    omega
  unfold client_LuckyPacketFilter_Do
  simp only [if_neg hcapne]
  -- 1. the window drops its oldest element when full
  obtain ⟨st1, h1, h1c, h1l, h1v⟩ := drop_oldest st hbig hcap0
    fun s => Out.ok ({ pick := pick, state := s, luckyPkts := lp } : S_LuckyPacketFilter)
  rw [h1, bind_ok]
  -- 2. append below capacity
  obtain ⟨s5, h5, h5v, h5l, h5c⟩ := append?_some st1
    ({ stamp := cTx, off := ntp_ClockOffset cTx sRx sTx cRx, rtd := ntp_RoundTripDelay cTx sRx sTx cRx } : S_measurement)
    (by omega)
  simp only [h5, ofStuck_some, bind_ok]
  -- 3. luckyPkts = a copy of the window
  obtain ⟨s6, h6, h6a, h6l⟩ := to?_some lp s5.len' s5.len (len_toInt s5 (by omega)) (by omega)
  simp only [h6, ofOption_some, bind_ok]
  obtain ⟨s7, h7, h7l, h7c, h7v⟩ := copy_all s6 s5 h6l
  simp only [h7, ofOption_some, bind_ok]
  have h6c : s6.arr.length = lp.arr.length := by rw [h6a]
  -- 4. the `pick` lowest-delay samples
  obtain ⟨s11, h11, h11c, h11p, h11l, h11v⟩ := keep_lowest (fun a => a.rtd) s7 pick hp1
    (by omega) (by omega) (by omega)
    fun s => Out.ok ({ pick := pick, state := s5, luckyPkts := s } : S_LuckyPacketFilter)
  rw [h11, bind_ok]
  -- 5. sorted by offset, 6. the median
  obtain ⟨s12, h12, h12l, h12c, h12v⟩ := sortBy?_some (fun a => a.off) s11 (by omega)
  simp only [h12, ofStuck_some, bind_ok]
  obtain ⟨v, hv, hmed⟩ := median_off (fun m => m.off) s12 (by omega) (by omega)
    fun v => Out.ok (({ pick := pick, state := s5, luckyPkts := s12 } : S_LuckyPacketFilter), v)
  -- the same window, selection and sorted offsets in the model
  have hwin : s5.live.map meas = luckyPush (lk { pick := pick, state := st, luckyPkts := lp })
      (Sample.meas { cTx := cTx, sRx := sRx, sTx := sTx, cRx := cRx }) := by
    rw [h5v, h1v, List.map_append, apply_ite (List.map meas), List.map_drop]
    simp only [luckyPush, lk, Sample.meas, meas, List.map_cons, List.map_nil, List.length_map,
      live_length, clockOffset_eq, roundTripDelay_eq]
  have hsel : s11.live.map meas = luckySelect pick.toInt.toNat (s5.live.map meas) := by
    rw [h11v, apply_ite (List.map meas), List.map_take,
      sort_view (fun a => a.rtd) Meas.rtd (fun _ => rfl), h7v, luckySelect, List.length_map,
      live_length, show s7.len = s5.len by omega]
  refine ⟨_, v, hv, ?_, ?_, by simp only; omega, hp1, by simp only; omega, by simp only; omega⟩
  · rw [luckyDo_state _ _ hcap0, ← hwin]
    show (⟨s5.arr.length, _, _⟩ : Lucky) = ⟨st.arr.length, pick.toInt.toNat, _⟩
    rw [h5c, h1c]
  · rw [luckyDo_value _ _ hcap0, ← hwin]
    show _ = medianI64 (List.map Meas.off (sortBy Meas.off (luckySelect pick.toInt.toNat _)))
    rw [← hsel, ← sort_view (fun a => a.off) Meas.off (fun _ => rfl), ← h12v, List.map_map]
    exact hmed.symm

/-- the zero filter `&LuckyPacketFilter{}` (capacity 0) hands the plain clock offset through -/
theorem C17_leaf_LuckyDo_zero (f : S_LuckyPacketFilter) (h0 : f.state.arr.length = 0) (cTx sRx sTx cRx : Int) :
    client_LuckyPacketFilter_Do f cTx sRx sTx cRx = .ok (f, clockOffset cTx sRx sTx cRx) ∧
      (luckyDo (lk f) ⟨cTx, sRx, sTx, cRx⟩) = (lk f, some (clockOffset cTx sRx sTx cRx)) := by
  unfold client_LuckyPacketFilter_Do luckyDo
  have : (f.state.cap == 0) = true := by simp [Slice.cap, h0]
  simp only [this, if_true, clockOffset_eq, lk, h0]
  exact ⟨trivial, trivial⟩

/-- **Reset** empties the window and keeps capacity and `pick` -/
theorem C17_leaf_LuckyReset (f : S_LuckyPacketFilter) :
    ∃ f', client_LuckyPacketFilter_Reset f = some f' ∧ lk f' = luckyReset (lk f) ∧
      f'.luckyPkts = f.luckyPkts ∧ f'.state.arr = f.state.arr := by
  unfold client_LuckyPacketFilter_Reset
  obtain ⟨s1, h1, h1a, h1l⟩ := to?_some f.state 0 0 (by decide) (by omega)
  refine ⟨{ f with state := s1 }, by rw [h1]; rfl, ?_, rfl, h1a⟩
  simp only [lk, luckyReset, h1a, live_of s1 f.state.arr 0 h1a h1l, List.take_zero, List.map_nil]

/-- the hypotheses are met and the branches occur, through the generated definition: a filter of
    capacity 3 picking 2, fed four samples (the fourth evicts the first; offsets 500, 1000, 1500, 100
    with delays 2000, 1000, 3000, 4000) -/
def fresh3 : S_LuckyPacketFilter :=
  { pick := 2, state := Slice.make ⟨0, 0, 0⟩ 0 3 (by decide), luckyPkts := Slice.make ⟨0, 0, 0⟩ 0 3 (by decide) }

example : WFL fresh3 := ⟨rfl, by decide, by decide, by decide⟩

def feed (f : S_LuckyPacketFilter) (xs : List (Int × Int × Int × Int)) : List (Option Int64) × Nat :=
  match xs with
  | [] => ([], f.state.len)
  | (a, b, c, d) :: rest =>
    match client_LuckyPacketFilter_Do f a b c d with
    | .ok (f', v) => let r := feed f' rest; (some v :: r.1, r.2)
    | _ => ([none], 0)

example : feed fresh3 [(0, 1500, 1500, 2000), (0, 1500, 1500, 1000), (0, 3000, 3000, 3000), (0, 2100, 2100, 4000)] =
    ([some 500, some 750, some 750, some 1250], 3) := by decide

end ScionTime.LeafTieC17Lucky
