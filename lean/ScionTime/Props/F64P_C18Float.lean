/-
  C18 (floating-point clauses) — frequency <-> scaled-ppm conversion round-trips to within
  one unit in the last place; the drift allowance is proportional to the interval.
  Model: ScionTime/Model/F64P_UnixutilFloat.lean over the software double Model/F64.lean;
  rounding lemmas: ScionTime/Proofs/F64.lean.
-/
import ScionTime.Model.F64P_UnixutilFloat
import ScionTime.Proofs.F64
import ScionTime.Proofs.F64P_C18Float
import ScionTime.Gen.Unixutil
namespace ScionTime.F64P_C18Float
open ScionTime.F64 ScionTime.F64P_UnixutilFloat

/-- Pins: the scale factor inside both function bodies of /repo's source
    (`65536.0 * 1e6`, evaluated exactly by harness/extract) is the model's. -/
theorem C18_pin_scale_to : Gen.Unixutil.f64p_scaledPPMFromFreqFactor = scale := by decide
theorem C18_pin_scale_from : Gen.Unixutil.f64p_freqFromScaledPPMFactor = scale := by decide

/-- C18: `ScaledPPMFromFreq (FreqFromScaledPPM x)` is within one unit of `x`, for
    `|x| ≤ 2^51` (the kernel's range `|x| ≤ 32768000` included; see the corollary). -/
theorem C18_scaledppm_roundtrip (x : Int) (h : x.natAbs ≤ 2 ^ 51) :
    (scaledPPMFromFreq (freqFromScaledPPM x) - x).natAbs ≤ 1 := by
  unfold scaledPPMFromFreq freqFromScaledPPM
  rw [scaleF_eq]
  obtain ⟨r, hr, e⟩ := ppm_freq_ppm (x := x) (by omega)
  rw [hr]
  have hx := intCast_abs_le h
  simp only [Nat.reducePow, Rat.natCast_ofNat] at hx
  exact trunc_near (by grind)

/-- the kernel's range: ±500 ppm = ±32 768 000 scaled units -/
theorem C18_scaledppm_roundtrip_kernel (x : Int) (h1 : -32768000 ≤ x) (h2 : x ≤ 32768000) :
    x - 1 ≤ scaledPPMFromFreq (freqFromScaledPPM x) ∧
    scaledPPMFromFreq (freqFromScaledPPM x) ≤ x + 1 := by
  have := C18_scaledppm_roundtrip x (by omega)
  omega

example : (32768000 : Int).natAbs ≤ 2 ^ 51 := by decide

/-- C18, reverse direction, "within one unit in the last place of the scaled value":
    for a finite frequency `f` whose scaled value `f · 65536·10^6` is at most `2^40` in
    magnitude (the kernel's range is `2^25`), converting to scaled ppm and back gives a
    finite frequency whose scaled value differs from that of `f` by at most `1 + 2^-11`
    scaled units (1 from the truncation to an integer, the rest from three roundings). -/
theorem C18_freq_roundtrip (f : F64) (hf : isFinite f = true)
    (h : (toRat f * 65536000000).abs ≤ pow2 40) :
    isFinite (freqFromScaledPPM (scaledPPMFromFreq f)) = true ∧
    (toRat (freqFromScaledPPM (scaledPPMFromFreq f)) * 65536000000 - toRat f * 65536000000).abs
      ≤ 1 + pow2 (-11) := by
  unfold freqFromScaledPPM scaledPPMFromFreq
  rw [show pow2 40 = 1099511627776 by decide] at h
  rw [show pow2 (-11) = 1 / 2048 by rw [pow2_neg]; congr 1, scaleF_eq]
  obtain ⟨fin, e, _, _⟩ := freq_ppm_freq hf (Rat.le_trans h (by grind))
  exact ⟨fin, Rat.le_trans e (by grind)⟩

/-- the hypothesis is met by every frequency within the kernel's ±500 ppm -/
example : ((500 : Rat) / 1000000 * 65536000000).abs ≤ pow2 40 := by
  rw [show pow2 40 = 1099511627776 by decide, abs_le_iff]; grind

/-- The Go expression `timemath.Duration(duration.Seconds() * drift)` read over the
    rationals (no rounding, no truncation): seconds and sub-second part are split by
    truncating division, recombined, multiplied by the drift and by `10^9`. -/
def driftExact (c : Rat) (d : Int) : Rat :=
  (((Int.tdiv d 1000000000 : Int) : Rat) + ((Int.tmod d 1000000000 : Int) : Rat) / 1000000000) * c
    * 1000000000

/-- C18: the unrounded drift allowance is exactly `drift · duration` … -/
theorem C18_drift_exact (c : Rat) (d : Int) : driftExact c d = c * (d : Rat) := by
  unfold driftExact
  have h := (tdiv_tmod_facts d).1
  have : (d : Rat) = ((Int.tdiv d 1000000000 * 1000000000 + Int.tmod d 1000000000 : Int) : Rat) := by
    rw [← h]
  rw [this, Rat.intCast_add, Rat.intCast_mul]
  simp only [Rat.intCast_ofNat]
  grind

/-- … hence proportional to the interval: `k` times the interval gives `k` times the
    allowance, and allowances add over adjacent intervals. -/
theorem C18_drift_proportional (c : Rat) (k d : Int) :
    driftExact c (k * d) = (k : Rat) * driftExact c d := by
  rw [C18_drift_exact, C18_drift_exact, Rat.intCast_mul]; grind

theorem C18_drift_additive (c : Rat) (d₁ d₂ : Int) :
    driftExact c (d₁ + d₂) = driftExact c d₁ + driftExact c d₂ := by
  rw [C18_drift_exact, C18_drift_exact, C18_drift_exact, Rat.intCast_add]; grind

/-- an unknown drift (`0`, either sign) yields the maximal allowance -/
theorem C18_drift_unknown (s : Bool) (d : Int) : drift (.zero s) d = 9223372036854775807 := by
  cases s <;> rfl

/-- C18: the computed allowance `(*SystemClock).Drift` is within 1 ns + a relative `2^-50`
    of `drift · duration`, for every int64 duration and every finite drift with
    `2^-900 ≤ |drift| ≤ 1/2` (four roundings of relative size `2^-53`, one truncation;
    the lower bound keeps the intermediate product out of the subnormal range, the upper
    bound keeps the result inside int64: `drift = 1`, `duration = MaxInt64` overflows). -/
theorem C18_drift_bound (c : F64) (d : Int) (hf : isFinite c = true)
    (h1 : pow2 (-900) ≤ (toRat c).abs) (h2 : (toRat c).abs ≤ 1 / 2) (hd : d.natAbs ≤ 2 ^ 63) :
    (((drift c d : Int) : Rat) - toRat c * (d : Rat)).abs ≤ 1 + (toRat c * (d : Rat)).abs / pow2 50 := by
  have hP900 := pow2_pos (-900)
  have hE : (toRat c * (d : Rat)).abs ≤ 4611686018427387904 := by
    have := abs_mul_le h2 (intCast_abs_le hd)
    simp only [Nat.reducePow, Rat.natCast_ofNat] at this
    grind
  obtain ⟨R, hR, e⟩ := drift_product hf h1 (Rat.le_trans h2 (by grind)) hd hE
  have et := trunc_err R
  unfold drift
  rw [beq_zero_eq_false hf (by intro h; rw [h, Rat.abs_zero] at h1; grind), if_neg (by decide), hR,
    show pow2 50 = 1125899906842624 by decide]
  generalize toRat c * (d : Rat) = E at *
  rw [abs_le_iff] at e ⊢
  rw [abs_lt_iff] at et
  obtain ⟨a1, a2⟩ := abs_bounds E
  grind

/-- the hypotheses are met by, e.g., a drift of `2^-20` (about 1 ppm) -/
example : pow2 (-900) ≤ (pow2 (-20)).abs ∧ (pow2 (-20)).abs ≤ 1 / 2 := by
  rw [Rat.abs_of_nonneg (Rat.le_of_lt (pow2_pos _))]
  exact ⟨pow2_mono (by decide), by rw [show (1 : Rat) / 2 = pow2 (-1) by rw [pow2_neg]; congr 1]; exact pow2_mono (by decide)⟩

end ScionTime.F64P_C18Float
