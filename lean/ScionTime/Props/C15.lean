/-
  C15 — Multipath SCION measurement probes pairwise distinct paths, combined by FTM.
  Property theorems only; models: ScionTime/Model/Sample.lean (crypto.RandIntn/Sample),
  ScionTime/Model/Multipath.lean (MeasureClockOffsetSCION); helper lemmas in
  ScionTime/Proofs/{Sample,Reservoir,Multipath}.lean.
-/
import ScionTime.Proofs.Sample
import ScionTime.Proofs.Reservoir
import ScionTime.Proofs.Multipath
import ScionTime.Gen.Crypto
import ScionTime.Gen.Client
namespace ScionTime.C15
open ScionTime.Sample ScionTime.Multipath List

/-! ## Pins: the source shapes the models transcribe (regenerated from /repo on every run) -/

theorem C15_pin_threshold31 : Gen.Crypto.randInt31_threshold = "uint32(-n) % uint32(n)" := rfl
theorem C15_pin_threshold63 : Gen.Crypto.randInt63_threshold = "uint64(-n) % uint64(n)" := rfl
theorem C15_pin_accept : Gen.Crypto.randInt31_accept = "x > t" ∧ Gen.Crypto.randInt63_accept = "x > t" := ⟨rfl, rfl⟩
theorem C15_pin_result : Gen.Crypto.randInt31_result = "int(x % uint32(n))" ∧
    Gen.Crypto.randInt63_result = "int(x % uint64(n))" := ⟨rfl, rfl⟩
theorem C15_pin_wordBytes : Gen.Crypto.randInt31_wordBytes = 4 ∧ Gen.Crypto.randInt63_wordBytes = 8 := ⟨rfl, rfl⟩
theorem C15_pin_dispatch : Gen.Crypto.RandIntn_conds = "[n <= 0 n <= math.MaxInt32]" := rfl
theorem C15_pin_sample : Gen.Crypto.Sample_loops = "for i := 0; i != k; i++ | for i := k; i != n; i++ | " ∧
    Gen.Crypto.Sample_draw = "RandIntn(ctx, i+1)" ∧ Gen.Crypto.Sample_pickCond = "j < k" ∧
    Gen.Crypto.Sample_pick = "pick(j, i)" := ⟨rfl, rfl, rfl, rfl⟩
/-- the repaired sticky guard (F11), the arguments of crypto.Sample and the final FTM call -/
theorem C15_pin_round : Gen.Client.MeasureClockOffsetSCION_stickyGuard = "c.InInterleavedMode()" ∧
    Gen.Client.MeasureClockOffsetSCION_sampleArgs = "len(sps) - nsps, len(ps)" ∧
    Gen.Client.MeasureClockOffsetSCION_ftm = "measurements.FaultTolerantMidpoint(ms)" := ⟨rfl, rfl, rfl⟩

/-! ## The assignment (first three loops of MeasureClockOffsetSCION)

`assign f11 cs offered cancelled stream = (.ok sps rest, reset)`: `sps[i]` is the path
(position in the offered list, fingerprint) client `i` probes, `reset[i]` whether the client and
its filter were reset. All statements are for every client state, every offered list
(duplicates, empty fingerprints), every random stream and both variants of the F11 guard. -/

/-- Participants ↦ positions of the offered list is injective, and every assigned path is
    the offered path at that position. -/
theorem C15_assignment_injective (f : Bool) (cs : List Client) (offered : List Fp) (c : Bool)
    (s : Stream) (sps : List (Option Path)) (rest : Stream) (reset : List Bool)
    (h : assign f cs offered c s = (.ok sps rest, reset)) :
    ((assignedOf sps).map Prod.fst).Nodup ∧
    ∀ p ∈ assignedOf sps, offered[p.1]? = some p.2 := by
  obtain ⟨_, ⟨r, hr⟩, _⟩ := assign_ok_spec f cs offered c s sps rest reset h
  constructor
  · have h1 := hr.map Prod.fst
    have h2 : (offeredPaths offered).map Prod.fst = List.range offered.length := by
      unfold offeredPaths; exact map_fst_zip (by simp)
    rw [h2, map_append] at h1
    have := (h1.nodup_iff).mpr nodup_range
    exact (nodup_append.mp this).1
  · intro p hp
    have hm : p ∈ offeredPaths offered := hr.subset (mem_append_left r hp)
    unfold offeredPaths at hm
    obtain ⟨i, hi, he⟩ := mem_iff_getElem.mp hm
    simp only [getElem_zip, getElem_range] at he
    simp only [length_zip, length_range, Nat.min_self] at hi
    rw [← he]; simp [hi]

/-- The same as a statement about client indices: two different clients never probe the
    same offered position. -/
theorem C15_distinct_clients_distinct_paths (f : Bool) (cs : List Client) (offered : List Fp)
    (c : Bool) (s : Stream) (sps : List (Option Path)) (rest : Stream) (reset : List Bool)
    (h : assign f cs offered c s = (.ok sps rest, reset))
    (i j : Nat) (p q : Path) (hi : sps[i]? = some (some p)) (hj : sps[j]? = some (some q))
    (hpos : p.1 = q.1) : i = j := by
  have hn := (C15_assignment_injective f cs offered c s sps rest reset h).1
  have hpw : sps.Pairwise fun a b => ∀ p ∈ a, ∀ q ∈ b, p.1 ≠ q.1 := by
    unfold assignedOf Nodup at hn
    rw [pairwise_map, pairwise_filterMap] at hn
    exact hn.imp fun hab p hp q hq => hab p hp q hq
  obtain ⟨hi', hip⟩ := List.getElem?_eq_some_iff.mp hi
  obtain ⟨hj', hjq⟩ := List.getElem?_eq_some_iff.mp hj
  rcases Nat.lt_trichotomy i j with hij | hij | hij
  · exact absurd hpos (pairwise_iff_getElem.mp hpw i j hi' hj' hij p hip q hjq)
  · exact hij
  · exact absurd hpos.symm (pairwise_iff_getElem.mp hpw j i hj' hi' hij q hjq p hip)

/-- No more clients take part than there are paths, and as many as possible:
    participants = min(clients, paths); `sps` has one entry per client. -/
theorem C15_participants (f : Bool) (cs : List Client) (offered : List Fp) (c : Bool)
    (s : Stream) (sps : List (Option Path)) (rest : Stream) (reset : List Bool)
    (h : assign f cs offered c s = (.ok sps rest, reset)) :
    sps.length = cs.length ∧ countSome sps = min cs.length offered.length := by
  obtain ⟨h1, _, h3, _⟩ := assign_ok_spec f cs offered c s sps rest reset h
  exact ⟨h1, h3⟩

/-- Sticky assignment. When client `i`'s turn comes (candidates = offered paths not taken by
    earlier clients): if it wants its previous path (`wantsSticky`: in interleaved mode, and —
    code as found, `f = false` — its previous fingerprint is not "") and a candidate has that
    fingerprint, it probes the first such candidate and is not reset; otherwise it is reset
    (together with its filter). -/
theorem C15_sticky_kept (f : Bool) (cs : List Client) (offered : List Fp) (c : Bool)
    (s : Stream) (sps : List (Option Path)) (rest : Stream) (reset : List Bool)
    (h : assign f cs offered c s = (.ok sps rest, reset))
    (i : Nat) (cl : Client) (hcl : cs[i]? = some cl) :
    let cand := candidatesAt f cs (offeredPaths offered) i
    (wantsSticky f cl = true ∧ (∃ p ∈ cand, p.2 = cl.ipath) →
      ∃ j, ∃ hj : j < cand.length, sps[i]? = some (some cand[j]) ∧ cand[j].2 = cl.ipath ∧
        (∀ j' (hj' : j' < j), cand[j'].2 ≠ cl.ipath) ∧ reset[i]? = some false) ∧
    (¬ (wantsSticky f cl = true ∧ (∃ p ∈ cand, p.2 = cl.ipath)) → reset[i]? = some true) := by
  intro cand
  obtain ⟨_, _, _, _, hreset, hkeep⟩ := assign_ok_spec f cs offered c s sps rest reset h
  have hget := stickyLoop_get f cs (offeredPaths offered) i
  rw [hcl, Option.map_some] at hget
  have hres : reset[i]? = some ((stickyStep f cl cand).1.isNone) := by
    rw [hreset, getElem?_map, hget]; rfl
  rcases stickyStep_cases f cl cand with ⟨hwhy, h1⟩ | ⟨j, hj, hw, hfind, h1⟩
  · -- nothing taken: either the client does not want a path or no candidate matches
    have hno : ¬ (wantsSticky f cl = true ∧ (∃ p ∈ cand, p.2 = cl.ipath)) := by
      rintro ⟨hw, p, hp, hfp⟩
      rcases hwhy with h | h
      · rw [hw] at h; cases h
      · have := findIdx?_eq_none_iff.mp h p hp
        simp [hfp] at this
    refine ⟨fun hyes => absurd hyes hno, fun _ => ?_⟩
    rw [hres, h1]; rfl
  · obtain ⟨_, hpj, hfirst⟩ := findIdx?_eq_some_iff_getElem.mp hfind
    have hfp : cand[j].2 = cl.ipath := by simpa using hpj
    constructor
    · intro _
      refine ⟨j, hj, ?_, hfp, ?_, ?_⟩
      · apply hkeep; rw [hget, h1]
      · intro j' hj'; simpa using hfirst j' hj'
      · rw [hres, h1]; rfl
    · intro hno
      exact absurd ⟨hw, cand[j], getElem_mem hj, hfp⟩ hno

/-- `errNoPath`: a round that assigns paths needs at least one client and one path … -/
theorem C15_ok_needs_client_and_path (f : Bool) (cs : List Client) (offered : List Fp) (c : Bool)
    (s : Stream) (sps : List (Option Path)) (rest : Stream) (reset : List Bool)
    (h : assign f cs offered c s = (.ok sps rest, reset)) :
    cs ≠ [] ∧ offered ≠ [] := by
  obtain ⟨_, _, h3, h4, _⟩ := assign_ok_spec f cs offered c s sps rest reset h
  constructor <;>
  · rintro rfl
    have : countSome sps = 0 := by simpa using h3
    omega

/-- … and with no path offered the round reports `errNoPath` (no random draw is made), for
    any clients — all of which are reset. -/
theorem C15_no_path_error (ftm : List Int → Int) (f11 f12 : Bool) (cs : List Client) (c : Bool)
    (s : Stream) (succ : List (Option Int)) :
    (round ftm f11 f12 cs [] c s succ).res = .errNoPath ∧
    (round ftm f11 f12 cs [] c s succ).reset = cs.map fun _ => true := by
  have hs : ∀ K : Nat, sample (K : Int) ((0 : Nat) : Int) c s = .ok (0, [], s) := by
    intro K
    unfold sample
    have h1 : ¬ ((K : Int) < 0) := by omega
    simp [h1, sampleLoop, sampleLoopWith]
  have hcs : ∀ cs : List Client, countSome (cs.map fun _ => (none : Option Path)) = 0 := by
    intro cs; induction cs <;> simp_all [countSome]
  have ha : assign f11 cs [] c s = (.errNoPath s, cs.map fun _ => true) := by
    unfold assign offeredPaths
    simp only [length_nil, range_zero, zip_nil_right, stickyLoop_nil]
    unfold assignFrom
    simp only [length_map, hcs, length_nil]
    have := hs cs.length
    simp only [Int.natCast_zero, Int.sub_zero] at this ⊢
    rw [this]
    simp
  unfold round
  rw [ha]
  exact ⟨rfl, rfl⟩

/-- With no client there is never a successful round either. -/
theorem C15_no_client_error (ftm : List Int → Int) (f11 f12 : Bool) (offered : List Fp) (c : Bool)
    (s : Stream) (succ : List (Option Int)) (off : Int) :
    (round ftm f11 f12 [] offered c s succ).res ≠ .ok off := by
  intro h
  unfold round at h
  split at h <;> try (simp at h)
  rename_i sps rest reset ha
  exact (C15_ok_needs_client_and_path f11 [] offered c s sps rest reset ha).1 rfl

/-- The reported offset is the fault-tolerant midpoint over exactly one value per
    participating client (the filter output of a successful exchange, the zero measurement of
    a failed one — that is what the code does), at least one of them from a successful
    exchange (repaired code, F12); the number of values is min(clients, paths). `ftm` is
    measurements.FaultTolerantMidpoint (C02's subject), a parameter here; if it is invariant
    under permutations (it sorts) the completion order of the per-path goroutines, i.e. the
    order in which collectMeasurements stores the values, does not matter. -/
theorem C15_result_is_ftm (ftm : List Int → Int) (f11 : Bool) (cs : List Client) (offered : List Fp)
    (s : Stream) (succ : List (Option Int)) (off : Int) (hsucc : succ.length = cs.length)
    (h : (round ftm f11 true cs offered false s succ).res = .ok off) :
    ∃ sps rest reset, assign f11 cs offered false s = (.ok sps rest, reset) ∧
      off = ftm (values sps succ) ∧
      (values sps succ).length = min cs.length offered.length ∧
      0 < successes sps succ ∧
      (∀ order : List Int, (∀ l l' : List Int, l.Perm l' → ftm l = ftm l') →
        order.Perm (values sps succ) → off = ftm order) := by
  unfold round at h
  split at h <;> try (simp at h)
  rename_i sps rest reset ha
  refine ⟨sps, rest, reset, ha, ?_⟩
  obtain ⟨hl, hc⟩ := C15_participants f11 cs offered false s sps rest reset ha
  split at h
  · simp at h
  · rename_i hne
    simp only [RoundRes.ok.injEq] at h
    refine ⟨h.symm, ?_, ?_, ?_⟩
    · rw [values_length sps succ (by omega), hc]
    · omega
    · intro order hperm ho
      rw [← h]; exact (hperm _ _ ho).symm

/-- F12, code as found (`f12fixed = false`): with one client, one path and a failing
    exchange the round reports success with the midpoint of the zero-initialised slice —
    `(time.Time{}, 0, nil)` for the real FTM — whatever `ftm` is. The repaired code reports
    `errNoMeasurement`. Failing input of the check:
    `mp.round cs=[100-] ps=[f0] s=a7ec204cc759cd2657c241d966a8aea8 succ=[x]`. -/
theorem C15_F12_old_counterexample (ftm : List Int → Int) :
    (round ftm false false [⟨true, false, false, ""⟩] ["f0"] false [] [none]).res = .ok (ftm [0]) ∧
    (round ftm false true [⟨true, false, false, ""⟩] ["f0"] false [] [none]).res = .errNoMeasurement := by
  constructor <;> rfl

/-- F11, code as found (`f11fixed = false`): an interleaved client whose previous path has the
    empty fingerprint (the intra-AS path) is reset although that path is offered; the repaired
    guard keeps it. Failing input of the check: `mp.round cs=[111-] ps=[-] s=… succ=[7]`. -/
theorem C15_F11_old_counterexample :
    (assign false [⟨true, true, true, ""⟩] [""] false []).2 = [true] ∧
    (assign true [⟨true, true, true, ""⟩] [""] false []).2 = [false] := by
  constructor <;> decide

/-! ## Rejection-sampled integers (crypto.randInt31 / randInt63 / RandIntn) -/

/-- every stream element is a byte -/
def Bytes (s : Stream) : Prop := ∀ b ∈ s, b < 256

/-- randInt31 returns `x % n` for a 32-bit word `x` of the stream that passed the test
    `x > t`, `t = uint32(-n) % uint32(n) = 2^32 mod n`; in particular the result is `< n`. -/
theorem C15_randInt31_accepted (n : Nat) (c : Bool) (s : Stream) (v : Nat) (rest : Stream)
    (hn : 2 ≤ n) (hb : Bytes s) (h : randInt31 n c s = .ok (v, rest)) :
    ∃ x, two32 % n < x ∧ x < two32 ∧ v = x % n ∧ v < n := by
  obtain ⟨x, h1, rfl, h3⟩ := randInt31_ok n c s v rest hn h
  exact ⟨x, h1, h3 hb, rfl, Nat.mod_lt _ (by omega)⟩

/-- the same for randInt63 and 64-bit words (`n` beyond `math.MaxInt32`, up to `2^63 - 1`) -/
theorem C15_randInt63_accepted (n : Nat) (c : Bool) (s : Stream) (v : Nat) (rest : Stream)
    (hn : 2 ≤ n) (hn' : n ≤ two64) (hb : Bytes s) (h : randInt63 n c s = .ok (v, rest)) :
    ∃ x, two64 % n < x ∧ x < two64 ∧ v = x % n ∧ v < n := by
  obtain ⟨x, h1, rfl, h3⟩ := randInt63_ok n c s v rest hn hn' h
  exact ⟨x, h1, h3 hb, rfl, Nat.mod_lt _ (by omega)⟩

/-- number of accepted words with residue `r`, as the length of the interval of quotients `j`
    (see `C15_randInt_near_uniform`) -/
def residueCount (W n r : Nat) : Nat :=
  (if r < W % n then W / n + 1 else W / n) - (if W % n < r then 0 else 1)

/-- Near-uniformity of the rejection step, for word size `W` (2^32 or 2^64) and the threshold
    exactly as coded (`t = (W - n) % n`, accept iff `x > t`): the accepted words are the
    interval `(t, W)`, and those with residue `r` are exactly `n*j + r` for `j` in an interval
    of `residueCount W n r` consecutive quotients (`j ↦ n*j + r` is injective), … -/
theorem C15_randInt_near_uniform (W n r x : Nat) (hn : 0 < n) (hnW : n ≤ W) (hr : r < n) :
    ((W - n) % n < x ∧ x < W ∧ x % n = r) ↔
    ∃ j, x = n * j + r ∧ (if W % n < r then 0 else 1) ≤ j ∧
      j < (if W % n < r then 0 else 1) + residueCount W n r := by
  rw [thr_eq W n hnW, residue_char W n r x hn hr]
  have hq : 1 ≤ W / n := (Nat.le_div_iff_mul_le hn).mpr (by omega)
  have : (if W % n < r then 0 else 1) + residueCount W n r = (if r < W % n then W / n + 1 else W / n) := by
    unfold residueCount; split <;> split <;> omega
  rw [this]

/-- … and these counts differ by at most one between any two residues (each is `W/n` or
    `W/n - 1`; the single short class is `r = W mod n`, because the code rejects `x = t` too):
    a bias of at most one word in `2^32 - n < accepted ≤ 2^32`, the "2^-31 granularity". -/
theorem C15_randInt_counts (W n r r' : Nat) (hn : 0 < n) (hnW : n ≤ W) :
    residueCount W n r ≤ residueCount W n r' + 1 ∧
    W / n - 1 ≤ residueCount W n r ∧ residueCount W n r ≤ W / n ∧
    (residueCount W n r = W / n - 1 ↔ r = W % n) := by
  have hq : 1 ≤ W / n := (Nat.le_div_iff_mul_le hn).mpr (by omega)
  -- every class has `W / n` accepted words, except that of `W % n`, which has one fewer
  have key : ∀ r, residueCount W n r = if r = W % n then W / n - 1 else W / n := by
    intro r
    unfold residueCount
    rcases Nat.lt_trichotomy r (W % n) with h | h | h
    · rw [if_pos h, if_neg (Nat.lt_asymm h), if_neg (Nat.ne_of_lt h)]; omega
    · rw [h, if_neg (Nat.lt_irrefl _), if_neg (Nat.lt_irrefl _), if_pos rfl]
    · rw [if_neg (Nat.lt_asymm h), if_pos h, if_neg (Nat.ne_of_gt h)]; omega
  rw [key r, key r']
  refine ⟨?_, ?_, ?_, ?_⟩
  · split <;> split <;> omega
  · split <;> omega
  · split <;> omega
  · split <;> omega

/-- instances for the two word sizes of the code, `n` in the range of each function -/
example (n r x : Nat) (hn : 2 ≤ n) (hn' : n ≤ maxInt32) (hr : r < n) :
    (thr31 n < x ∧ x < two32 ∧ x % n = r) ↔
    ∃ j, x = n * j + r ∧ (if two32 % n < r then 0 else 1) ≤ j ∧
      j < (if two32 % n < r then 0 else 1) + residueCount two32 n r :=
  C15_randInt_near_uniform two32 n r x (by omega) (by unfold two32 maxInt32 at *; omega) hr

example : residueCount two32 3 0 = 1431655765 ∧ residueCount two32 3 1 = 1431655764 ∧
    residueCount two32 3 2 = 1431655765 := by decide

/-- RandIntn dispatches on `math.MaxInt32` and panics for `n ≤ 0` -/
theorem C15_randIntn_dispatch (n : Int) (c : Bool) (s : Stream) :
    (n ≤ 0 → ∃ m, randIntn n c s = .panic m) ∧
    (0 < n → n ≤ 2147483647 → randIntn n c s = randInt31 n.toNat c s) ∧
    (2147483647 < n → randIntn n c s = randInt63 n.toNat c s) :=
  randIntn_cases n c s

/-! ## Reservoir sampling (crypto.Sample), counting form over ideal uniform draws

`allDraws k m` lists every vector of draws `(j_k, …, j_{k+m-1})` with `j_i ∈ [0, i]` — the
equally likely outcomes of ideal `RandIntn(i+1)` calls — and `reservoir k js` is the content of
`ps[0..k)` (as positions of the original list) after crypto.Sample's loop made those draws. -/

/-- crypto.Sample is Algorithm R: whatever the stream, a successful `Sample(k, n, pick)` with
    `pick = (ps[dst] = ps[src])` applied to the list `[0, n)` leaves in `ps[0..k')`,
    `k' = min k n`, the reservoir of one of the draw vectors of `allDraws` (the `j`s are the
    values RandIntn returned). -/
theorem C15_sample_is_reservoir (k n : Nat) (c : Bool) (s : Stream) (k' : Nat)
    (picks : List (Nat × Nat)) (rest : Stream)
    (h : sample (k : Int) (n : Int) c s = .ok (k', picks, rest)) :
    k' = min k n ∧ ∃ js ∈ allDraws k' (n - k'),
      (applyPicks (List.range n) picks).take k' = reservoir k' js :=
  sample_reservoir k n c s k' picks rest h

/-- In the round: the paths handed to the clients without a sticky path are the candidates at
    the positions of a reservoir — `fill` receives `candidates[r]` for `r` running over
    `reservoir n' js`, `n' = min(#clients without path, #candidates)`, `js` the values RandIntn
    returned (a vector of `allDraws`). Together with `C15_reservoir_uniform`: over ideal
    uniform draws every `n'`-subset of the remaining candidates is equally likely. -/
theorem C15_fill_is_reservoir (st : List (Option Path) × List Path) (c : Bool) (s : Stream)
    (sps : List (Option Path)) (rest : Stream) (reset : List Bool)
    (h : assignFrom st c s = (.ok sps rest, reset)) :
    ∃ n' js, n' = min (countNone st.1) st.2.length ∧ js ∈ allDraws n' (st.2.length - n') ∧
      sps = fill st.1 ((reservoir n' js).map fun r => st.2.getD r default) := by
  obtain ⟨n, picks, hs, _, rfl, _⟩ := assignFrom_ok h
  obtain ⟨hn, js, hjs, hres⟩ := sample_take_eq st.2 default (countNone st.1) c s n picks rest hs
  exact ⟨n, js, hn, hjs, by rw [hres]⟩

/-- there are `(k+1)(k+2)…(k+m)` draw vectors -/
theorem C15_allDraws_length (k m : Nat) :
    (allDraws k (m + 1)).length = (allDraws k m).length * (k + m + 1) := by
  simpa [outcomes] using outcomes_length_succ k m

/-- the reservoir always holds `k` distinct items out of those seen so far -/
theorem C15_reservoir_distinct (k m : Nat) (js : List Nat) (h : js ∈ allDraws k m) :
    (reservoir k js).length = k ∧ (reservoir k js).Nodup ∧ ∀ y ∈ reservoir k js, y < k + m :=
  outcomes_inv k m (reservoir k js) (mem_map.mpr ⟨js, h, rfl⟩)

/-- Per-step identities (the induction step of Algorithm R): for a reservoir of `k` distinct
    items `< n`, among the `n+1` equally likely draws for item `n` the new item enters in
    exactly `k` of them and every present item survives in exactly `n` of them. -/
theorem C15_reservoir_step (k n : Nat) (res : List Nat) (hl : res.length = k) (hn : res.Nodup)
    (hb : ∀ y ∈ res, y < n) (hk : k ≤ n + 1) :
    countP (fun j => decide (n ∈ stepRes res j n)) (List.range (n + 1)) = k ∧
    ∀ x ∈ res, countP (fun j => decide (x ∈ stepRes res j n)) (List.range (n + 1)) = n :=
  ⟨step_count_new k n res ⟨hl, hn, hb⟩ hk, fun x hx => step_count_old k n x res ⟨hl, hn, hb⟩ hk hx⟩

/-- Uniformity of the reservoir, counting form over ideal uniform draws (induction on the
    number of items): every `k`-subset `S` of the `n = k + m` offered items (given as a
    duplicate-free list; the reservoir is compared up to permutation, i.e. as a set) is produced
    by the same number of draw vectors, `m! = (n-k)!` — out of `(k+1)(k+2)…n` draw vectors
    (`C15_allDraws_length`), i.e. with probability `1 / C(n,k)` each. -/
theorem C15_reservoir_uniform (k m : Nat) (S : List Nat) (hn : S.Nodup) (hl : S.length = k)
    (hb : ∀ y ∈ S, y < k + m) :
    countP (fun js => decide (reservoir k js ~ S)) (allDraws k m) = fact m := by
  have h := joint_uniform k m S hn hl hb
  unfold outcomes at h
  rw [countP_map] at h
  exact h

/-- the hypotheses are met by every `k`-subset, e.g. `{1, 3}` of `[0, 4)`: 2 of the 12 draw
    vectors each -/
example : countP (fun js => decide (reservoir 2 js ~ [3, 1])) (allDraws 2 2) = fact 2 :=
  C15_reservoir_uniform 2 2 [3, 1] (by decide) rfl (by decide)

/-- Marginal form: every item `x < n` is selected in exactly the fraction `k/n` of the draw
    vectors:  #{draws : x ∈ reservoir} · n = k · #{draws}. -/
theorem C15_reservoir_inclusion (k m x : Nat) (hx : x < k + m) :
    countP (fun js => decide (x ∈ reservoir k js)) (allDraws k m) * (k + m) =
      k * (allDraws k m).length := by
  have h := inclusion_count k m x hx
  unfold outcomes at h
  rw [countP_map, length_map] at h
  exact h

/-- a concrete instance: 2 out of 4, item 3 is selected by 6 of the 12 draw vectors -/
example : countP (fun js => decide (3 ∈ reservoir 2 js)) (allDraws 2 2) = 6 ∧
    (allDraws 2 2).length = 12 := by decide

end ScionTime.C15
