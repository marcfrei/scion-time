/-
  C10 — nothing behind the authenticator takes effect.
  `DecodePacket` stops its field walk at the first authenticator; the associated data of the AEAD is
  `b[:pos]` (C10_authPos). Bytes an on-path attacker appends behind a genuine packet are therefore
  not covered by the tag — the property needs that they do not change what is decoded (unique
  identifier, cookies, placeholders, nonce, ciphertext, pos) nor the verdict of
  `ProcessRequest` / `ProcessResponse`. Proved here for every packet whose authenticator's nonce
  and ciphertext lie inside the datagram (always the case for what an encoder emits);
  `Authenticator.unpack` does not check its lengths against the field, so an authenticator that
  reaches beyond the datagram is zero-padded and *would* read appended bytes — refuted form below.
-/
import ScionTime.Proofs.NtsSound
import ScionTime.Proofs.NtsEnc
namespace ScionTime.C10Trail
open ScionTime.Nts

/-- `Authenticator.unpack` whose nonce and ciphertext lie inside `body` does not see what follows -/
theorem unpackAuth_append (body t nonce ct : Bytes) (h : unpackAuth body = .ok (nonce, ct))
    (hin : 4 + nonce.length + ct.length ≤ body.length) : unpackAuth (body ++ t) = .ok (nonce, ct) := by
  match body, h with
  | n1 :: n0 :: c1 :: c0 :: r, h =>
    cases h
    simp only [copyN_length, List.length_cons] at hin
    have h1 : u16 n1 n0 ≤ r.length := by omega
    simp only [List.cons_append, unpackAuth]
    rw [copyN_append_of_le _ _ _ h1, List.length_append, Nat.min_eq_left (by omega), Nat.min_eq_left h1,
      List.drop_append_of_le_length h1, copyN_append_of_le _ _ _ (by rw [List.length_drop]; omega)]

/-- the field walk on `rest ++ t`: same result as on `rest` when it ended at an authenticator whose
    nonce and ciphertext lie inside `rest` (for every larger fuel) -/
theorem decLoop_append (total : Nat) (t : Bytes) :
    ∀ (fuel : Nat) (rest : Bytes) (fu : Bool) (d : Decoded) (fu' : Bool) (d' : Decoded),
      decLoop true total fuel rest fu d = .ok (fu', true, d') →
      rest.length ≤ total →
      d'.pos + 8 + d'.nonce.length + d'.ct.length ≤ total →
      ∀ j, decLoop true (total + t.length) (fuel + j) (rest ++ t) fu d = .ok (fu', true, d') := by
  intro fuel
  induction fuel with
  | zero => intro rest fu d fu' d' h; cases h
  | succ fuel ih =>
    intro rest fu d fu' d' h hle hin j
    by_cases h28 : rest.length < 28
    · rw [decLoop_short _ _ _ _ _ _ h28] at h
      cases h
    obtain ⟨a, b, c, e, body, rfl⟩ := cons4_of_length rest (by omega)
    rw [decLoop_cons_checked _ _ _ _ _ _ _ _ _ (by omega)] at h
    rw [show fuel + 1 + j = (fuel + j) + 1 by omega]
    simp only [List.cons_append]
    rw [decLoop_cons_checked _ _ _ _ _ _ _ _ _ (by simp only [List.length_cons, List.length_append] at h28 ⊢; omega)]
    by_cases hc : u16 c e < 4 ∨ (a :: b :: c :: e :: body).length < u16 c e
    · rw [if_pos hc] at h; cases h
    rw [if_neg hc] at h
    have hb := extLen_bounds hc
    simp only [List.length_cons] at hb hle hin
    rw [if_neg (fun h' => by simp only [List.length_cons, List.length_append] at h'; omega)]
    by_cases ht : u16 a b = extAuthenticator
    · rw [if_pos ht] at h ⊢
      cases hu : unpackAuth body with
      | ok nc =>
        rw [hu] at h
        cases h
        rw [unpackAuth_append body t nc.1 nc.2 hu (by simp only [List.length_cons] at hin; omega)]
        have hpos : total + t.length - (a :: b :: c :: e :: (body ++ t)).length = total - (a :: b :: c :: e :: body).length := by
          simp only [List.length_cons, List.length_append]; omega
        rw [hpos]; rfl
      | err _ | panic _ | hang => rw [hu] at h; cases h
    rw [if_neg ht] at h ⊢
    have hdrop : List.drop (u16 c e) (a :: b :: c :: e :: (body ++ t)) = List.drop (u16 c e) (a :: b :: c :: e :: body) ++ t :=
      List.drop_append_of_le_length (l₁ := a :: b :: c :: e :: body) (by simp only [List.length_cons]; omega)
    rw [hdrop, copyN_append_of_le _ _ _ (by have := valueLen_le _ hb.1; omega)]
    exact ih _ _ _ _ _ h (by simp only [List.length_drop, List.length_cons]; omega) hin j

/-- **Nothing behind the authenticator is decoded.** If `DecodePacket b` succeeds and the
    authenticator's nonce and ciphertext lie inside `b`, then for every appended `t` (further
    extension fields, a unique identifier of another request, cookies, a second authenticator,
    padding) `DecodePacket (b ++ t)` yields the very same packet: identifier, cookies,
    placeholders, nonce, ciphertext and `pos`. -/
theorem C10_trailing_ignored (b t : Bytes) (d : Decoded) (h : decodePacket b = .ok d)
    (hin : d.pos + 8 + d.nonce.length + d.ct.length ≤ b.length) : decodePacket (b ++ t) = .ok d := by
  have hl := decodePacket_ok true b d h
  by_cases hlen : ntpPacketLen ≤ b.length
  · unfold decodePacket decodePacketG
    rw [List.drop_append_of_le_length hlen, show (b ++ t).length + 1 = (b.length + 1) + t.length by rw [List.length_append]; omega,
      List.length_append, decLoop_append b.length t _ _ _ _ _ _ hl (by rw [List.length_drop]; omega) hin t.length]
    rfl
  · rw [List.drop_of_length_le (by omega), decLoop_short _ _ _ _ _ _ (by decide)] at hl
    cases hl

/-- the associated data `b[:pos]` handed to the AEAD is the same on the longer datagram (with
    `C10_trailing_ignored`: `ProcessRequest` / `ProcessResponse` get the same arguments) -/
theorem C10_trailing_same_ad (b t : Bytes) (d : Decoded) (hp : d.pos ≤ b.length) :
    (b ++ t).take d.pos = b.take d.pos := List.take_append_of_le_length hp

/-- **Same verdicts.** With bytes appended behind a self-contained authenticator the client
    (`DecodePacket` + `ProcessResponse`) and the server (`DecodePacket` + `ProcessRequest`) decide on
    the same decoded packet and the same associated data, hence return the same verdict and cookies. -/
theorem C10_trailing_same_verdict (A : AEAD) (b t key reqId : Bytes) (d : Decoded) (h : decodePacket b = .ok d)
    (hin : d.pos + 8 + d.nonce.length + d.ct.length ≤ b.length) :
    decodePacket (b ++ t) = .ok d ∧
      processResponse A (b ++ t) key d reqId = processResponse A b key d reqId ∧
      processRequest A (b ++ t) key d = processRequest A b key d := by
  have hp : d.pos ≤ b.length := by omega
  refine ⟨C10_trailing_ignored b t d h hin, ?_, ?_⟩
  · unfold processResponse processResponseG authenticateG
    rw [C10_trailing_same_ad b t d hp]
  · unfold processRequest processRequestG authenticateG
    rw [C10_trailing_same_ad b t d hp]

/-- **A response to another request stays one.** A packet whose authenticated identifier is not
    the outstanding request's is rejected with `unexpected response ID` whatever is appended to it —
    in particular the outstanding request's own identifier in a field behind the authenticator. -/
theorem C10_trailing_other_request_rejected (A : AEAD) (b t key reqId : Bytes) (d : Decoded)
    (h : decodePacket b = .ok d) (hin : d.pos + 8 + d.nonce.length + d.ct.length ≤ b.length) (hne : reqId ≠ d.uid) :
    ∃ d', decodePacket (b ++ t) = .ok d' ∧ processResponse A (b ++ t) key d' reqId = .err .respId := by
  refine ⟨d, C10_trailing_ignored b t d h hin, ?_⟩
  unfold processResponse processResponseG
  rw [if_pos hne]


/-- non-vacuity: a header, a 32-byte identifier field, an authenticator with a 16-byte nonce and a
    16-byte ciphertext; appended: the identifier field of another request -/
example :
    let b := List.replicate 48 0 ++ ([1, 4, 0, 36] ++ List.replicate 32 7) ++ ([4, 4, 0, 40, 0, 16, 0, 16] ++ List.replicate 32 9)
    let t := [1, 4, 0, 36] ++ List.replicate 32 8
    (∃ d, decodePacket b = .ok d ∧ d.uid = List.replicate 32 7 ∧ d.pos + 8 + d.nonce.length + d.ct.length ≤ b.length ∧
      decodePacket (b ++ t) = .ok d) := by
  refine ⟨{ uid := List.replicate 32 7, nonce := List.replicate 16 9, ct := List.replicate 16 9, pos := 84 }, ?_⟩
  decide +kernel

/-- the hypothesis on the authenticator is needed: with a ciphertext length that reaches beyond the
    datagram (`Authenticator.unpack` pads with zeros, it does not check the field length) appended
    bytes do become ciphertext — which the AEAD then refuses, so no acceptance follows from it -/
theorem C10_trailing_overlong_authenticator_counterexample :
    ∃ b t d, decodePacket b = .ok d ∧ decodePacket (b ++ t) ≠ .ok d := by
  refine ⟨List.replicate 48 0 ++ ([1, 4, 0, 36] ++ List.replicate 32 7) ++ ([4, 4, 0, 28, 0, 16, 0, 16] ++ List.replicate 20 9),
    [5], { uid := List.replicate 32 7, nonce := List.replicate 16 9, ct := List.replicate 4 9 ++ List.replicate 12 0, pos := 84 }, ?_⟩
  decide +kernel

end ScionTime.C10Trail

