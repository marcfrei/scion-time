/-
  C08 (NTS-KE clause) — `ReadData` is total: on every byte stream, under every
  segmentation, it returns success or one of its error values; every iteration consumes
  input, and no read asks for more than the 16-bit length field allows.
  Model: ScionTime/Model/Ntske.lean. The model has no panic outcome because the Go code has
  no indexing, slicing or division at all in `ReadData`: it only calls `binary.Read` /
  `io.ReadFull` on freshly made buffers; the only artificial outcome of the model is
  running out of loop fuel, which is shown never to happen.
-/
import ScionTime.Proofs.Ntske
namespace ScionTime.C08Ntske
open ScionTime.Ntske

/-- Totality: for every chunked stream and every initial data, `ReadData` ends with success
    or a genuine error class — the loop always terminates within the model's fuel, i.e.
    within one iteration per four bytes received. -/
theorem C08Ntske_readData_total (chunks : List (List Byte)) (d : Data) :
    (readData chunks d).2 ≠ some .fuel :=
  readData_ne_fuel chunks d

/-- The same in positive form: the outcome is `none` (success) or one of the seven error
    classes of the code. -/
theorem C08Ntske_readData_outcomes (chunks : List (List Byte)) (d : Data) :
    ∃ d', readData chunks d = (d', none) ∨
      ∃ e, readData chunks d = (d', some e) ∧
        (e = .eof ∨ e = .ueof ∨ e = .unrecCritical ∨ e = .badRequest ∨ e = .internal ∨
         e = .unknownCode ∨ ∃ t, e = .critical t) := by
  have h := C08Ntske_readData_total chunks d
  generalize readData chunks d = res at h
  obtain ⟨d', r⟩ := res
  refine ⟨d', ?_⟩
  cases r with
  | none => exact .inl rfl
  | some e =>
    refine .inr ⟨e, rfl, ?_⟩
    cases e <;> simp at h ⊢

/-- Progress: every iteration that continues has consumed at least the four header bytes,
    so a stream of `n` bytes is read in at most `n / 4 + 1` iterations. -/
theorem C08Ntske_progress (bs : List Byte) (d : Data) (s : List Byte) (d' : Data)
    (h : step flatFull flatFull bs d = .more s d') : s.length + 4 ≤ bs.length :=
  step_more_length h

/-- Bounded allocation: the number of body bytes requested after a header is 2 or the
    16-bit length field, hence at most 65535 for wire bytes. -/
theorem C08Ntske_alloc_bounded (typ l1 l0 : Nat) (h1 : l1 < 256) (h0 : l0 < 256) :
    bodyNeed typ (be16 l1 l0) ≤ 65535 := by
  unfold bodyNeed be16
  split <;> omega

example : (readData [[255, 255, 255], [255, 1]] {}).2 = some (.critical 32767) := by decide

end ScionTime.C08Ntske
