/-
  Kernel-checked tie (C14 / C10 / C08 / C05): `nts.DecodePacket` of net/nts/nts.go — the walk over the
  NTS extension fields — as regenerated from /repo's Go source on every run (Gen/LeafNts.lean; translated
  by harness/extract/leaf9.go: `X = append(X, v)` on an owned list) against `Nts.decLoop` /
  `Nts.decodePacket` of Model/Nts.lean.

  The generated loop walks by POSITION (`pos : Int64`), calls the regenerated `extHdr.unpack` and the
  four regenerated `unpack`s (tied in Props/LeafC14Nts), and threads `(err, foundAuthenticator,
  foundUniqueID, pkt, pos)`; the model walks by SUFFIX with an accumulator `Decoded`, which `view`
  reads off the Go packet struct. An iteration of the generated body is characterised by the kind of
  field at `p` and set against the model's iteration on `b[p:]`, both in terms of `typeAt b p` and
  `lenAt b p`.

  PROVED for EVERY buffer shorter than 2^62 bytes, every packet struct passed in (also one that
  still holds the fields of an earlier decode) and every budget above the length: the regenerated
  function returns what the model returns, never panics and never runs out of budget
  (`C10_leaf_DecodePacket`, `C10_leaf_DecodePacket_total`: the F2/F3 class); an authenticator field
  ends the walk, whatever bytes follow (`C10_leaf_stops_at_authenticator`: the C10-1, C10-4, C10-14,
  C10-16 class); the unique identifier in the result is the last one before the authenticator
  (`C10_leaf_uid_is_last_before_auth`).
  NOT in the rendering: WHICH error is returned (`error` is rendered as "failed": Bool).
-/
import ScionTime.Gen.LeafNts
import ScionTime.Model.Nts
import ScionTime.Proofs.GoPrelude
import ScionTime.Proofs.LeafBytes
import ScionTime.Proofs.LeafNtsDec
import ScionTime.Proofs.NtsWalk
import ScionTime.Props.LeafC14CookiesDec
import ScionTime.Props.LeafC14Nts
namespace ScionTime.LeafTieC14NtsDec
open ScionTime ScionTime.Gen.Leaf ScionTime.GoLemmas ScionTime.Nts ScionTime.LeafBytes
open ScionTime.LeafTieC14CookiesDec (bytesN length_bytesN beU16At_spec forFuel_mono drop_cons4)
open ScionTime.GoSlice (ofNat_toInt)
open ScionTime.LeafTieC14Nts (k260 k1028 k516 C10_leaf_Authenticator_unpack C10_leaf_UniqueIdentifier_unpack
  C10_leaf_Cookie_unpack)
open ScionTime.LeafNtsDec

abbrev DpSt := Bool × Bool × Bool × S_NtsPacket × Int64   -- (err, foundAuthenticator, foundUniqueID, pkt, pos)

/-- the loop body of the generated `DecodePacket`, verbatim -/
def dpBody (b : List UInt8) : DpSt → Go.Ctl DpSt (Go.Out (S_NtsPacket × Bool)) :=
  fun (err, foundAuthenticator, foundUniqueID, pkt, pos) =>
      if (!((decide (((Go.len b) - pos) >= (28 : Int64))) && (!foundAuthenticator))) then
        Go.Ctl.brk (err, foundAuthenticator, foundUniqueID, pkt, pos)
      else
        let eh : S_extHdr := { Type' := (0 : UInt16), Length := (0 : UInt16) : S_extHdr }
        Go.Ctl.bindR (Go.Out.ofOption "panic" (nts_extHdr_unpack eh b pos)) fun eh =>
        if ((decide (eh.Length < (4 : UInt16))) || (decide (((eh.Length).toUInt64.toInt64) > ((Go.len b) - pos)))) then
          Go.Ctl.ret (Go.Out.ok ((pkt, true)))
        else
          let pos : Int64 := (pos + (4 : Int64))
          if (eh.Type' == (260 : UInt16)) then
            let u : S_UniqueIdentifier := { extHdr := eh, ID := ([] : (List UInt8)) : S_UniqueIdentifier }
            Go.Ctl.bindR (Go.Out.ofOption "panic" (nts_UniqueIdentifier_unpack u b pos)) fun (u, _c1) =>
            let err : Bool := _c1
            if (err != false) then
              Go.Ctl.ret (Go.Out.ok ((pkt, err)))
            else
              let pkt : S_NtsPacket := { pkt with UniqueID := u }
              let foundUniqueID : Bool := true
              let pos : Int64 := (pos + (((eh.Length).toUInt64.toInt64) - (4 : Int64)))
              Go.Ctl.next (err, foundAuthenticator, foundUniqueID, pkt, pos)
          else
            if (eh.Type' == (1028 : UInt16)) then
              let a : S_Authenticator := { extHdr := eh, Nonce := ([] : (List UInt8)), CipherText := ([] : (List UInt8)), Key := ([] : (List UInt8)), PlainText := ([] : (List UInt8)), pos := (0 : Int64) : S_Authenticator }
              Go.Ctl.bindR (Go.Out.ofOption "panic" (nts_Authenticator_unpack a b pos)) fun (a, _c2) =>
              let err : Bool := _c2
              if (err != false) then
                Go.Ctl.ret (Go.Out.ok ((pkt, err)))
              else
                let a : S_Authenticator := { a with pos := (pos - (4 : Int64)) }
                let pkt : S_NtsPacket := { pkt with Auth := a }
                let foundAuthenticator : Bool := true
                let pos : Int64 := (pos + (((eh.Length).toUInt64.toInt64) - (4 : Int64)))
                Go.Ctl.next (err, foundAuthenticator, foundUniqueID, pkt, pos)
            else
              if (eh.Type' == (516 : UInt16)) then
                let cookie : S_Cookie := { extHdr := eh, Cookie := ([] : (List UInt8)) : S_Cookie }
                Go.Ctl.bindR (Go.Out.ofOption "panic" (nts_Cookie_unpack cookie b pos)) fun (cookie, _c3) =>
                let err : Bool := _c3
                if (err != false) then
                  Go.Ctl.ret (Go.Out.ok ((pkt, err)))
                else
                  let pkt : S_NtsPacket := { pkt with Cookies := (Go.appendOwn pkt.Cookies cookie) }
                  let pos : Int64 := (pos + (((eh.Length).toUInt64.toInt64) - (4 : Int64)))
                  Go.Ctl.next (err, foundAuthenticator, foundUniqueID, pkt, pos)
              else
                if (eh.Type' == (772 : UInt16)) then
                  let cookie : S_CookiePlaceholder := { extHdr := eh, Cookie := ([] : (List UInt8)) : S_CookiePlaceholder }
                  let err : Bool := (nts_CookiePlaceholder_unpack cookie b pos)
                  if (err != false) then
                    Go.Ctl.ret (Go.Out.ok ((pkt, err)))
                  else
                    let pkt : S_NtsPacket := { pkt with CookiePlaceholders := (Go.appendOwn pkt.CookiePlaceholders cookie) }
                    let pos : Int64 := (pos + (((eh.Length).toUInt64.toInt64) - (4 : Int64)))
                    Go.Ctl.next (err, foundAuthenticator, foundUniqueID, pkt, pos)
                else
                  let pos : Int64 := (pos + (((eh.Length).toUInt64.toInt64) - (4 : Int64)))
                  Go.Ctl.next (err, foundAuthenticator, foundUniqueID, pkt, pos)

/-- the generated function is its loop followed by the two final tests (definitional: re-checked
    against the regenerated definition on every run) -/
theorem dp_pieces (pkt : S_NtsPacket) (b : List UInt8) (fuel : Nat) :
    nts_DecodePacket pkt b fuel =
      (match Go.forFuel (ρ := Go.Out (S_NtsPacket × Bool)) fuel (false, false, false, pkt, (48 : Int64)) (dpBody b) with
       | none => Go.Out.stuck
       | some (.inr _r) => _r
       | some (.inl (err, foundAuthenticator, foundUniqueID, pkt, pos)) =>
         if (!foundUniqueID) then Go.Out.ok ((pkt, true))
         else if (!foundAuthenticator) then Go.Out.ok ((pkt, true))
         else Go.Out.ok ((pkt, false))) := rfl

/-- header of the field at position `p`, as numbers -/
def typeAt (b : List UInt8) (p : Nat) : Nat := u16 ((bytesN b).getD p 0) ((bytesN b).getD (p + 1) 0)
def lenAt (b : List UInt8) (p : Nat) : Nat := u16 ((bytesN b).getD (p + 2) 0) ((bytesN b).getD (p + 3) 0)

/-- the model's accumulator, read off the Go packet struct -/
def view (pkt : S_NtsPacket) : Decoded :=
  { uid := bytesN pkt.UniqueID.ID, cookies := pkt.Cookies.map (fun c => bytesN c.Cookie),
    nph := pkt.CookiePlaceholders.length, nonce := bytesN pkt.Auth.Nonce, ct := bytesN pkt.Auth.CipherText,
    pos := pkt.Auth.pos.toInt.toNat }

theorem view_cookie (pkt : S_NtsPacket) (c : S_Cookie) :
    view { pkt with Cookies := pkt.Cookies ++ [c] } =
      { view pkt with cookies := (view pkt).cookies ++ [bytesN c.Cookie] } := by
  simp only [view, List.map_append, List.map_cons, List.map_nil]

theorem view_placeholder (pkt : S_NtsPacket) (c : S_CookiePlaceholder) :
    view { pkt with CookiePlaceholders := pkt.CookiePlaceholders ++ [c] } = { view pkt with nph := (view pkt).nph + 1 } := by
  simp only [view, List.length_append, List.length_cons, List.length_nil, Nat.zero_add]

/-- one iteration of `decLoop` (fixed code) on a suffix of `rem ≥ 28` bytes with header `(t, l)`;
    `body` is the suffix behind the header, `next` the suffix behind the field -/
def decNext (total n rem : Nat) (body next : Bytes) (fu : Bool) (d : Decoded) (t l : Nat) : Res (Bool × Bool × Decoded) :=
  if l < 4 ∨ l > rem then .err .extLen
  else if t = extAuthenticator then
    match unpackAuth body with
    | .ok (nonce, ct) => .ok (fu, true, { d with nonce := nonce, ct := ct, pos := total - rem })
    | .err x => .err x | .panic p => .panic p | .hang => .hang
  else if t = extUniqueIdentifier then decLoop true total n next true { d with uid := copyN (valueLen l) body }
  else if t = extCookie then decLoop true total n next fu { d with cookies := d.cookies ++ [copyN (valueLen l) body] }
  else if t = extCookiePlaceholder then decLoop true total n next fu { d with nph := d.nph + 1 }
  else decLoop true total n next fu d

theorem short_stop (total n : Nat) (rest : Bytes) (fu : Bool) (d : Decoded) (h : rest.length < 28) :
    decLoop true total (n + 1) rest fu d = .ok (fu, false, d) :=
  decLoop_short true total n rest fu d h

theorem dec_at (total : Nat) (b : List UInt8) (p n : Nat) (fu : Bool) (d : Decoded) (h : p + 28 ≤ b.length) :
    decLoop true total (n + 1) ((bytesN b).drop p) fu d =
      decNext total n (b.length - p) ((bytesN b).drop (p + 4)) ((bytesN b).drop (p + lenAt b p)) fu d
        (typeAt b p) (lenAt b p) := by
  have hcons := drop_cons4 (bytesN b) p (by rw [length_bytesN]; omega)
  have hlen : ((bytesN b).drop p).length = b.length - p := by rw [List.length_drop, length_bytesN]
  unfold decNext typeAt lenAt
  -- the model matches on the four header bytes: the suffix is written out for the step and folded back after it
  rw [hcons, decLoop_cons_checked _ _ _ _ _ _ _ _ _ (by rw [← hcons, hlen]; omega), ← hcons, hlen, List.drop_drop]
  generalize u16 ((bytesN b).getD p 0) ((bytesN b).getD (p + 1) 0) = t
  refine ite_congr rfl (fun _ => rfl) fun _ => ite_congr rfl (fun _ => ?_) fun _ => ?_
  · cases unpackAuth ((bytesN b).drop (p + 4)) <;> rfl
  · unfold absorb
    by_cases h1 : t = extUniqueIdentifier
    · simp only [if_pos h1]
    by_cases h2 : t = extCookie
    · simp only [if_neg h1, if_pos h2]
    by_cases h3 : t = extCookiePlaceholder
    · simp only [if_neg h1, if_neg h2, if_pos h3]
    · simp only [if_neg h1, if_neg h2, if_neg h3]

theorem k28 : (28 : Int64).toInt = 28 := by decide
theorem k772 : (772 : UInt16).toNat = extCookiePlaceholder := rfl

/-- **the head of an iteration of either walk** (`DecodePacket`, `authenticate`): `extHdr.unpack` at
    `p` reads the model's header, then `Length` is tested against the bytes left — whatever is done
    on a bad length (`bad`) and with a good header (`K`). -/
theorem field_step (b : List UInt8) (p : Nat) (hL : b.length < 4611686018427387904) (h4 : p + 4 ≤ b.length)
    (eh0 : S_extHdr) :
    ∃ t l : UInt16, t.toNat = typeAt b p ∧ l.toNat = lenAt b p ∧
      ∀ {σ ρ : Type} (bad : Go.Ctl σ (Go.Out ρ)) (K : S_extHdr → Go.Ctl σ (Go.Out ρ)),
        Go.Ctl.bindR (Go.Out.ofOption "panic" (nts_extHdr_unpack eh0 b (Int64.ofNat p)))
          (fun eh => if (decide (eh.Length < 4) || decide (eh.Length.toUInt64.toInt64 > Go.len b - Int64.ofNat p)) then bad
            else K eh) =
        if lenAt b p < 4 ∨ lenAt b p > b.length - p then bad else K { Type' := t, Length := l } := by
  obtain ⟨t, ht, htn⟩ := beU16At_spec b p (Int64.ofNat p) (ofNat_toInt p (by omega)) (by omega)
  obtain ⟨l, hl, hln⟩ := beU16At_spec b (p + 2) (Int64.ofNat (p + 2)) (ofNat_toInt _ (by omega)) (by omega)
  have hh : nts_extHdr_unpack eh0 b (Int64.ofNat p) = some { Type' := t, Length := l } := by
    have hp2 : Int64.ofNat p + 2 = Int64.ofNat (p + 2) := (Int64.ofNat_add p 2).symm
    unfold nts_extHdr_unpack
    simp only [hp2, ht, hl, Option.bind_some]
  have hln' : l.toNat = lenAt b p := by rw [hln]; unfold lenAt bytesN u16; rw [getD_bytes, getD_bytes]
  refine ⟨t, l, by rw [htn]; unfold typeAt bytesN u16; rw [getD_bytes, getD_bytes], hln', fun bad K => ?_⟩
  rw [hh, ← hln']
  show (if (decide (l < 4) || decide (l.toUInt64.toInt64 > Go.len b - Int64.ofNat p)) = true then bad else K _) = _
  have hiff := badLen_iff b p l hL (by omega)
  by_cases hb : l.toNat < 4 ∨ l.toNat > b.length - p
  · rw [if_pos hb, if_pos (hiff.mpr hb)]
  · rw [if_neg hb, if_neg (fun h => hb (hiff.mp h))]

theorem body_fa (b : List UInt8) (e fu : Bool) (pkt : S_NtsPacket) (pos : Int64) :
    dpBody b (e, true, fu, pkt, pos) = .brk (e, true, fu, pkt, pos) :=
  if_pos (by rw [Bool.not_true, Bool.and_false]; rfl)

theorem body_short (b : List UInt8) (p : Nat) (e fa fu : Bool) (pkt : S_NtsPacket)
    (hL : b.length < 4611686018427387904) (hp : p < 4611686018427387904) (h : b.length < p + 28) :
    dpBody b (e, fa, fu, pkt, Int64.ofNat p) = .brk (e, fa, fu, pkt, Int64.ofNat p) :=
  if_pos (by rw [left_ge b p 28 hL hp, decide_eq_false (by rw [k28]; omega)]; rfl)

section Body
variable (b : List UInt8) (p : Nat) (fu : Bool) (pkt : S_NtsPacket)
  (hL : b.length < 4611686018427387904) (h28 : p + 28 ≤ b.length)
include hL h28

theorem body_go :
    ¬ ((!(decide (Go.len b - Int64.ofNat p ≥ (28 : Int64)) && !false)) = true) := by
  rw [left_ge b p 28 hL (by omega), decide_eq_true (by rw [k28]; omega)]; decide

theorem body_bad (hl : lenAt b p < 4 ∨ lenAt b p > b.length - p) :
    dpBody b (false, false, fu, pkt, Int64.ofNat p) = .ret (.ok (pkt, true)) := by
  obtain ⟨t, l, _, _, hstep⟩ := field_step b p hL (by omega) { Type' := 0, Length := 0 }
  exact (if_neg (body_go b p hL h28)).trans ((hstep _ _).trans (if_pos hl))

variable (hl : ¬ (lenAt b p < 4 ∨ lenAt b p > b.length - p))
include hl

theorem body_uid (ht : typeAt b p = extUniqueIdentifier) :
    ∃ u, dpBody b (false, false, fu, pkt, Int64.ofNat p) =
        .next (false, false, true, { pkt with UniqueID := u }, Int64.ofNat (p + lenAt b p)) ∧
      bytesN u.ID = copyN (valueLen (lenAt b p)) ((bytesN b).drop (p + 4)) := by
  obtain ⟨t, l, htn, hln, hstep⟩ := field_step b p hL (by omega) { Type' := 0, Length := 0 }
  obtain rfl : t = 260 := type_eq htn k260 ht
  obtain ⟨X, hrun, hX⟩ := C10_leaf_UniqueIdentifier_unpack { extHdr := { Type' := 260, Length := l }, ID := [] }
    b (p + 4) hL (by omega) rfl
  refine ⟨{ extHdr := { Type' := 260, Length := l }, ID := X }, ?_, hX.trans (by rw [hln])⟩
  refine (if_neg (body_go b p hL h28)).trans ((hstep _ _).trans ((if_neg hl).trans ((if_pos rfl).trans ?_)))
  rw [pos_add4, ← hln, ← pos_next]
  show Go.Ctl.bindR (Go.Out.ofOption "panic" (nts_UniqueIdentifier_unpack _ b _)) _ = _
  rw [hrun]
  rfl

theorem body_auth (ht : typeAt b p = extAuthenticator) :
    ∃ a, dpBody b (false, false, fu, pkt, Int64.ofNat p) =
        .next (false, true, fu, { pkt with Auth := a }, Int64.ofNat (p + lenAt b p)) ∧
      a.pos = Int64.ofNat p ∧ unpackAuth ((bytesN b).drop (p + 4)) = .ok (bytesN a.Nonce, bytesN a.CipherText) := by
  obtain ⟨t, l, htn, hln, hstep⟩ := field_step b p hL (by omega) { Type' := 0, Length := 0 }
  obtain rfl : t = 1028 := type_eq htn k1028 ht
  have htie := C10_leaf_Authenticator_unpack
    { extHdr := { Type' := 1028, Length := l }, Nonce := [], CipherText := [], Key := [], PlainText := [], pos := 0 }
    b (p + 4) hL (by omega) rfl
  have hcons := drop_cons4 (bytesN b) (p + 4) (by rw [length_bytesN]; omega)
  rw [hcons] at htie
  obtain ⟨N, C, hrun, hN, hC⟩ := htie
  refine ⟨{ extHdr := { Type' := 1028, Length := l }, Nonce := N, CipherText := C, Key := [], PlainText := []
            pos := Int64.ofNat (p + 4) - 4 }, ?_, pos_sub4 p, by rw [hcons, hN, hC]; rfl⟩
  refine (if_neg (body_go b p hL h28)).trans ((hstep _ _).trans ((if_neg hl).trans
    ((if_neg (type_ne htn k260 (by rw [ht]; decide))).trans ((if_pos rfl).trans ?_))))
  rw [pos_add4, ← hln, ← pos_next]
  show Go.Ctl.bindR (Go.Out.ofOption "panic" (nts_Authenticator_unpack _ b _)) _ = _
  rw [hrun]
  rfl

theorem body_cookie (ht : typeAt b p = extCookie) :
    ∃ c, dpBody b (false, false, fu, pkt, Int64.ofNat p) =
        .next (false, false, fu, { pkt with Cookies := pkt.Cookies ++ [c] }, Int64.ofNat (p + lenAt b p)) ∧
      bytesN c.Cookie = copyN (valueLen (lenAt b p)) ((bytesN b).drop (p + 4)) := by
  obtain ⟨t, l, htn, hln, hstep⟩ := field_step b p hL (by omega) { Type' := 0, Length := 0 }
  obtain rfl : t = 516 := type_eq htn k516 ht
  obtain ⟨X, hrun, hX⟩ := C10_leaf_Cookie_unpack { extHdr := { Type' := 516, Length := l }, Cookie := [] }
    b (p + 4) hL (by omega) rfl
  refine ⟨{ extHdr := { Type' := 516, Length := l }, Cookie := X }, ?_, hX.trans (by rw [hln])⟩
  refine (if_neg (body_go b p hL h28)).trans ((hstep _ _).trans ((if_neg hl).trans
    ((if_neg (type_ne htn k260 (by rw [ht]; decide))).trans ((if_neg (type_ne htn k1028 (by rw [ht]; decide))).trans
      ((if_pos rfl).trans ?_)))))
  rw [pos_add4, ← hln, ← pos_next]
  show Go.Ctl.bindR (Go.Out.ofOption "panic" (nts_Cookie_unpack _ b _)) _ = _
  rw [hrun]
  rfl

theorem body_placeholder (ht : typeAt b p = extCookiePlaceholder) :
    ∃ c, dpBody b (false, false, fu, pkt, Int64.ofNat p) =
      .next (false, false, fu, { pkt with CookiePlaceholders := pkt.CookiePlaceholders ++ [c] },
        Int64.ofNat (p + lenAt b p)) := by
  obtain ⟨t, l, htn, hln, hstep⟩ := field_step b p hL (by omega) { Type' := 0, Length := 0 }
  obtain rfl : t = 772 := type_eq htn k772 ht
  refine ⟨{ extHdr := { Type' := 772, Length := l }, Cookie := [] }, ?_⟩
  refine (if_neg (body_go b p hL h28)).trans ((hstep _ _).trans ((if_neg hl).trans
    ((if_neg (type_ne htn k260 (by rw [ht]; decide))).trans ((if_neg (type_ne htn k1028 (by rw [ht]; decide))).trans
      ((if_neg (type_ne htn k516 (by rw [ht]; decide))).trans ((if_pos rfl).trans ?_))))))
  rw [pos_add4, ← hln, ← pos_next]
  rfl

theorem body_other (ha : typeAt b p ≠ extAuthenticator)
    (hu : typeAt b p ≠ extUniqueIdentifier) (hc : typeAt b p ≠ extCookie) (hph : typeAt b p ≠ extCookiePlaceholder) :
    dpBody b (false, false, fu, pkt, Int64.ofNat p) = .next (false, false, fu, pkt, Int64.ofNat (p + lenAt b p)) := by
  obtain ⟨t, l, htn, hln, hstep⟩ := field_step b p hL (by omega) { Type' := 0, Length := 0 }
  refine (if_neg (body_go b p hL h28)).trans ((hstep _ _).trans ((if_neg hl).trans
    ((if_neg (type_ne htn k260 hu)).trans ((if_neg (type_ne htn k1028 ha)).trans
      ((if_neg (type_ne htn k516 hc)).trans ((if_neg (type_ne htn k772 hph)).trans ?_))))))
  rw [pos_add4, ← hln, ← pos_next]

theorem body_skip (ha : typeAt b p ≠ extAuthenticator)
    (hu : typeAt b p ≠ extUniqueIdentifier) :
    ∃ pkt', dpBody b (false, false, fu, pkt, Int64.ofNat p) = .next (false, false, fu, pkt', Int64.ofNat (p + lenAt b p)) ∧
      pkt'.UniqueID = pkt.UniqueID := by
  by_cases hc : typeAt b p = extCookie
  · obtain ⟨c, hr, _⟩ := body_cookie b p fu pkt hL h28 hl hc
    exact ⟨_, hr, rfl⟩
  · by_cases hph : typeAt b p = extCookiePlaceholder
    · obtain ⟨c, hr⟩ := body_placeholder b p fu pkt hL h28 hl hph
      exact ⟨_, hr, rfl⟩
    · exact ⟨_, body_other b p fu pkt hL h28 hl ha hu hc hph, rfl⟩

end Body

/-- how the generated loop ends when the model's walk ends with `r` -/
def Ends (r : Res (Bool × Bool × Decoded)) (o : DpSt ⊕ Go.Out (S_NtsPacket × Bool)) : Prop :=
  match r with
  | .ok (fu, fa, d) => ∃ pkt pos, o = .inl (false, fa, fu, pkt, pos) ∧ view pkt = d
  | .err _ => ∃ pkt, o = .inr (.ok (pkt, true))
  | .panic _ => False
  | .hang => False

/-- **position-based walk = suffix-based walk**: with a budget above the bytes behind the NTP header
    the generated loop ends exactly as the model's does. An instance of `forFuel_walk`: the rest of
    the state is `(foundAuthenticator, foundUniqueID, pkt)`; once `foundAuthenticator` is set the loop
    breaks at once (the iteration the authenticator field's own length pays for), before that an
    iteration is one iteration of the model. -/
theorem dp_loop (b : List UInt8) (hL : b.length < 4611686018427387904) (n : Nat) (pkt : S_NtsPacket)
    (h48 : 48 ≤ b.length) (hn : b.length - 48 < n) :
    ∃ o, Go.forFuel n (false, false, false, pkt, 48) (dpBody b) = some o ∧
      Ends (decLoop true b.length n ((bytesN b).drop 48) false (view pkt)) o := by
  refine forFuel_walk (dpBody b) (fun p (a : Bool × Bool × S_NtsPacket) => (false, a.1, a.2.1, a.2.2, Int64.ofNat p)) b.length
    (fun n p a o => match a.1 with
      | true => o = .inl (false, true, a.2.1, a.2.2, Int64.ofNat p)
      | false => Ends (decLoop true b.length n ((bytesN b).drop p) a.2.1 (view a.2.2)) o)
    ?_ n 48 (false, false, pkt) h48 hn
  intro n p ⟨fa, fu, pkt⟩ hp
  cases fa
  case true => exact .inl ⟨_, body_fa b false fu pkt _, rfl⟩
  by_cases h28 : p + 28 ≤ b.length
  case neg =>
    refine .inl ⟨_, body_short b p false false fu pkt hL (by omega) (by omega), ?_⟩
    rw [short_stop _ _ _ _ _ (by rw [List.length_drop, length_bytesN]; omega)]
    exact ⟨pkt, _, rfl, rfl⟩
  by_cases hl : lenAt b p < 4 ∨ lenAt b p > b.length - p
  case pos =>
    refine .inr (.inl ⟨_, body_bad b p fu pkt hL h28 hl, ?_⟩)
    rw [dec_at _ _ _ _ _ _ h28, decNext, if_pos hl]
    exact ⟨pkt, rfl⟩
  have hadv : p < p + lenAt b p ∧ p + lenAt b p ≤ b.length := by omega
  by_cases ha : typeAt b p = extAuthenticator
  case pos =>
    obtain ⟨a, hr, hpos, hU⟩ := body_auth b p fu pkt hL h28 hl ha
    refine .inr (.inr ⟨p + lenAt b p, (true, fu, { pkt with Auth := a }), hr, hadv.1, hadv.2, fun o ho => ?_⟩)
    rw [dec_at _ _ _ _ _ _ h28, decNext, if_neg hl, if_pos ha, hU]
    refine ⟨_, _, ho, ?_⟩
    rw [show b.length - (b.length - p) = p by omega, ← Int.toNat_natCast p, ← ofNat_toInt p (by omega), ← hpos]
    rfl
  -- any other field: one iteration of the body is one iteration of the model
  obtain ⟨fu', pkt', hr, he⟩ : ∃ fu' pkt',
      dpBody b (false, false, fu, pkt, Int64.ofNat p) = .next (false, false, fu', pkt', Int64.ofNat (p + lenAt b p)) ∧
      decLoop true b.length (n + 1) ((bytesN b).drop p) fu (view pkt) =
        decLoop true b.length n ((bytesN b).drop (p + lenAt b p)) fu' (view pkt') := by
    rw [dec_at _ _ _ _ _ _ h28, decNext, if_neg hl, if_neg ha]
    by_cases hu : typeAt b p = extUniqueIdentifier
    · obtain ⟨u, hr, hX⟩ := body_uid b p fu pkt hL h28 hl hu
      exact ⟨true, _, hr, by rw [if_pos hu, ← hX]; rfl⟩
    by_cases hc : typeAt b p = extCookie
    · obtain ⟨c, hr, hX⟩ := body_cookie b p fu pkt hL h28 hl hc
      exact ⟨fu, _, hr, by rw [if_neg hu, if_pos hc, ← hX, ← view_cookie]⟩
    by_cases hph : typeAt b p = extCookiePlaceholder
    · obtain ⟨c, hr⟩ := body_placeholder b p fu pkt hL h28 hl hph
      exact ⟨fu, _, hr, by rw [if_neg hu, if_neg hc, if_pos hph, ← view_placeholder]⟩
    · exact ⟨fu, pkt, body_other b p fu pkt hL h28 hl ha hu hc hph, by rw [if_neg hu, if_neg hc, if_neg hph]⟩
  refine .inr (.inr ⟨_, (false, fu', pkt'), hr, hadv.1, hadv.2, fun o ho => ?_⟩)
  rw [he]
  exact ho

/-- the model's `DecodePacket` when the packet struct passed in already holds fields (`d0`); for an
    empty struct this is `decodePacket` (`decodeFrom_empty`) -/
def decodeFrom (d0 : Decoded) (b : Bytes) : Res Decoded :=
  match decLoop true b.length (b.length + 1) (b.drop ntpPacketLen) false d0 with
  | .ok (fu, fa, d) => if !fu then .err .noUid else if !fa then .err .noAuth else .ok d
  | .err e => .err e | .panic p => .panic p | .hang => .hang

theorem decodeFrom_empty (b : Bytes) : decodeFrom {} b = decodePacket b := rfl

/-- **`nts.DecodePacket`, for every buffer shorter than 2^62 bytes, every packet struct passed in and
    every budget above the length + 1**: the regenerated function returns `nil` exactly when the
    model decodes, and the packet then holds the model's fields; it returns an error exactly when
    the model does; it never panics and never runs out of budget. -/
theorem C10_leaf_DecodePacket (pkt0 : S_NtsPacket) (b : List UInt8) (fuel : Nat)
    (hL : b.length < 4611686018427387904) (hf : b.length + 1 < fuel) :
    match decodeFrom (view pkt0) (bytesN b) with
    | .ok d => ∃ pkt', nts_DecodePacket pkt0 b fuel = .ok (pkt', false) ∧ view pkt' = d
    | .err _ => ∃ pkt', nts_DecodePacket pkt0 b fuel = .ok (pkt', true)
    | .panic _ => False
    | .hang => False := by
  obtain ⟨k, hk⟩ : ∃ k, fuel = (b.length + 1) + k := ⟨fuel - (b.length + 1), by omega⟩
  rw [dp_pieces]
  unfold decodeFrom ntpPacketLen
  rw [length_bytesN, hk]
  by_cases h48 : 48 ≤ b.length
  · obtain ⟨o, hrun, he⟩ := dp_loop b hL (b.length + 1) pkt0 h48 (by omega)
    rw [forFuel_mono _ _ k _ _ hrun]
    generalize decLoop _ _ _ _ _ _ = r at he ⊢
    cases r with
    | ok r =>
      obtain ⟨fu, fa, d⟩ := r
      obtain ⟨pkt', pos', rfl, hv⟩ := he
      cases fu
      case false => exact ⟨_, rfl⟩
      cases fa
      case false => exact ⟨_, rfl⟩
      exact ⟨_, rfl, hv⟩
    | err e =>
      obtain ⟨pkt', rfl⟩ := he
      exact ⟨_, rfl⟩
    | panic m => exact he
    | hang => exact he
  · rw [short_stop _ _ _ _ _ (by rw [List.length_drop, length_bytesN]; omega),
      forFuel_mono _ _ k _ _ (forFuel_brk b.length (false, false, false, pkt0, 48) _ _
        (body_short b 48 false false false pkt0 hL (by omega) (by omega)))]
    exact ⟨_, rfl⟩

/-- totality, as a statement about the regenerated code alone: for EVERY buffer (also with zero,
    short or overlong `Length` fields — the F2/F3 class) and every packet struct, `DecodePacket`
    returns within `len(b) + 2` iterations and does not panic. -/
theorem C10_leaf_DecodePacket_total (pkt0 : S_NtsPacket) (b : List UInt8) (fuel : Nat)
    (hL : b.length < 4611686018427387904) (hf : b.length + 1 < fuel) :
    ∃ pkt' e, nts_DecodePacket pkt0 b fuel = .ok (pkt', e) := by
  have h := C10_leaf_DecodePacket pkt0 b fuel hL hf
  split at h
  · obtain ⟨pkt', h1, _⟩ := h
    exact ⟨pkt', false, h1⟩
  · obtain ⟨pkt', h1⟩ := h
    exact ⟨pkt', true, h1⟩
  · exact h.elim
  · exact h.elim

/-- **the walk stops at the authenticator**: with a well-formed authenticator header at the current
    position the loop of the regenerated `DecodePacket` ends there, for every buffer `b` (so whatever
    bytes follow the authenticator: further cookies, a second unique identifier, a second
    authenticator, garbage): the unique identifier, the cookies and the placeholders are exactly
    those collected before it, and `Auth.pos` is this position. -/
theorem C10_leaf_stops_at_authenticator (b : List UInt8) (p n : Nat) (fu : Bool) (pkt : S_NtsPacket)
    (hL : b.length < 4611686018427387904) (h28 : p + 28 ≤ b.length)
    (ht : typeAt b p = extAuthenticator) (hl : 4 ≤ lenAt b p ∧ lenAt b p ≤ b.length - p) :
    ∃ pkt' pos', Go.forFuel (n + 2) (false, false, fu, pkt, Int64.ofNat p) (dpBody b) =
        some (.inl (false, true, fu, pkt', pos')) ∧
      pkt'.UniqueID = pkt.UniqueID ∧ pkt'.Cookies = pkt.Cookies ∧
      pkt'.CookiePlaceholders = pkt.CookiePlaceholders ∧ pkt'.Auth.pos = Int64.ofNat p := by
  obtain ⟨a, hr, hpos, _⟩ := body_auth b p fu pkt hL h28 (by omega) ht
  exact ⟨{ pkt with Auth := a }, _, by rw [forFuel_next _ _ _ _ hr, forFuel_brk _ _ _ _ (body_fa b _ _ _ _)],
    rfl, rfl, rfl, hpos⟩

/-- from position `p` on: well-formed fields that are neither unique identifiers nor
    authenticators, then a well-formed authenticator header -/
inductive NoUidUntilAuth (b : List UInt8) : Nat → Prop where
  | auth (p : Nat) : p + 28 ≤ b.length → typeAt b p = extAuthenticator →
      4 ≤ lenAt b p ∧ lenAt b p ≤ b.length - p → NoUidUntilAuth b p
  | skip (p : Nat) : p + 28 ≤ b.length → typeAt b p ≠ extAuthenticator → typeAt b p ≠ extUniqueIdentifier →
      4 ≤ lenAt b p ∧ lenAt b p ≤ b.length - p → NoUidUntilAuth b (p + lenAt b p) → NoUidUntilAuth b p

theorem uid_kept (b : List UInt8) (hL : b.length < 4611686018427387904) (p : Nat) (h : NoUidUntilAuth b p) :
    ∀ (n : Nat) (fu : Bool) (pkt : S_NtsPacket), b.length - p < n →
      ∃ pkt' pos', Go.forFuel (n + 1) (false, false, fu, pkt, Int64.ofNat p) (dpBody b) =
          some (.inl (false, true, fu, pkt', pos')) ∧ pkt'.UniqueID = pkt.UniqueID := by
  induction h with
  | auth p h28 ht hl =>
    intro n fu pkt hn
    obtain ⟨k, rfl⟩ : ∃ k, n = k + 1 := ⟨n - 1, by omega⟩
    obtain ⟨pkt', pos', hrun, hu, _⟩ := C10_leaf_stops_at_authenticator b p k fu pkt hL h28 ht hl
    exact ⟨pkt', pos', hrun, hu⟩
  | skip p h28 hta htu hl _ ih =>
    intro n fu pkt hn
    obtain ⟨k, rfl⟩ : ∃ k, n = k + 1 := ⟨n - 1, by omega⟩
    obtain ⟨pkt1, hr, hu1⟩ := body_skip b p fu pkt hL h28 (by omega) hta htu
    obtain ⟨pkt', pos', hrun, hu⟩ := ih k fu pkt1 (by omega)
    exact ⟨pkt', pos', by rw [forFuel_next _ _ _ _ hr]; exact hrun, hu.trans hu1⟩

/-- **the unique identifier in the result is the last UID field before the authenticator**: a
    well-formed UID field at `p`, then fields that are neither UID nor authenticator, then the
    authenticator: the loop of the regenerated `DecodePacket` ends with `foundUniqueID`,
    `foundAuthenticator` and `pkt.UniqueID.ID` = the value of THAT field (`Length - 4` bytes from
    `p + 4`, zero-padded at the end of the buffer) — whatever identifier was stored before. -/
theorem C10_leaf_uid_is_last_before_auth (b : List UInt8) (p n : Nat) (fu : Bool) (pkt : S_NtsPacket)
    (hL : b.length < 4611686018427387904) (h28 : p + 28 ≤ b.length)
    (ht : typeAt b p = extUniqueIdentifier) (hl : 4 ≤ lenAt b p ∧ lenAt b p ≤ b.length - p)
    (hrest : NoUidUntilAuth b (p + lenAt b p)) (hn : b.length - p < n) :
    ∃ pkt' pos', Go.forFuel (n + 1) (false, false, fu, pkt, Int64.ofNat p) (dpBody b) =
        some (.inl (false, true, true, pkt', pos')) ∧
      bytesN pkt'.UniqueID.ID = copyN (valueLen (lenAt b p)) ((bytesN b).drop (p + 4)) := by
  obtain ⟨u, hr, hX⟩ := body_uid b p fu pkt hL h28 (by omega) ht
  obtain ⟨k, rfl⟩ : ∃ k, n = k + 1 := ⟨n - 1, by omega⟩
  obtain ⟨pkt', pos', hrun, hu⟩ := uid_kept b hL _ hrest k true { pkt with UniqueID := u } (by omega)
  exact ⟨pkt', pos', by rw [forFuel_next _ _ _ _ hr]; exact hrun, by rw [hu]; exact hX⟩

def emptyPkt : S_NtsPacket :=
  { UniqueID := { extHdr := { Type' := 0, Length := 0 }, ID := [] }, Cookies := [], CookiePlaceholders := [],
    Auth := { extHdr := { Type' := 0, Length := 0 }, Nonce := [], CipherText := [], Key := [], PlainText := [], pos := 0 } }

/-- 48 header bytes, a UID field (32 x 7), a cookie field (4 x 5), an authenticator (nonce 16 x 9,
    ciphertext 16 x 9), and a second UID field BEHIND the authenticator (ignored) -/
def sample : List UInt8 :=
  List.replicate 48 0 ++ [1, 4, 0, 36] ++ List.replicate 32 7 ++ [2, 4, 0, 8, 5, 5, 5, 5] ++
    [4, 4, 0, 40, 0, 16, 0, 16] ++ List.replicate 32 9 ++ [1, 4, 0, 36] ++ List.replicate 32 8

example : (match nts_DecodePacket emptyPkt sample 200 with
    | .ok (p, e) => some (p.UniqueID.ID, p.Cookies.map (·.Cookie), p.Auth.pos, p.Auth.Nonce.length, e) | _ => none) =
    some (List.replicate 32 7, [[5, 5, 5, 5]], 92, 16, false) := by decide +kernel

/-- a field with `Length = 0` (the F2 input): an error, not a hang -/
example : (match nts_DecodePacket emptyPkt (List.replicate 48 0 ++ [9, 9, 0, 0] ++ List.replicate 24 0) 78 with
    | .ok (_, e) => some e | _ => none) = some true := by decide +kernel

example : NoUidUntilAuth sample 84 :=
  .skip 84 (by decide +kernel) (by decide +kernel) (by decide +kernel) (by decide +kernel)
    (.auth 92 (by decide +kernel) (by decide +kernel) (by decide +kernel))

end ScionTime.LeafTieC14NtsDec
