/-
  C13Keys — which DRKey the SCION listener and client authenticate with, over time.
  Model: ScionTime/Model/DrkeyFetch.lean (NewDaemonConnector, scion.FetchHostASKey,
  Fetcher.FetchHostASKey with its per-AS cache, FetchHostHostKey, DeriveHostHostKey as an
  oracle, the two call sites). C13's decision logic (Props/C13.lean, Model/ScionSrv.lean) takes
  "the host-to-host key" as given; here it is shown which key that is at a validity instant `t`,
  for all call histories and all daemon behaviours.

  What the code guarantees is less than "never an expired key": on a cache miss the Fetcher
  stores and returns whatever the connector answers *without looking at its epoch or identity*.
  So the validity statement is proved for every *honest* connector (one that answers a request
  for (identity, t) with a key of that identity whose epoch contains t, or with an error) —
  `C13_fetch_key_valid_at_instant` — and the gap is stated exactly
  (`C13_fetch_step_exact`, `C13_fetch_does_not_check_fetched_key`). That the connector the
  Fetcher gets from `NewDaemonConnector` *is* the SCION daemon's own (no layer in between that
  could answer from state of its own) is the pinned fact `C13_pin_daemon_connector`, and is
  executed on every run against a stand-in gRPC daemon with rotating epochs (harness c13fk).
-/
import ScionTime.Proofs.DrkeyFetch
import ScionTime.Gen.Scion
import ScionTime.Gen.Server
import ScionTime.Gen.Client
namespace ScionTime.C13Keys
open ScionTime.Drkey

/-- `NewDaemonConnector` returns `nil`, `nil` or the value of `daemon.Service.Connect` itself,
    and package net/scion declares no type with `DRKeyGet…` methods (no connector of its own
    that could sit between the Fetcher and the daemon); `scion.FetchHostASKey` is a nil check
    followed by the daemon call with the caller's meta. -/
theorem C13_pin_daemon_connector :
    Gen.Scion.daemonConnectorReturns = ["nil", "nil", "c"] ∧
    Gen.Scion.daemonConnectorSource = "s.Connect(ctx)" ∧
    Gen.Scion.connectorImpls = [] ∧
    Gen.Scion.fetchHostASKeyBody = "if dc == nil; return dc.DRKeyGetHostASKey(ctx, meta)" :=
  ⟨rfl, rfl, rfl, rfl⟩

/-- The cache of `Fetcher.FetchHostASKey`: looked up under `meta.DstIA`, stored under the
    *returned key's* `DstIA`, refetch condition and expiry test as modelled (`stale`);
    `FetchHostHostKey` does not touch the cache; the mock epochs are now ∓ 6 h. -/
theorem C13_pin_fetcher :
    Gen.Scion.fetcherLookupKey = "meta.DstIA" ∧ Gen.Scion.fetcherStoreKey = "hak.DstIA" ∧
    Gen.Scion.fetcherRefetchCond =
      "!ok || expired || hak.ProtoId != meta.ProtoId || hak.SrcIA != meta.SrcIA || hak.DstIA != meta.DstIA || hak.SrcHost != meta.SrcHost" ∧
    Gen.Scion.fetcherExpiredDef = "ok && !hak.Epoch.Contains(meta.Validity)" ∧
    Gen.Scion.fetcherHostHostUsesCache = false ∧
    Gen.Scion.fetcherMockOffsetsNs =
      [-mockHalfValidityNs, mockHalfValidityNs, -mockHalfValidityNs, mockHalfValidityNs] ∧
    Gen.Scion.DRKeyProtocolTS = (protocolTS : Int) :=
  ⟨rfl, rfl, rfl, rfl, rfl, by decide, by decide⟩

/-- The call sites: the listener asks for (TS, validity = receive time, fast side = the
    addressed AS and host, slow side = the sender's AS) and derives for the sender's host; the
    client asks for (TS, validity = transmit time, fast side = the server, slow side = itself). -/
theorem C13_pin_call_sites :
    Gen.Server.scionServerHostASMeta =
      "ProtoId:scion.DRKeyProtocolTS;Validity:rxt;SrcIA:scionLayer.DstIA;DstIA:scionLayer.SrcIA;SrcHost:dstAddr.String()" ∧
    Gen.Server.scionServerDeriveArgs = "hostASKey, srcAddr.String()" ∧
    Gen.Client.scionClientHostHostMeta =
      "ProtoId:scion.DRKeyProtocolTS;Validity:cTxTime0;SrcIA:remoteAddr.IA;DstIA:localAddr.IA;SrcHost:remoteAddr.Host.IP.String();DstHost:localAddr.Host.IP.String()" :=
  ⟨rfl, rfl, rfl⟩

/-- **What one `FetchHostASKey` call does (real keys), for every state, request and answer.**
    Either the cache holds, under the asked remote AS, a key of exactly the asked identity whose
    epoch contains the asked instant: that key is returned, nothing changes, the daemon is not
    asked. Or the connector is asked (a nil connector: error) with this very request, and
    — an error: the error is returned and **nothing is stored**;
    — a key: it is returned **as it is** and stored under **its own** remote AS, replacing what
      was there; no check of its epoch or identity is made. -/
theorem C13_fetch_step_exact (cfg : Cfg) (hm : cfg.mock = false) (f : Fetcher) (m : HostASMeta) (now : Int)
    (ans : Option HostASKey) :
    let r := f.fetchHostAS cfg m now ans
    (∃ k, f.lookup m.id.dstIA = some k ∧ k.id = m.id ∧ k.epoch.contains m.validity = true ∧
        r.out = some k ∧ r.fetcher = f ∧ r.asked = false) ∨
    (stale (f.lookup m.id.dstIA) m = true ∧ r.asked = decide (cfg.dc = .daemon) ∧
      ((r.out = none ∧ r.fetcher = f ∧ (cfg.dc = .nil ∨ ans = none)) ∨
       (∃ k, cfg.dc = .daemon ∧ ans = some k ∧ r.out = some k ∧ r.fetcher = f.insert k.id.dstIA k))) := by
  intro r
  cases hs : stale (f.lookup m.id.dstIA) m with
  | false =>
    obtain ⟨k, hk, hid, hc, hr⟩ := fetchHostAS_hit cfg now ans hs
    rw [show r = _ from hr]; exact .inl ⟨k, hk, hid, hc, rfl, rfl, rfl⟩
  | true =>
    refine .inr ⟨rfl, ?_⟩
    cases hdc : cfg.dc <;> cases ans <;> simp [r, Fetcher.fetchHostAS, hs, hm, connectorFetch, hdc]

/-- **Errors are not cached**: a failed call leaves the Fetcher as it was, and the next call
    for the same request goes to the connector again (whatever it answered before). -/
theorem C13_fetch_error_not_cached (cfg : Cfg) (hm : cfg.mock = false) (f : Fetcher) (m : HostASMeta)
    (now now' : Int) (ans ans' : Option HostASKey) (herr : (f.fetchHostAS cfg m now ans).out = none) :
    (f.fetchHostAS cfg m now ans).fetcher = f ∧
    ((f.fetchHostAS cfg m now ans).fetcher.fetchHostAS cfg m now' ans').asked = decide (cfg.dc = .daemon) ∧
    ((f.fetchHostAS cfg m now ans).fetcher.fetchHostAS cfg m now' ans').out = (connectorFetch cfg.dc ans').1 := by
  cases hs : stale (f.lookup m.id.dstIA) m with
  | false =>
    obtain ⟨_, _, _, _, hr⟩ := fetchHostAS_hit cfg now ans hs
    rw [hr] at herr
    cases herr
  | true =>
    have hf : (f.fetchHostAS cfg m now ans).fetcher = f := by
      cases hdc : cfg.dc <;> cases ans <;> simp [Fetcher.fetchHostAS, hs, hm, connectorFetch, hdc] at herr ⊢
    rw [hf]
    refine ⟨rfl, ?_⟩
    cases hdc : cfg.dc <;> cases ans' <;> simp [Fetcher.fetchHostAS, hs, hm, connectorFetch, hdc]

/-- **The cache never serves a key of another identity, nor an expired one**: whenever a call
    is answered without asking the daemon (real keys, a daemon connector present), the key has
    exactly the asked protocol, local AS, remote AS and local host, and its epoch contains the
    asked instant. -/
theorem C13_fetch_hit_identity (cfg : Cfg) (hm : cfg.mock = false) (hdc : cfg.dc = .daemon)
    (f : Fetcher) (m : HostASMeta) (now : Int) (ans : Option HostASKey) (k : HostASKey)
    (hout : (f.fetchHostAS cfg m now ans).out = some k) (hna : (f.fetchHostAS cfg m now ans).asked = false) :
    k.id = m.id ∧ k.epoch.contains m.validity = true ∧ f.lookup m.id.dstIA = some k := by
  rcases C13_fetch_step_exact cfg hm f m now ans with ⟨k', hk, hid, hc, ho, _, _⟩ | ⟨_, ha, _⟩
  · rw [ho] at hout; cases hout; exact ⟨hid, hc, hk⟩
  · rw [hna, hdc] at ha; simp at ha

/-- **Replacement rule**: a call changes at most the entry of one remote AS — the one of the key
    it obtained; every other AS's cached key stays. -/
theorem C13_fetch_other_ias_untouched (cfg : Cfg) (hm : cfg.mock = false) (f : Fetcher) (m : HostASMeta)
    (now : Int) (ans : Option HostASKey) :
    let r := f.fetchHostAS cfg m now ans
    (r.fetcher = f) ∨
    (∃ k, r.out = some k ∧ r.fetcher.lookup k.id.dstIA = some k ∧
      ∀ a, a ≠ k.id.dstIA → r.fetcher.lookup a = f.lookup a) := by
  intro r
  rcases C13_fetch_step_exact cfg hm f m now ans with
    ⟨_, _, _, _, _, hf, _⟩ | ⟨_, _, ⟨_, hf, _⟩ | ⟨k, _, _, ho, hf⟩⟩
  · exact .inl hf
  · exact .inl hf
  · have hf : r.fetcher = f.insert k.id.dstIA k := hf
    exact .inr ⟨k, ho, hf ▸ lookup_insert_same _ _ _, fun a ha => hf ▸ lookup_insert_other _ _ _ _ ha⟩

/-- the connector's answer to a call is *honest*: an error, or a key of the asked identity whose
    epoch contains the asked validity instant -/
def Honest (c : Call) : Prop :=
  ∀ k, c.ans = some k → k.id = c.m.id ∧ k.epoch.contains c.m.validity = true

/-- Induction over histories: `I` is a property of cached keys, `J` relates a call to the key it
    returns. -/
theorem C13_fetch_history_invariant (cfg : Cfg) (hm : cfg.mock = false) (I : HostASKey → Prop)
    (J : Call → HostASKey → Prop) (cs : List Call)
    (hhit : ∀ c ∈ cs, ∀ k, I k → k.id = c.m.id → k.epoch.contains c.m.validity = true → J c k)
    (hans : ∀ c ∈ cs, ∀ k, c.ans = some k → I k ∧ J c k) :
    ∀ f : Fetcher, (∀ e ∈ f.haks, I e.2) →
      (∀ p ∈ cs.zip (runCalls cfg f cs).2, ∀ k, p.2.out = some k → J p.1 k) ∧
      (∀ e ∈ (runCalls cfg f cs).1.haks, I e.2) := by
  induction cs with
  | nil => exact fun f hf => ⟨fun _ hp => absurd hp List.not_mem_nil, hf⟩
  | cons c cs ih =>
    intro f hf
    have hc : c ∈ c :: cs := List.mem_cons_self
    have hstep : (∀ k, (f.fetchHostAS cfg c.m c.now c.ans).out = some k → J c k) ∧
        ∀ e ∈ (f.fetchHostAS cfg c.m c.now c.ans).fetcher.haks, I e.2 := by
      rcases C13_fetch_step_exact cfg hm f c.m c.now c.ans with
        ⟨k, hl, hid, hv, ho, hfe, _⟩ | ⟨_, _, ⟨ho, hfe, _⟩ | ⟨k, _, ha, ho, hfe⟩⟩
      · rw [ho, hfe]
        exact ⟨fun _ h => Option.some.inj h ▸ hhit c hc k (hf _ (lookup_mem hl)) hid hv, hf⟩
      · rw [ho, hfe]; exact ⟨nofun, hf⟩
      · rw [ho, hfe]
        exact ⟨fun _ h => Option.some.inj h ▸ (hans c hc k ha).2, fun e he =>
          (mem_insert he).elim (fun h => h ▸ (hans c hc k ha).1) fun h => hf e h.1⟩
    have ⟨ih1, ih2⟩ := ih (fun c' h => hhit c' (List.mem_cons_of_mem _ h))
      (fun c' h => hans c' (List.mem_cons_of_mem _ h)) _ hstep.2
    refine ⟨fun p hp => ?_, ih2⟩
    rcases List.mem_cons.mp hp with rfl | hp
    · exact hstep.1
    · exact ih1 p hp

/-- **The key used at instant t was issued for an epoch containing t.** For every history of
    `FetchHostASKey` calls on one Fetcher (real keys, starting empty) against a connector whose
    answers are honest — however they vary from call to call, errors included —, every key a
    call returns has exactly the identity asked for in *that* call (protocol, local AS, remote
    AS, local host), an epoch that contains *that* call's validity instant, and is a key the
    connector issued in this history. -/
theorem C13_fetch_key_valid_at_instant (cfg : Cfg) (hm : cfg.mock = false) (cs : List Call)
    (hh : ∀ c ∈ cs, Honest c) :
    ∀ p ∈ cs.zip (runCalls cfg {} cs).2, ∀ k, p.2.out = some k →
      k.id = p.1.m.id ∧ k.epoch.contains p.1.m.validity = true ∧ ∃ c ∈ cs, c.ans = some k :=
  (C13_fetch_history_invariant cfg hm (fun k => ∃ c ∈ cs, c.ans = some k)
    (fun c k => k.id = c.m.id ∧ k.epoch.contains c.m.validity = true ∧ ∃ c ∈ cs, c.ans = some k) cs
    (fun _ _ _ hI hid hv => ⟨hid, hv, hI⟩)
    (fun c hc k ha => ⟨⟨c, hc, ha⟩, (hh c hc k ha).1, (hh c hc k ha).2, c, hc, ha⟩)
    {} nofun).1

/-- a history meeting the hypotheses, across an epoch change, with an error in between: the
    second call is served from the cache, the third (next epoch) fails and caches nothing, the
    fourth obtains the new epoch's key -/
def exId : KeyId := ⟨123, 1, 2, "10.0.0.1"⟩
def exK1 : HostASKey := ⟨exId, ⟨0, 99⟩, [1]⟩
def exK2 : HostASKey := ⟨exId, ⟨100, 199⟩, [2]⟩
def exCalls : List Call :=
  [⟨⟨exId, 10⟩, 0, some exK1⟩, ⟨⟨exId, 50⟩, 0, none⟩, ⟨⟨exId, 120⟩, 0, none⟩, ⟨⟨exId, 130⟩, 0, some exK2⟩]

example : (∀ c ∈ exCalls, Honest c) ∧
    ((runCalls {} {} exCalls).2.map fun r => (r.out.map (·.key), r.asked)) =
      [(some [1], true), (some [1], false), (none, true), (some [2], true)] := by
  refine ⟨?_, by decide +kernel⟩
  intro c hc k hk
  simp only [exCalls, List.mem_cons, List.not_mem_nil, or_false] at hc
  rcases hc with rfl | rfl | rfl | rfl <;> simp at hk <;> subst hk <;> decide

/-- **The cache is transparent for an epoch-determined daemon.** Let the daemon be any function
    `D` of (identity, validity instant) that is honest and whose keys are determined by the
    epoch (a key issued for one instant is the answer for every instant of its epoch). Then in
    every history every key a call returns is `D`'s answer for that call's own identity and
    instant — cached or not. (This is the assumption under which Model/ScionSrv treats the key
    as a function of the packet alone.) -/
theorem C13_fetcher_transparent (cfg : Cfg) (hm : cfg.mock = false) (D : KeyId → Int → Option HostASKey)
    (hH : ∀ id t k, D id t = some k → k.id = id ∧ k.epoch.contains t = true)
    (hE : ∀ id t k t', D id t = some k → k.epoch.contains t' = true → D id t' = some k)
    (cs : List Call) (hans : ∀ c ∈ cs, c.ans = D c.m.id c.m.validity) :
    ∀ f : Fetcher, (∀ e ∈ f.haks, ∃ t, D e.2.id t = some e.2) →
      ∀ p ∈ cs.zip (runCalls cfg f cs).2, ∀ k, p.2.out = some k → D p.1.m.id p.1.m.validity = some k :=
  fun f hf => (C13_fetch_history_invariant cfg hm (fun k => ∃ t, D k.id t = some k)
    (fun c k => D c.m.id c.m.validity = some k) cs
    (fun _ _ _ ⟨_, ht⟩ hid hv => hid ▸ hE _ _ _ _ ht hv)
    (fun c hc k ha =>
      have hD : D c.m.id c.m.validity = some k := hans c hc ▸ ha
      ⟨⟨c.m.validity, (hH _ _ _ hD).1 ▸ hD⟩, hD⟩)
    f hf).1

/-- such daemons exist: keys rotate every 100 ns, key = the epoch number -/
def exDaemon (id : KeyId) (t : Int) : Option HostASKey :=
  some ⟨id, ⟨t / 100 * 100, t / 100 * 100 + 99⟩, [(t / 100).toNat]⟩

example : (∀ id t k, exDaemon id t = some k → k.id = id ∧ k.epoch.contains t = true) ∧
    (∀ id t k t', exDaemon id t = some k → k.epoch.contains t' = true → exDaemon id t' = some k) := by
  constructor
  · rintro id t _ ⟨⟩
    simp only [Epoch.contains, Bool.and_eq_true, decide_eq_true_eq, true_and]
    omega
  · rintro id t _ t' ⟨⟩ hc
    simp only [Epoch.contains, Bool.and_eq_true, decide_eq_true_eq] at hc
    have : t' / 100 = t / 100 := by omega
    simp [exDaemon, this]

/-- **What the Fetcher does *not* check** (the real code guarantees no more than
    `C13_fetch_step_exact`): a connector that keeps answering with the key it handed out first
    — e.g. a layer that remembers level-2 keys by identity and ignores the validity instant —
    makes the Fetcher use the expired key for good: at instant 150, after the epoch [0, 99] has
    ended, the Fetcher notices that its cached key is expired, asks again, and stores and
    returns the same expired key (and so on at every later call); likewise a key of another
    remote AS is returned for the asked one and stored under its own AS. With the daemon's own
    connector (pinned) the answer is the daemon's for the asked instant. -/
theorem C13_fetch_does_not_check_fetched_key :
    let stale1 : List Call := [⟨⟨exId, 10⟩, 0, some exK1⟩, ⟨⟨exId, 150⟩, 0, some exK1⟩, ⟨⟨exId, 160⟩, 0, some exK1⟩]
    ((runCalls {} {} stale1).2.map fun r => (r.out.map (·.epoch.contains 150), r.asked)) =
      [(some false, true), (some false, true), (some false, true)] ∧
    (let other : HostASKey := ⟨⟨123, 1, 7, "10.0.0.1"⟩, ⟨0, 999⟩, [9]⟩
     let r := ({} : Fetcher).fetchHostAS {} ⟨exId, 10⟩ 0 (some other)
     r.out = some other ∧ r.fetcher.lookup 7 = some other ∧ r.fetcher.lookup 2 = none) := by
  decide +kernel

/-- **The listener's key at receive time.** Real keys, honest connector: whenever the listener
    gets a key for an authenticated request received at `rxt`, it is the derivation, for the
    sender's host, of a level-2 key for (time-service protocol, the addressed AS, the sender's AS,
    the addressed host) whose epoch contains `rxt` — taken from the cache (where it sat under the
    sender's AS) or just issued by the connector for exactly this request. A fetch error yields
    `noKey` (then the request is processed unauthenticated, `C13_no_key_served_unauthenticated`),
    never a stale key. -/
theorem C13_listener_key_valid (cfg : Cfg) (hm : cfg.mock = false)
    (derive : HostASKey → String → Option Bytes) (f : Fetcher) (r : ReqInfo) (now : Int)
    (ans : Option HostASKey) (hh : Honest ⟨listenerMeta r, now, ans⟩) (b : Bytes)
    (h : (listenerKey cfg derive f r now ans).2 = .key b) :
    ∃ k : HostASKey, k.id = ⟨protocolTS, r.dstIA, r.srcIA, r.dstHost⟩ ∧ k.epoch.contains r.rxt = true ∧
      derive k r.srcHost = some b ∧ (f.lookup r.srcIA = some k ∨ ans = some k) := by
  unfold listenerKey at h
  cases hout : (f.fetchHostAS cfg (listenerMeta r) now ans).out with
  | none => simp [hout] at h
  | some k =>
    cases hd : derive k r.srcHost with
    | none => simp [hout, deriveHostHost, hd] at h
    | some b' =>
      simp [hout, deriveHostHost, hd, hm] at h
      subst h
      rcases C13_fetch_step_exact cfg hm f (listenerMeta r) now ans with
        ⟨k', hl, hid, hc, ho, _, _⟩ | ⟨_, _, ⟨ho, _, _⟩ | ⟨k', _, hk', ho, _⟩⟩ <;>
      rw [ho] at hout <;> cases hout
      · exact ⟨k, hid, hc, hd, .inl hl⟩
      · exact ⟨k, (hh k hk').1, (hh k hk').2, hd, .inr hk'⟩

example : (listenerKey {} (fun k h => some (k.key ++ [h.length])) {} ⟨2, 1, "10.0.0.9", "10.0.0.1", 10⟩ 0 (some exK1)).2
    = .key [1, 8] := by decide +kernel

/-- **The client's key is the daemon's answer, every time**: `FetchHostHostKey` keeps no state —
    with real keys its result is the connector's answer to (identity, transmit time) of this very
    call (an error without a connector). There is nothing that could outlive an epoch. -/
theorem C13_client_key_uncached (cfg : Cfg) (hm : cfg.mock = false) (id : HHId) (now : Int)
    (ans : Option HostHostKey) :
    fetchHostHost cfg id now ans = (match cfg.dc with | .nil => (none, false) | .daemon => (ans, true)) := by
  unfold fetchHostHost
  rw [hm]
  rfl

/-- **Mock keys** (`USE_MOCK_KEYS`): the daemon is never asked; a call returns the cached key
    (same identity, epoch containing the instant) or a fresh zero key of the asked identity with
    epoch now ∓ 6 h, stored under the asked remote AS. -/
theorem C13_mock_keys (cfg : Cfg) (hm : cfg.mock = true) (f : Fetcher) (m : HostASMeta) (now : Int)
    (ans : Option HostASKey) :
    let r := f.fetchHostAS cfg m now ans
    r.asked = false ∧ ∃ k, r.out = some k ∧ k.id = m.id ∧
      ((f.lookup m.id.dstIA = some k ∧ k.epoch.contains m.validity = true ∧ r.fetcher = f) ∨
       (k = ⟨m.id, ⟨now - mockHalfValidityNs, now + mockHalfValidityNs⟩, List.replicate 16 0⟩ ∧
        r.fetcher = f.insert m.id.dstIA k)) := by
  intro r
  cases hs : stale (f.lookup m.id.dstIA) m with
  | false =>
    obtain ⟨k, hk, hid, hc, hr⟩ := fetchHostAS_hit cfg now ans hs
    rw [show r = _ from hr]; exact ⟨rfl, k, rfl, hid, .inl ⟨hk, hc, rfl⟩⟩
  | true =>
    simp only [r, Fetcher.fetchHostAS, hs, hm, Bool.not_true, Bool.false_eq_true, if_false, if_true]
    exact ⟨trivial, _, rfl, rfl, .inr ⟨rfl, rfl⟩⟩

end ScionTime.C13Keys
