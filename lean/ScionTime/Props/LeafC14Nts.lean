/-
  Kernel-checked ties (C14 / C10 / C08): the extension-field decoders of net/nts/nts.go —
  `(*Authenticator).unpack`, `(*UniqueIdentifier).unpack`, `(*Cookie).unpack` — as regenerated from
  /repo's Go source on every run (Gen/LeafNts.lean; translated by harness/extract/leaf8.go:
  embedded structs, `make([]byte, n)` with an unsigned run-time length, `n := copy(dst, buf[pos:])`
  into a buffer made in the function, `binary.BigEndian.Uint16(buf[pos:])`) against the suffix-based
  models of Model/Nts.lean (`unpackAuth body`, `copyN (valueLen l) body` with `body = buf[pos:]`).

  PROVED for every buffer shorter than 2^62 bytes and every position inside it:
    * `C10_leaf_Authenticator_unpack`: the regenerated decoder copies exactly the model's nonce and
      ciphertext (zero-padded when the buffer ends early, the nonce padding not skipped — as the
      code does), and panics exactly when the model does: fewer than 4 bytes after `pos`;
    * `C10_leaf_UniqueIdentifier_unpack`, `C10_leaf_Cookie_unpack`: the value is the model's
      `copyN (valueLen Length) body` — `Length - 4` in uint16 arithmetic — and they never panic;
    * a field of another type is refused with `errUnexpectedExtHdrType`, nothing written.
  A zero-copy rewrite (sub-slices of the packet buffer instead of copies, seeded C08-16) changes the
  regenerated definitions and these ties no longer check.
-/
import ScionTime.Gen.LeafNts
import ScionTime.Model.Nts
import ScionTime.Proofs.GoPrelude
import ScionTime.Proofs.LeafBytes
import ScionTime.Proofs.LeafNts
import ScionTime.Props.LeafC14CookiesDec
namespace ScionTime.LeafTieC14Nts
open ScionTime ScionTime.Gen.Leaf ScionTime.GoLemmas ScionTime.Nts ScionTime.LeafBytes ScionTime.LeafNts
open ScionTime.LeafTieC14CookiesDec (bytesN length_bytesN beU16At_spec drop_cons4)
open ScionTime.GoSlice (ofNat_toInt)

theorem make_spec (v : UInt16) : Go.makeBytesN? v.toUInt64.toInt64 = some (List.replicate v.toNat 0) := by
  rw [Go.makeBytesN?, widen16, if_pos (Int.natCast_nonneg _)]
  rfl

/-- `make([]byte, m)` followed by `copy(dst, buf[q:])` is the model's `copyN m (buf[q:])` -/
theorem copyTail_spec (m : Nat) (buf : List UInt8) (q : Nat) (hL : buf.length < 4611686018427387904)
    (hq : q ≤ buf.length) :
    ∃ X, Go.copyTail? (List.replicate m 0) buf (Int64.ofNat q) = some (X, Int64.ofNat (min m (buf.length - q))) ∧
      bytesN X = copyN m ((bytesN buf).drop q) := by
  unfold Go.copyTail?
  rw [ofNat_toInt q (by omega), Int.toNat_natCast, if_pos ⟨Int.natCast_nonneg q, Int.ofNat_le.2 hq⟩]
  simp only [List.length_replicate, List.length_drop]
  refine ⟨_, rfl, ?_⟩
  have e : (buf.drop q).take (min m (buf.length - q)) = (buf.drop q).take m := by
    rw [List.take_eq_take_iff, List.length_drop, Nat.min_assoc, Nat.min_self]
  rw [e, List.drop_replicate, show m - min m (buf.length - q) = m - (buf.length - q) by omega]
  unfold copyN zeros bytesN
  rw [List.map_append, List.map_take, List.map_drop, List.map_replicate, List.length_drop, List.length_map]
  rfl

theorem k1028 : (1028 : UInt16).toNat = extAuthenticator := rfl
theorem k260 : (260 : UInt16).toNat = extUniqueIdentifier := rfl
theorem k516 : (516 : UInt16).toNat = extCookie := rfl

theorem beU16At_short (b : List UInt8) (q : Nat) (off : Int64) (hoff : off.toInt = q) (h : b.length < q + 2) :
    Go.beU16At? b off = none := by
  unfold Go.beU16At?; rw [if_neg (by omega)]

/-- the model's `unpackAuth` on the suffix at `p`, in terms of positions in the whole buffer -/
theorem unpackAuth_at (B : Bytes) (p : Nat) (h : p + 4 ≤ B.length) :
    unpackAuth (B.drop p) =
      .ok (copyN (B.getD p 0 * 256 + B.getD (p + 1) 0) (B.drop (p + 4)),
        copyN (B.getD (p + 2) 0 * 256 + B.getD (p + 3) 0)
          (B.drop (p + 4 + min (B.getD p 0 * 256 + B.getD (p + 1) 0) (B.length - (p + 4))))) := by
  rw [drop_cons4 B p h]
  show Res.ok (copyN _ _, copyN _ ((B.drop (p + 4)).drop (min _ (B.drop (p + 4)).length))) = _
  rw [List.drop_drop, List.length_drop]
  rfl

theorem unpackAuth_short (body : Bytes) (h : body.length < 4) : unpackAuth body = .panic .index := by
  rcases body with _ | ⟨_, _ | ⟨_, _ | ⟨_, _ | ⟨_, _⟩⟩⟩⟩ <;> first | rfl | (simp at h; omega)

/-- **`(*Authenticator).unpack(buf, pos)`** for a field of the authenticator type: the model's
    `unpackAuth` on `buf[pos:]`, byte for byte; a panic (`none`) exactly when the model panics. -/
theorem C10_leaf_Authenticator_unpack (a : S_Authenticator) (buf : List UInt8) (p : Nat)
    (hL : buf.length < 4611686018427387904) (hp : p ≤ buf.length) (ht : a.extHdr.Type' = 1028) :
    match unpackAuth ((bytesN buf).drop p) with
    | .ok (n, c) => ∃ N C, nts_Authenticator_unpack a buf (Int64.ofNat p) = some ({ a with Nonce := N, CipherText := C }, false) ∧
        bytesN N = n ∧ bytesN C = c
    | .panic _ => nts_Authenticator_unpack a buf (Int64.ofNat p) = none
    | _ => False := by
  unfold nts_Authenticator_unpack
  simp only [ht, bne_self_eq_false, Bool.false_eq_true, if_false]
  rw [show Int64.ofNat p + 2 = Int64.ofNat (p + 2) from (Int64.ofNat_add p 2).symm,
    show Int64.ofNat p + 4 = Int64.ofNat (p + 4) from (Int64.ofNat_add p 4).symm]
  by_cases h4 : p + 4 ≤ buf.length
  · obtain ⟨nl, hnl, hnln⟩ := beU16At_spec buf p _ (ofNat_toInt p (by omega)) (by omega)
    obtain ⟨cl, hcl, hcln⟩ := beU16At_spec buf (p + 2) _ (ofNat_toInt (p + 2) (by omega)) (by omega)
    obtain ⟨N, hN, hNb⟩ := copyTail_spec nl.toNat buf (p + 4) hL h4
    generalize hn : min nl.toNat (buf.length - (p + 4)) = n at hN
    have hnle : n ≤ buf.length - (p + 4) := hn ▸ Nat.min_le_right _ _
    obtain ⟨C, hC, hCb⟩ := copyTail_spec cl.toNat buf (p + 4 + n) hL (by omega)
    have hB : ∀ k, (bytesN buf).getD k 0 = (buf.getD k 0).toNat := getD_bytes buf
    rw [unpackAuth_at _ p (length_bytesN buf ▸ h4), length_bytesN, hB, hB, hB, hB, ← hnln, ← hcln, hn, ← hNb, ← hCb]
    simp only [hnl, hcl, make_spec, hN, ← Int64.ofNat_add (p + 4) n, hC, Option.bind_some]
    exact ⟨N, C, rfl, rfl, rfl⟩
  · -- fewer than four bytes after pos: the model panics (index), the code panics (slice / index)
    rw [unpackAuth_short _ (by rw [List.length_drop, length_bytesN]; omega)]
    by_cases h2 : p + 2 ≤ buf.length
    · obtain ⟨nl, hnl, _⟩ := beU16At_spec buf p _ (ofNat_toInt p (by omega)) h2
      simp only [hnl, Option.bind_some, beU16At_short buf (p + 2) _ (ofNat_toInt (p + 2) (by omega)) (by omega),
        Option.bind_none]
    · simp only [beU16At_short buf p _ (ofNat_toInt p (by omega)) (by omega), Option.bind_none]

theorem C10_leaf_Authenticator_unpack_type (a : S_Authenticator) (buf : List UInt8) (pos : Int64)
    (ht : a.extHdr.Type' ≠ 1028) : nts_Authenticator_unpack a buf pos = some (a, true) := by
  unfold nts_Authenticator_unpack
  have : (a.extHdr.Type' != 1028) = true := by simpa using ht
  rw [if_pos this]

theorem sub4 (l : UInt16) : (l - 4).toNat = valueLen l.toNat := by
  rw [valueLen, UInt16.toNat_sub, show (4 : UInt16).toNat = 4 from rfl]
  omega

/-- **`(*UniqueIdentifier).unpack`**: `make([]byte, Length-4)` (uint16 arithmetic) filled from
    `buf[pos:]` — the model's `copyN (valueLen Length) body`; never panics for `pos ≤ len(buf)`. -/
theorem C10_leaf_UniqueIdentifier_unpack (u : S_UniqueIdentifier) (buf : List UInt8) (p : Nat)
    (hL : buf.length < 4611686018427387904) (hp : p ≤ buf.length) (ht : u.extHdr.Type' = 260) :
    ∃ X, nts_UniqueIdentifier_unpack u buf (Int64.ofNat p) = some ({ u with ID := X }, false) ∧
      bytesN X = copyN (valueLen u.extHdr.Length.toNat) ((bytesN buf).drop p) := by
  obtain ⟨X, hX, hXb⟩ := copyTail_spec (u.extHdr.Length - 4).toNat buf p hL hp
  unfold nts_UniqueIdentifier_unpack
  simp only [ht, bne_self_eq_false, Bool.false_eq_true, if_false, make_spec, hX, Option.bind_some]
  exact ⟨X, rfl, by rw [hXb, sub4]⟩

theorem C10_leaf_Cookie_unpack (c : S_Cookie) (buf : List UInt8) (p : Nat)
    (hL : buf.length < 4611686018427387904) (hp : p ≤ buf.length) (ht : c.extHdr.Type' = 516) :
    ∃ X, nts_Cookie_unpack c buf (Int64.ofNat p) = some ({ c with Cookie := X }, false) ∧
      bytesN X = copyN (valueLen c.extHdr.Length.toNat) ((bytesN buf).drop p) := by
  obtain ⟨X, hX, hXb⟩ := copyTail_spec (c.extHdr.Length - 4).toNat buf p hL hp
  unfold nts_Cookie_unpack
  simp only [ht, bne_self_eq_false, Bool.false_eq_true, if_false, make_spec, hX, Option.bind_some]
  exact ⟨X, rfl, by rw [hXb, sub4]⟩

/-- non-vacuity: nonce length 2, ciphertext length 3 with only two bytes left: the ciphertext is
    zero-padded, the nonce padding is not skipped -/
example : (nts_Authenticator_unpack
      { extHdr := { Type' := 1028, Length := 12 }, Nonce := [], CipherText := [], Key := [], PlainText := [], pos := 0 }
      [0, 2, 0, 3, 7, 8, 9, 10] 0).map (fun r => (r.1.Nonce, r.1.CipherText, r.2)) =
    some ([7, 8], [9, 10, 0], false) := by decide +kernel
example : (nts_Authenticator_unpack
      { extHdr := { Type' := 1028, Length := 12 }, Nonce := [], CipherText := [], Key := [], PlainText := [], pos := 0 }
      [0, 2, 0] 0).isNone = true := by decide +kernel

end ScionTime.LeafTieC14Nts
