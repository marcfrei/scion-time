/-
  Kernel-checked ties (C14): the CSPTP message codec of net/csptp/csptp.go — `EncodeMessage`,
  `DecodeMessage` — as regenerated from /repo's Go source on every run (Gen/LeafCsptp.lean) is the
  model of Model/CsptpCodec.lean, for every message (whose `Timestamp.Seconds` array has its six
  elements) and every byte slice (shorter than 2^62 bytes). A `[]byte` parameter the function
  writes to is handed back with the result: the caller sees exactly those bytes.
-/
import ScionTime.Gen.LeafCsptp
import ScionTime.Model.CsptpCodec
import ScionTime.Proofs.WireFields
import ScionTime.Proofs.LeafBytes
import ScionTime.Proofs.LeafSlice2
import ScionTime.Proofs.GoPrelude
import ScionTime.Proofs.C14Codec
namespace ScionTime.LeafTieC14Csptp
open ScionTime ScionTime.Gen.Leaf ScionTime.Wire ScionTime.LeafBytes ScionTime.Go ScionTime.GoLemmas

def bytesN (b : List UInt8) : List Nat := b.map UInt8.toNat

/-- view of a generated message as the model's (arrays as their big-endian values) -/
def mv (m : S_Message) : Csptp.Message :=
  { sdoIDMessageType := m.SdoIDMessageType.toNat, ptpVersion := m.PTPVersion.toNat, messageLength := m.MessageLength.toNat,
    domainNumber := m.DomainNumber.toNat, minorSdoID := m.MinorSdoID.toNat, flagField := m.FlagField.toNat,
    correctionField := m.CorrectionField.toInt, messageTypeSpecific := m.MessageTypeSpecific.toNat,
    clockID := m.SourcePortIdentity.ClockID.toNat, port := m.SourcePortIdentity.Port.toNat, sequenceID := m.SequenceID.toNat,
    controlField := m.ControlField.toNat, logMessageInterval := m.LogMessageInterval.toInt,
    timestamp := ⟨beVal (bytesN m.Timestamp.Seconds), m.Timestamp.Nanoseconds.toNat⟩ }

def decView : Option (S_Message × Bool) → Outcome Csptp.Message
  | none => .panic "index"
  | some (_, true) => .err "size"
  | some (m, false) => .ok (mv m)

theorem C14_leaf_DecodeMessage (msg : S_Message) (b : List UInt8) (hlen : b.length < 4611686018427387904) :
    decView (csptp_DecodeMessage msg b) = Csptp.decodeMessage (bytesN b) := by
  have c44 := len_lt b hlen 44 44 (by decide)
  have hbl : (bytesN b).length = b.length := List.length_map _
  rw [C14.msg_decode_eq, hbl]
  unfold csptp_DecodeMessage
  by_cases h44 : b.length < 44
  · rw [if_pos (decide_eq_true (c44.mpr h44)), if_pos h44]; rfl
  · rw [if_neg (mt (fun h => c44.mp (of_decide_eq_true h)) h44), if_neg h44,
      fieldsOf_at0 _ _ (by rw [hbl]; exact Nat.le_of_not_lt h44)]
    simp only [getK_below b 44 (by omega), Nat.reduceLT, Option.bind_some]
    simp only [decView, mv, bytesN, be16, be32, be64, u8_i8, u_i64, Csptp.msgLayout, fieldsAt, range1, range2, range4, range6, range8,
      List.map_cons, List.map_nil, Nat.reduceAdd, Nat.add_zero, Nat.zero_add, getD_bytes, Csptp.msgOfFields, beVal_single]

def encView : Option (List UInt8) → Outcome (List Nat)
  | none => .panic "index"
  | some l => .ok (bytesN l)

/-- the 44 bytes `EncodeMessage` writes, field by field (the `show` in the proof below checks that they are
    what the generated definition writes) -/
def encBytes (msg : S_Message) : List UInt8 :=
  List.flatten [[msg.SdoIDMessageType, msg.PTPVersion], b16 msg.MessageLength, [msg.DomainNumber, msg.MinorSdoID], b16 msg.FlagField,
    b64 msg.CorrectionField.toUInt64, b32 msg.MessageTypeSpecific, b64 msg.SourcePortIdentity.ClockID,
    b16 msg.SourcePortIdentity.Port, b16 msg.SequenceID, [msg.ControlField, msg.LogMessageInterval.toInt64.toUInt64.toUInt8],
    arrN 6 msg.Timestamp.Seconds, b32 msg.Timestamp.Nanoseconds]

theorem encBytes_eq (msg : S_Message) (h6 : msg.Timestamp.Seconds.length = 6) :
    bytesN (encBytes msg) = Csptp.messageBytes (mv msg) := by
  simp only [encBytes, bytesN, List.flatten_cons, List.flatten_nil, List.cons_append, List.nil_append, List.map_append, b16_bytes, b32_bytes, b64_bytes, arrN_bytes 6 _ h6, List.map_cons, List.map_nil,
    Csptp.messageBytes, Csptp.msgLayout, Csptp.msgToFields, mv, encodeFields, i8_b, i64_u]
  simp only [beBytes, u8_b, toU8_b, List.cons_append, List.nil_append, List.append_nil]

/-- **EncodeMessage**: index panic (the bounds hint `_ = b[43]`) on a buffer shorter than 44 bytes;
    otherwise bytes 0..43 are the model's header bytes and the rest of the buffer is untouched -/
theorem C14_leaf_EncodeMessage (b : List UInt8) (msg : S_Message) (h6 : msg.Timestamp.Seconds.length = 6) :
    encView (csptp_EncodeMessage b msg) = Csptp.encodeMessage (bytesN b) (mv msg) := by
  have hl : (encBytes msg).length = 44 := rfl
  unfold csptp_EncodeMessage
  show encView ((Go.getK? b 43).bind fun _ => GoSlice.writeSeqL b 0 (encBytes msg)) = _
  rw [C14.msg_encode_eq, bytesN, List.length_map]
  by_cases hshort : b.length < 44
  · rw [getK_none b 43 (by omega), if_pos hshort]
    rfl
  · rw [getK_getD b 43 (by omega), Option.bind_some, GoSlice.writeSeqL_zero _ _ (by rw [hl]; omega), hl, ← encBytes_eq msg h6,
      if_neg hshort]
    simp only [encView, bytesN, List.map_append, List.map_drop]

/-! non-vacuity through the generated definitions: a message with distinct bytes in every field
    (negative correction field and log interval) encoded into a 46-byte buffer and decoded back; a
    43-byte buffer panics; a 43-byte input is refused with the size error -/

def exMsg : S_Message :=
  { SdoIDMessageType := 0x12, PTPVersion := 0x02, MessageLength := 0x0304, DomainNumber := 5, MinorSdoID := 6, FlagField := 0x0708,
    CorrectionField := -2, MessageTypeSpecific := 0x11121314, SourcePortIdentity := ⟨0x2122232425262728, 0x3132⟩,
    SequenceID := 0x4142, ControlField := 0x51, LogMessageInterval := -3, Timestamp := ⟨[1, 2, 3, 4, 5, 6], 0x61626364⟩ }
def zeroMsg : S_Message :=
  { SdoIDMessageType := 0, PTPVersion := 0, MessageLength := 0, DomainNumber := 0, MinorSdoID := 0, FlagField := 0,
    CorrectionField := 0, MessageTypeSpecific := 0, SourcePortIdentity := ⟨0, 0⟩,
    SequenceID := 0, ControlField := 0, LogMessageInterval := 0, Timestamp := ⟨[0, 0, 0, 0, 0, 0], 0⟩ }
example : ((csptp_EncodeMessage (List.replicate 46 9) exMsg).bind fun b => (csptp_DecodeMessage zeroMsg b).map fun r => (mv r.1, r.2, b.drop 44)) =
    some (mv exMsg, false, [9, 9]) := by decide +kernel
example : csptp_EncodeMessage (List.replicate 43 9) exMsg = none := by decide +kernel
example : (csptp_DecodeMessage zeroMsg (List.replicate 43 9)).map (·.2) = some true := by decide +kernel

end ScionTime.LeafTieC14Csptp
