/-
  Kernel-checked ties (C02): timemath.Sgn / Inv / Midpoint and — with slices as lists, `len`,
  bounds-checked indexing, `slices.Sort` — timemath.Median and
  timemath.FaultTolerantMidpoint themselves, as regenerated from /repo's Go source on every run
  (Gen/Leaf.lean), are the hand-written models of Model/Timemath.lean: the same result for every
  slice (of fewer than 2^62 elements), `none` = the panic on the empty slice; the generated
  definitions' bounds checks never fire.
-/
import ScionTime.Gen.Leaf
import ScionTime.Model.Timemath
import ScionTime.Proofs.LeafSlices
namespace ScionTime.LeafTieC02
open ScionTime ScionTime.Gen.Leaf ScionTime.GoLemmas ScionTime.LeafSlices

theorem C02_leaf_Midpoint (x y : Int64) : timemath_Midpoint x y = Timemath.midpoint x y := rfl

theorem C02_leaf_Inv (d : Int64) : timemath_Inv d = Timemath.inv d := by
  unfold timemath_Inv Timemath.inv
  simp only [beq_iff_eq]

theorem C02_leaf_Sgn (d : Int64) : (timemath_Sgn d).toInt = Timemath.sgn d := by
  unfold timemath_Sgn Timemath.sgn
  rw [apply_ite Int64.toInt, apply_ite Int64.toInt]
  simp only [decide_eq_true_eq]
  rfl

theorem C02_leaf_FaultTolerantMidpoint (ds : List Int64) (hl : ds.length < 4611686018427387904) :
    timemath_FaultTolerantMidpoint ds = (Timemath.ftm ds).map Prod.fst := by
  unfold timemath_FaultTolerantMidpoint Timemath.ftm
  simp only [len_beq_zero ds hl, sortI64_eq]
  cases he : ds.isEmpty
  · have hpos := List.length_pos_iff.mpr (List.isEmpty_eq_false_iff.mp he)
    have hn := len_toInt ds hl
    have h1 : (1 : Int64).toInt = 1 := by decide
    have h3 : (3 : Int64).toInt = 3 := by decide
    have hls := length_sort64 ds
    generalize Go.len ds = n at hn ⊢
    have hf : ((n - 1) / 3).toInt = ((ds.length - 1) / 3 : Nat) :=
      (toInt_div_nonneg (toInt_sub_eq hn h1 (by omega)) h3 (by omega) (by omega)).trans (by omega)
    have hg : (n - 1 - (n - 1) / 3).toInt = (ds.length - 1 - (ds.length - 1) / 3 : Nat) :=
      (toInt_sub_eq (toInt_sub_eq hn h1 (by omega)) hf (by omega)).trans (by omega)
    rw [idx_in _ _ _ hf (by omega), idx_in _ _ _ hg (by omega)]
    simp only [Bool.false_eq_true, if_false, Option.bind_some, Option.map_some, Timemath.ftmSorted, hls]
    rfl
  · rfl

theorem C02_leaf_Median (ds : List Int64) (hl : ds.length < 4611686018427387904) :
    timemath_Median ds = (Timemath.median ds).map Prod.fst := by
  unfold timemath_Median Timemath.median
  simp only [len_beq_zero ds hl, sortI64_eq]
  cases he : ds.isEmpty
  · have hpos := List.length_pos_iff.mpr (List.isEmpty_eq_false_iff.mp he)
    have hn := len_toInt ds hl
    have h0 : (0 : Int64).toInt = 0 := by decide
    have h1 : (1 : Int64).toInt = 1 := by decide
    have h2 : (2 : Int64).toInt = 2 := by decide
    have hls := length_sort64 ds
    generalize Go.len ds = n at hn ⊢
    have hi : (n / 2).toInt = (ds.length / 2 : Nat) :=
      (toInt_div_nonneg hn h2 (by omega) (by omega)).trans (by omega)
    have hmod : (n % 2).toInt = (ds.length % 2 : Nat) := by
      rw [Int64.toInt_mod, hn, h2, Int.tmod_eq_emod_of_nonneg (by omega)]
      omega
    by_cases hodd : ds.length % 2 = 0
    · have hc : (n % 2 != (0 : Int64)) = false := by
        rw [bne_eq_false_iff_eq, ← Int64.toInt_inj, hmod, h0, hodd]
        rfl
      have hi1 : (n / 2 - 1).toInt = (ds.length / 2 - 1 : Nat) :=
        (toInt_sub_eq hi h1 (by omega)).trans (by omega)
      rw [hc, idx_in _ _ _ hi1 (by omega), idx_in _ _ _ hi (by omega)]
      simp only [Bool.false_eq_true, if_false, Option.bind_some, Option.map_some,
        Timemath.medianSorted, hls, hodd]
      rfl
    · have hc : (n % 2 != (0 : Int64)) = true := by
        rw [bne_iff_ne, Ne, ← Int64.toInt_inj, hmod, h0]
        omega
      rw [hc, idx_in _ _ _ hi (by omega)]
      simp only [Bool.false_eq_true, if_false, if_true, Option.bind_some, Option.map_some,
        Timemath.medianSorted, hls]
      rw [if_pos hodd]
  · rfl

/-- non-vacuity and a concrete reading: four values with one wild outlier; the empty slice panics -/
example : timemath_FaultTolerantMidpoint [5, 1000000, -3, 9] = some 7 ∧
    timemath_Median [5, 1000000, -3, 9] = some 7 ∧
    timemath_Median [] = none ∧ timemath_FaultTolerantMidpoint [] = none := by decide

end ScionTime.LeafTieC02
