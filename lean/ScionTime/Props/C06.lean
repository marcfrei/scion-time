/-
  C06 — server replies in basic and interleaved mode, for every history.
  Model: ScionTime/Model/Server.lean (`handleRequest` = repaired code, `handleRequestOld` =
  code at the pinned commit, `updateTX`). Helper lemmas: ScionTime/Proofs/ServerReply.lean.

  Per-step theorems are stated for an arbitrary state satisfying the structural invariant
  `Inv0 P` of C07 (which every reachable state does: `C06_inv_run`), for both variants of
  `handleRequest` (`strict = true` repaired, `false` original) unless said otherwise.
  "Later" on NTP timestamps is the era-agnostic comparison `Later rx tx`:
  (tx − rx) mod 2^64 ∈ (0, 2^63).
-/
import ScionTime.Proofs.ServerReply
import ScionTime.Gen.Server
namespace ScionTime.Props.C06
open ScionTime.Time64 ScionTime.Server

theorem C06_pin_tssItemCap : Gen.Server.tssItemCap = (tssItemCap : Int) := by decide
theorem C06_pin_tssCap : Gen.Server.tssCap = (tssCap : Int) := by decide

section Step
variable {P : Entry → Prop}

/-- rx_echo_unique: the reply carries the server's receive timestamp of this request (the
    possibly bumped `*rxt`, never earlier than the packet's receive time, unchanged for an
    unknown client), and it differs from every receive timestamp kept for that client. -/
theorem C06_rx_echo_unique (strict : Bool) (cap icap : Nat) (hic2 : icap < 1000000000) (st : State)
    (inv : Inv0 P cap icap st) (id : Nat) (req : Req) (rxt now : Int) :
    (handleRequestG strict cap icap st id req rxt now).reply.rx =
        ofTime (handleRequestG strict cap icap st id req rxt now).rxt ∧
    rxt ≤ (handleRequestG strict cap icap st id req rxt now).rxt ∧
    (∀ it e, st.items.find id = some it → e ∈ it.buf →
        e.rx ≠ (handleRequestG strict cap icap st id req rxt now).reply.rx) ∧
    (st.items.find id = none → (handleRequestG strict cap icap st id req rxt now).rxt = rxt) := by
  obtain ⟨h1, _, h3⟩ := hr_outputs strict cap icap st id req rxt now
  rw [h1, h3, mkReply_rx]
  refine ⟨rfl, (uniq_mono _ _ rxt _).1, fun it e hf he => ?_, fun hf => ?_⟩
  · have := (inv.items id it hf).len_le
    rw [bufOf_some hf]
    exact uniq_spec it.buf rxt (txt0 strict rxt now) (by omega) e he
  · rw [bufOf_none hf]
    rfl

/-- interleaved_iff: the reply is interleaved exactly when the request's receive and transmit
    fields differ and an exchange of THIS client with receive timestamp = the request's
    origin is on record. -/
theorem C06_interleaved_iff (strict : Bool) (cap icap : Nat) (st : State) (id : Nat) (req : Req)
    (rxt now : Int) :
    (handleRequestG strict cap icap st id req rxt now).reply.inter = true ↔
      req.rx ≠ req.tx ∧ ∃ it e, st.items.find id = some it ∧ e ∈ it.buf ∧ e.rx = req.org := by
  rw [(hr_outputs strict cap icap st id req rxt now).2.2, mkReply_inter]
  have sp := served_spec (bufOf st id) req.org
  constructor
  · rintro ⟨h1, e, he⟩
    obtain ⟨it, hf, hm⟩ := mem_bufOf.1 (sp.1 e he).1
    exact ⟨h1, it, e, hf, hm, (sp.1 e he).2⟩
  · rintro ⟨h1, it, e, hf, he, hrx⟩
    refine ⟨h1, ?_⟩
    cases hs : (scan (bufOf st id) req.org).o.bind (fun o => (bufOf st id)[o]?) with
    | none => exact absurd hrx (sp.2 hs e (mem_bufOf.2 ⟨it, hf, he⟩))
    | some e' => exact ⟨e', rfl⟩

/-- Interleaved reply: origin = the request's receive timestamp; transmit timestamp = the
    transmit time recorded for the (unique) exchange of this client whose receive timestamp
    equals the request's origin; that exchange was written on behalf of the requester
    (no_cross_client) and satisfies whatever holds of all recorded exchanges (`P`; see
    `C06_recorded_tx_later`). -/
theorem C06_interleaved_shape (strict : Bool) (cap icap : Nat) (st : State) (inv : Inv0 P cap icap st)
    (id : Nat) (req : Req) (rxt now : Int)
    (h : (handleRequestG strict cap icap st id req rxt now).reply.inter = true) :
    (handleRequestG strict cap icap st id req rxt now).reply.org = req.rx ∧
    ∃ it e, st.items.find id = some it ∧ e ∈ it.buf ∧ e.rx = req.org ∧
      (handleRequestG strict cap icap st id req rxt now).reply.tx = e.tx ∧
      e.owner = id ∧ P e ∧ ∀ e' ∈ it.buf, e'.rx = req.org → e' = e := by
  rw [(hr_outputs strict cap icap st id req rxt now).2.2] at h ⊢
  cases hs : (scan (bufOf st id) req.org).o.bind (fun o => (bufOf st id)[o]?) with
  | none =>
    rw [hs, mkReply_inter] at h
    obtain ⟨_, e, he⟩ := h
    cases he
  | some e =>
    rw [hs] at h
    obtain ⟨a, b⟩ := mkReply_inter_shape req _ _ e h
    obtain ⟨hm, hrx⟩ := (served_spec (bufOf st id) req.org).1 e hs
    obtain ⟨it, hf, hm⟩ := mem_bufOf.1 hm
    have ok := inv.items id it hf
    refine ⟨a, it, e, hf, hm, hrx, b, ok.owner e hm, ok.good e hm, ?_⟩
    intro e' he' hrx'
    exact eq_of_rx_eq ok.distinct he' hm (by rw [hrx', hrx])

/-- basic_shape: a basic reply has origin = the request's transmit timestamp and transmit
    (and reference) timestamp = the encoding of the software transmit time `*txt`. -/
theorem C06_basic_shape (strict : Bool) (cap icap : Nat) (st : State) (id : Nat) (req : Req)
    (rxt now : Int) (h : (handleRequestG strict cap icap st id req rxt now).reply.inter = false) :
    (handleRequestG strict cap icap st id req rxt now).reply.org = req.tx ∧
    (handleRequestG strict cap icap st id req rxt now).reply.tx =
      ofTime (handleRequestG strict cap icap st id req rxt now).txt ∧
    (handleRequestG strict cap icap st id req rxt now).reply.ref =
      ofTime (handleRequestG strict cap icap st id req rxt now).txt := by
  obtain ⟨_, h2, h3⟩ := hr_outputs strict cap icap st id req rxt now
  rw [h3] at h ⊢
  rw [h2]
  exact ⟨(mkReply_basic_shape _ _ _ _ h).1, (mkReply_basic_shape _ _ _ _ h).2, mkReply_ref _ _ _ _⟩

/-- The software transmit time is later than the (possibly bumped) receive time: always in
    the repaired code; in the original code whenever the clock reading at handling time is
    later than the packet's receive time. It exceeds the receive time by at most
    max(now − rxt₀, 1 ns). -/
theorem C06_txt_later (strict : Bool) (cap icap : Nat) (st : State) (id : Nat) (req : Req)
    (rxt now : Int) (h : strict = true ∨ rxt < now) :
    (handleRequestG strict cap icap st id req rxt now).rxt <
      (handleRequestG strict cap icap st id req rxt now).txt ∧
    ((handleRequestG strict cap icap st id req rxt now).txt ≤ now ∨
     (handleRequestG strict cap icap st id req rxt now).txt ≤
      (handleRequestG strict cap icap st id req rxt now).rxt + 1) := by
  have h0 := txt0_spec strict rxt now
  obtain ⟨h1, h2, _⟩ := hr_outputs strict cap icap st id req rxt now
  rw [h1, h2]
  have hm := uniq_mono (bufOf st id) ((bufOf st id).length + 1) rxt (txt0 strict rxt now)
  refine ⟨hm.2.2.2.1 (h0.1 h), ?_⟩
  have := hm.1
  have := hm.2.2.2.2.2
  have := h0.2
  omega

/-- What is recorded for a reply: whatever the client keeps after `handleRequest` contains the
    pair (receive timestamp of the reply, encoding of the software transmit time). -/
theorem C06_recorded_pair (strict : Bool) (cap icap : Nat) (hcap : 1 ≤ cap) (st : State)
    (inv : Inv0 P cap icap st) (id : Nat) (req : Req) (rxt now : Int) (it' : Item)
    (hf : (handleRequestG strict cap icap st id req rxt now).st.items.find id = some it') :
    (⟨ofTime (handleRequestG strict cap icap st id req rxt now).rxt,
      ofTime (handleRequestG strict cap icap st id req rxt now).txt, id⟩ : Entry) ∈ it'.buf :=
  hr_recorded strict cap icap hcap st inv id req rxt now it' hf

/-- recorded_tx: `updateTXTimestamp` returns a transmit time later than the receive time
    (the reported one if it is later, else rxt + 1 ns). For the exchange of this client
    with that receive timestamp: if its recorded transmit time differs from the reported
    one, the reported one is recorded in its place; if not (no kernel timestamp could be
    read), the exchange is dropped from the record (and the client with it, if it was its
    only exchange). -/
theorem C06_recorded_tx (cap icap : Nat) (st : State) (inv : Inv0 P cap icap st) (id : Nat)
    (rxt txt1 : Int) (it : Item) (hit : st.items.find id = some it) (e : Entry) (he : e ∈ it.buf)
    (hrx : e.rx = ofTime rxt) :
    rxt < (updateTX st id rxt txt1).2 ∧
    ((updateTX st id rxt txt1).2 = txt1 ∨ (updateTX st id rxt txt1).2 = rxt + 1) ∧
    (e.tx ≠ ofTime (updateTX st id rxt txt1).2 →
      ∃ it', (updateTX st id rxt txt1).1.items.find id = some it' ∧
        { e with tx := ofTime (updateTX st id rxt txt1).2 } ∈ it'.buf ∧
        it'.buf.length = it.buf.length) ∧
    (e.tx = ofTime (updateTX st id rxt txt1).2 →
      ∀ it', (updateTX st id rxt txt1).1.items.find id = some it' →
        (∀ e' ∈ it'.buf, e'.rx ≠ ofTime rxt) ∧ it'.buf.length + 1 = it.buf.length) := by
  rw [utx_txt]
  have := utx_recorded cap icap st inv id rxt txt1 it hit e he hrx
  refine ⟨?_, ?_, this.1, this.2⟩
  · unfold utxTxt; split <;> omega
  · unfold utxTxt; split <;> omega

end Step

/-- 2^30 s in nanoseconds -/
def window : Int := 1073741824000000000

/-- the recorded transmit timestamp is later than the receive timestamp -/
def TxLater (e : Entry) : Prop := Later e.rx e.tx

/-- hypotheses on the environment: the clock reading at handling time and the reported
    kernel transmit time are less than 2^30 s (34 years) after the packet's receive time
    (they may be equal to or earlier than it). -/
def SaneOp : Op → Prop
  | .hr _ _ rxt now => now < rxt + window
  | .utx _ rxt txt1 => txt1 < rxt + window

theorem C06_inv_step (cap icap : Nat) (hcap : 1 ≤ cap) (hic : 1 ≤ icap) (hic2 : icap < 1000000000)
    (st : State) (inv : Inv0 TxLater cap icap st) (op : Op) (hs : SaneOp op) :
    Inv0 TxLater cap icap (stepOp cap icap st op) := by
  cases op with
  | hr id req rxt now =>
    apply inv0_handleRequestG true cap icap hcap hic hic2 st inv id req rxt now
    intro a b ha hab hb
    unfold SaneOp window at hs
    exact later_ofTime a b (hab rfl) (by omega)
  | utx id rxt txt1 =>
    apply inv0_updateTX cap icap st inv id rxt txt1
    intro e t _ hrx hlt ht
    unfold SaneOp window at hs
    unfold TxLater
    simp only
    rw [hrx]
    exact later_ofTime rxt t hlt (by omega)

/-- The structural invariant with "every recorded transmit timestamp is later than its
    receive timestamp" holds after every finite history of requests and updates (repaired
    code), for any mix of clients and any timestamps (equal, decreasing, colliding; clock
    readings earlier than receive times; lost transmit timestamps). -/
theorem C06_inv_run (cap icap : Nat) (hcap : 1 ≤ cap) (hic : 1 ≤ icap) (hic2 : icap < 1000000000)
    (ops : List Op) : (∀ op ∈ ops, SaneOp op) → ∀ st, Inv0 TxLater cap icap st →
      Inv0 TxLater cap icap (run cap icap st ops) := by
  induction ops with
  | nil => intro _ st h; exact h
  | cons op ops ih =>
    intro hs st h
    exact ih (fun o ho => hs o (List.mem_cons_of_mem _ ho)) _
      (C06_inv_step cap icap hcap hic hic2 st h op (hs op List.mem_cons_self))

theorem C06_inv_init (cap icap : Nat) : Inv0 TxLater cap icap init := inv0_init TxLater cap icap

/-- recorded_tx_later (repaired code): after every history, every recorded transmit
    timestamp is later than the receive timestamp it is paired with. -/
theorem C06_recorded_tx_later (ops : List Op) (hs : ∀ op ∈ ops, SaneOp op) (k : Nat) (it : Item)
    (e : Entry) (h : (run tssCap tssItemCap init ops).items.find k = some it) (he : e ∈ it.buf) :
    Later e.rx e.tx :=
  ((C06_inv_run tssCap tssItemCap (by decide) (by decide) (by decide) ops hs init
    (C06_inv_init _ _)).items k it h).good e he

/-- no_cross_client: after every history, every exchange kept under a client id was written
    on behalf of that client (ghost owner), and (`C06_interleaved_shape`) an interleaved reply
    is served from the requester's own item only. -/
theorem C06_no_cross_client (ops : List Op) (hs : ∀ op ∈ ops, SaneOp op) (k : Nat) (it : Item)
    (e : Entry) (h : (run tssCap tssItemCap init ops).items.find k = some it) (he : e ∈ it.buf) :
    e.owner = k :=
  ((C06_inv_run tssCap tssItemCap (by decide) (by decide) (by decide) ops hs init
    (C06_inv_init _ _)).items k it h).owner e he

/-- The reply contract for the request that follows any history (repaired code, real
    capacities): the reply echoes the server's receive timestamp, distinct from all kept for
    the client; it is interleaved iff the request's rx ≠ tx and an exchange of this client
    with rx = origin is on record, and then origin = req.rx and the transmit timestamp is
    that exchange's recorded transmit time, which is later than its receive timestamp and
    was recorded for this very client; otherwise origin = req.tx and the transmit timestamp
    encodes a software transmit time strictly later than the receive time (and, the clock
    reading being less than 2^30 s after the receive time, is `Later` than the reply's receive
    timestamp). -/
theorem C06_reply_contract (ops : List Op) (hs : ∀ op ∈ ops, SaneOp op) (id : Nat) (req : Req)
    (rxt now : Int) (hnow : now < rxt + window) :
    let st := run tssCap tssItemCap init ops
    let r := handleRequest tssCap tssItemCap st id req rxt now
    r.reply.rx = ofTime r.rxt ∧ rxt ≤ r.rxt ∧ r.rxt < r.txt ∧
    (∀ it e, st.items.find id = some it → e ∈ it.buf → e.rx ≠ r.reply.rx) ∧
    (r.reply.inter = true ↔
      req.rx ≠ req.tx ∧ ∃ it e, st.items.find id = some it ∧ e ∈ it.buf ∧ e.rx = req.org) ∧
    (r.reply.inter = true → r.reply.org = req.rx ∧
      ∃ it e, st.items.find id = some it ∧ e ∈ it.buf ∧ e.rx = req.org ∧ r.reply.tx = e.tx ∧
        e.owner = id ∧ Later e.rx e.tx) ∧
    (r.reply.inter = false → r.reply.org = req.tx ∧ r.reply.tx = ofTime r.txt ∧
      Later r.reply.rx r.reply.tx) := by
  intro st r
  have inv := C06_inv_run tssCap tssItemCap (by decide) (by decide) (by decide) ops hs init (C06_inv_init _ _)
  have h1 := C06_rx_echo_unique true tssCap tssItemCap (by decide) st inv id req rxt now
  have h2 := C06_interleaved_iff true tssCap tssItemCap st id req rxt now
  have h5 := C06_txt_later true tssCap tssItemCap st id req rxt now (Or.inl rfl)
  refine ⟨h1.1, h1.2.1, h5.1, h1.2.2.1, h2, ?_, ?_⟩
  · intro hi
    obtain ⟨a, it, e, b, c, d, f, g, hh, _⟩ :=
      C06_interleaved_shape true tssCap tssItemCap st inv id req rxt now hi
    exact ⟨a, it, e, b, c, d, f, g, hh⟩
  · intro hb
    have := C06_basic_shape true tssCap tssItemCap st id req rxt now hb
    refine ⟨this.1, this.2.1, ?_⟩
    show Later (handleRequestG true tssCap tssItemCap st id req rxt now).reply.rx
      (handleRequestG true tssCap tssItemCap st id req rxt now).reply.tx
    rw [this.2.1, h1.1]
    unfold window at hnow
    exact later_ofTime _ _ h5.1 (by have := h1.2.1; have := h5.2; omega)

/-! ### finding F9: the code as it was at the pinned commit

  With a clock reading not later than the packet's receive time and no collision, the
  original `handleRequest` recorded `tx ≤ rx`; an interleaved request handled before the
  transmit-timestamp update was served that transmit time. History: client 1, receive time
  1 000 000 000 ns, clock reading 999 999 000 ns; then a request whose origin is the first
  reply's receive timestamp. -/

def f9st : State :=
  (handleRequestOld tssCap tssItemCap init 1 ⟨⟨0, 0⟩, ⟨0, 0⟩, ⟨7, 7⟩⟩ 1000000000 999999000).st
def f9reply : Reply :=
  (handleRequestOld tssCap tssItemCap f9st 1 ⟨ofTime 1000000000, ⟨9, 9⟩, ⟨8, 8⟩⟩ 2000000000 2000000500).reply
def f9replyNew : Reply :=
  (handleRequest tssCap tssItemCap
    (handleRequest tssCap tssItemCap init 1 ⟨⟨0, 0⟩, ⟨0, 0⟩, ⟨7, 7⟩⟩ 1000000000 999999000).st
    1 ⟨ofTime 1000000000, ⟨9, 9⟩, ⟨8, 8⟩⟩ 2000000000 2000000500).reply

/-- The original code serves, in interleaved mode, a transmit timestamp that is not later
    than the receive timestamp it is paired with (it is earlier). -/
theorem C06_old_code_counterexample :
    f9reply.inter = true ∧ f9reply.org = ⟨9, 9⟩ ∧ ¬ Later (ofTime 1000000000) f9reply.tx ∧
      Later f9reply.tx (ofTime 1000000000) := by decide

/-- The repaired code on the same history serves rx + 1 ns. -/
theorem C06_f9_repaired :
    f9replyNew.inter = true ∧ f9replyNew.tx = ofTime 1000000001 ∧
      Later (ofTime 1000000000) f9replyNew.tx := by decide

/-- What holds of the original code (recorded_tx_later_partial): the software transmit time is
    later than the receive time under the hypothesis that the clock reading at handling
    time is later than the packet's receive time. -/
theorem C06_old_code_partial (cap icap : Nat) (st : State) (id : Nat) (req : Req) (rxt now : Int)
    (h : rxt < now) :
    (handleRequestOld cap icap st id req rxt now).rxt < (handleRequestOld cap icap st id req rxt now).txt :=
  (C06_txt_later false cap icap st id req rxt now (Or.inr h)).1

/-! Non-vacuity of `SaneOp`: the first request of the F9 history (clock reading earlier than the
    receive time) and an update whose reported transmit time equals the receive time satisfy it. -/
example : SaneOp (.hr 1 ⟨⟨0, 0⟩, ⟨0, 0⟩, ⟨7, 7⟩⟩ 1000000000 999999000) := by
  unfold SaneOp window; omega
example : SaneOp (.utx 1 1000000000 1000000000) := by unfold SaneOp window; omega

end ScionTime.Props.C06
