/-
  Kernel-checked ties (C12): the key provider of net/ntske/provider.go — `(*Key).IsValidAt`,
  `(*Provider).generateNext`, `(*Provider).Get`, `(*Provider).Current` — as regenerated from /repo's
  Go source on every run (Gen/Leaf.lean, Gen/LeafNtske.lean; translated by
  harness/extract/leaf7.go: Go maps, the delete-while-ranging idiom, byte slices, crypto/rand as a stream,
  `time.Now()` as one parameter per call site, struct literals with zero-valued fields, nested
  field assignment on locals, multiple results, `if` with an init statement, calls of methods that
  update their receiver and may panic) is the hand-written model of Model/Provider.lean: for every
  provider state, clock reading(s) and random stream.

  The model's state is a list of keys; the Go map is keyed by an `int` next to the key's own `ID`
  field. `WF` says the two agree (`p.keys[id].ID == id`), which `generateNext` establishes for the
  entry it writes and keeps for the others (`C12_leaf_generateNext_wf`).
-/
import ScionTime.Gen.LeafNtske
import ScionTime.Model.Provider
import ScionTime.Proofs.Provider
import ScionTime.Props.C12
import ScionTime.Proofs.GoPrelude
import ScionTime.Proofs.LeafRand
namespace ScionTime.LeafTieC12
open ScionTime ScionTime.Gen.Leaf ScionTime.GoLemmas

/-- view of a generated key (ID and validity window; the secret bytes are not in the model) -/
def key (k : S_Key) : Provider.Key := { id := k.ID.toInt, nb := k.Validity.NotBefore, na := k.Validity.NotAfter }

theorem C12_leaf_IsValidAt (k : S_Key) (t : Int) :
    ntske_Key_IsValidAt k t = Provider.Key.validAt (key k) t := by
  unfold ntske_Key_IsValidAt Provider.Key.validAt key Go.Time.before Go.Time.after
  by_cases h1 : t < k.Validity.NotBefore <;> by_cases h2 : k.Validity.NotAfter < t <;> simp [h1, h2]

/-- both verdicts occur: inside the window, before it, after it -/
example : ntske_Key_IsValidAt { ID := 1, Value := [], Validity := { NotBefore := 10, NotAfter := 20 } } 10 = true ∧
    ntske_Key_IsValidAt { ID := 1, Value := [], Validity := { NotBefore := 10, NotAfter := 20 } } 9 = false ∧
    ntske_Key_IsValidAt { ID := 1, Value := [], Validity := { NotBefore := 10, NotAfter := 20 } } 21 = false := by decide

/-- view of a generated provider as the model's state -/
def st (p : S_Provider) : Provider.State :=
  { keys := p.keys.entries.map (fun e => key e.2), currentId := p.currentID.toInt, generatedAt := p.generatedAt }

/-- every map entry is filed under its key's own ID -/
def WF (p : S_Provider) : Prop := ∀ e ∈ p.keys.entries, e.1 = e.2.ID

theorem zero_key : key { ID := 0, Value := [], Validity := { NotBefore := Go.Time.zero, NotAfter := Go.Time.zero } } =
    Provider.zeroKeyGo := rfl

theorem toInt_beq (a b : Int64) : (a.toInt == b.toInt) = (a == b) := by
  rw [Bool.eq_iff_iff, beq_iff_eq, beq_iff_eq, Int64.toInt_inj]

theorem find_view (l : List (Int64 × S_Key)) (hwf : ∀ e ∈ l, e.1 = e.2.ID) (id : Int64) :
    ((l.find? (fun e => e.1 == id)).map (·.2)).map key = Provider.find (l.map (fun e => key e.2)) id.toInt := by
  unfold Provider.find
  induction l with
  | nil => rfl
  | cons e l ih =>
    have he : ((key e.2).id == id.toInt) = (e.1 == id) := by
      rw [hwf e List.mem_cons_self]
      exact toInt_beq _ _
    rw [List.map_cons, List.find?_cons, List.find?_cons, he, ← ih fun e' h' => hwf e' (List.mem_cons_of_mem _ h')]
    cases e.1 == id <;> rfl

theorem get?_view (p : S_Provider) (hwf : WF p) (id : Int64) :
    (p.keys.get? id).map key = Provider.find (st p).keys id.toInt :=
  find_view _ hwf id

theorem getD_view (p : S_Provider) (hwf : WF p) (id : Int64) (z : S_Key) (hz : key z = Provider.zeroKeyGo) :
    key (p.keys.getD id z) = (Provider.find (st p).keys id.toInt).getD Provider.zeroKeyGo := by
  unfold Go.Map.getD
  rw [← get?_view p hwf]
  cases p.keys.get? id <;> simp [hz]

theorem wf_filter (keep : Int64 → S_Key → Bool) (m : Go.Map Int64 S_Key) (hwf : ∀ e ∈ m.entries, e.1 = e.2.ID) :
    ∀ e ∈ (Go.Map.filter keep m).entries, e.1 = e.2.ID :=
  fun e he => hwf e (List.mem_filter.mp he).1

/-- pruning: the delete-while-ranging loop is the model's `filter` -/
theorem filter_view (m : Go.Map Int64 S_Key) (t : Int) :
    (Go.Map.filter (fun _ k => !(!(ntske_Key_IsValidAt k t))) m).entries.map (fun e => key e.2) =
      (m.entries.map (fun e => key e.2)).filter (fun k => k.validAt t) := by
  unfold Go.Map.filter
  rw [List.filter_map]
  exact congrArg _ (List.filter_congr fun e _ => by simp only [Bool.not_not, C12_leaf_IsValidAt, Function.comp_apply])

/-- `delete(m, id)` on a map filed by key ID -/
theorem erase_view (m : Go.Map Int64 S_Key) (hwf : ∀ e ∈ m.entries, e.1 = e.2.ID) (id : Int64) :
    (m.erase id).entries.map (fun e => key e.2) = (m.entries.map (fun e => key e.2)).filter (fun k => !(k.id == id.toInt)) := by
  unfold Go.Map.erase Go.Map.filter
  rw [List.filter_map]
  exact congrArg _ (List.filter_congr fun e he => by
    rw [hwf e he]
    exact congrArg _ (toInt_beq _ _).symm)

theorem randRead_ok (rnd : List UInt8) (h : 32 ≤ rnd.length) :
    Go.randRead rnd (Go.makeBytes 32) = (rnd.take 32, rnd.drop 32, 32, false) :=
  if_pos h

theorem generateNext_eq (p : S_Provider) (rnd : List UInt8) (h32 : 32 ≤ rnd.length) (t : Int) :
    ntske_Provider_generateNext p rnd t =
      if p.currentID == 9223372036854775807 then none else
        some ({ keys := (Go.Map.filter (fun _ k => !(!(ntske_Key_IsValidAt k t))) p.keys).set (p.currentID + 1)
                  { ID := p.currentID + 1, Value := rnd.take 32,
                    Validity := { NotBefore := t, NotAfter := Go.Time.add t 259200000000000 } },
                currentID := p.currentID + 1, generatedAt := t }, rnd.drop 32) := by
  unfold ntske_Provider_generateNext
  simp only [randRead_ok rnd h32]
  rfl

/-- **generateNext** is the model's `generateNextGo`: same pruning, same overflow panic, same
    new id, window and map update; the new key's bytes are the next 32 of the random stream,
    which is handed back without them. Hypotheses: the map is filed by key ID; the reader
    delivers (crypto/rand always does). -/
theorem C12_leaf_generateNext (p : S_Provider) (hwf : WF p) (rnd : List UInt8) (h32 : 32 ≤ rnd.length) (t : Int) :
    (ntske_Provider_generateNext p rnd t).map (fun r => (st r.1, r.2)) =
      (Provider.generateNextGo Provider.std (st p) t).map (fun s => (s, rnd.drop 32)) := by
  rw [generateNext_eq p rnd h32 t]
  unfold Provider.generateNextGo
  refine LeafRand.ite_tie (Option.map _) (Option.map _)
    (by rw [beq_iff_eq, ← Int64.toInt_inj]; exact Iff.rfl) (fun _ => rfl) fun hne => ?_
  simp only [Option.map_some, st, Go.Map.set, List.map_cons, erase_view _ (wf_filter _ _ hwf), filter_view]
  simp only [key, LeafRand.i64_add_one _ hne]
  rfl

/-- `generateNext` keeps the map filed by key ID, and the new current key carries the next 32
    bytes of the random stream -/
theorem C12_leaf_generateNext_wf (p : S_Provider) (hwf : WF p) (rnd : List UInt8) (h32 : 32 ≤ rnd.length) (t : Int)
    (p' : S_Provider) (rnd' : List UInt8) (h : ntske_Provider_generateNext p rnd t = some (p', rnd')) :
    WF p' ∧ (p'.keys.get? p'.currentID).map (·.Value) = some (rnd.take 32) ∧ rnd' = rnd.drop 32 := by
  rw [generateNext_eq p rnd h32 t] at h
  split at h
  · cases h
  · obtain ⟨rfl, rfl⟩ := Prod.mk.inj (Option.some.inj h)
    refine ⟨?_, ?_, rfl⟩
    · intro e he
      rcases List.mem_cons.mp he with rfl | he
      · rfl
      · exact wf_filter _ _ (wf_filter _ _ hwf) e he
    · simp [Go.Map.get?, Go.Map.set]

/-- **Get** is the model's `getGo`: `(Key{}, false)` for an id without entry or with an expired
    one, `(key, true)` otherwise -/
theorem C12_leaf_Get (p : S_Provider) (hwf : WF p) (id : Int64) (t : Int) :
    (key (ntske_Provider_Get p id t).1, (ntske_Provider_Get p id t).2) = Provider.getGo (st p) id.toInt t := by
  unfold ntske_Provider_Get Provider.getGo Go.Map.get2
  rw [← get?_view p hwf]
  cases p.keys.get? id with
  | none => simp [zero_key]
  | some k => cases hv : (key k).validAt t <;> simp [zero_key, C12_leaf_IsValidAt, hv]

/-- **Current** is the model's `currentGo`: same rotation test on the first clock reading, same
    `generateNext` on the second, same key handed out; `none` = the overflow panic -/
theorem C12_leaf_Current (p : S_Provider) (hwf : WF p) (rnd : List UInt8) (h32 : 32 ≤ rnd.length) (t1 t2 : Int) :
    (ntske_Provider_Current p rnd t1 t2).map (fun r => (st r.1, key r.2.2)) =
      Provider.currentGo Provider.std (st p) t1 t2 := by
  unfold ntske_Provider_Current Provider.currentGo
  simp only [C12_leaf_IsValidAt, getD_view p hwf _ _ zero_key]
  have hcond : Go.Time.before (Go.Time.add p.generatedAt 86400000000000) t1 =
      decide ((st p).generatedAt + Provider.std.renewal < t1) := rfl
  rw [hcond, show (st p).currentId = p.currentID.toInt from rfl]
  split
  · have hgn := (C12_leaf_generateNext p hwf rnd h32 t2).symm
    cases hg : ntske_Provider_generateNext p rnd t2 with
    | none =>
      rw [hg] at hgn
      rw [Option.map_eq_none_iff.mp hgn]
      rfl
    | some r =>
      obtain ⟨hwf', -, -⟩ := C12_leaf_generateNext_wf p hwf rnd h32 t2 r.1 r.2 hg
      rw [hg] at hgn
      obtain ⟨s', hs', hr⟩ := Option.map_eq_some_iff.mp hgn
      obtain rfl : s' = st r.1 := (Prod.mk.inj hr).1
      rw [hs']
      exact congrArg (fun k => some (st r.1, k)) (getD_view r.1 hwf' _ _ zero_key)
  · exact congrArg (fun k => some (st p, k)) (getD_view p hwf _ _ zero_key)

open Provider in
theorem generateNextGo_eq (P : Params) (s : State) (t : Int) (hids : ∀ k ∈ s.keys, k.id ≤ s.currentId)
    (hmax : s.currentId ≠ maxInt) : generateNextGo P s t = some (generateNext P s t) := by
  unfold generateNextGo generateNext
  simp only [hmax, if_false, Option.some.injEq, State.mk.injEq, and_true, List.cons.injEq, true_and]
  apply List.filter_eq_self.mpr
  intro k hk
  have := hids k (List.mem_filter.mp hk).1
  simp only [Bool.not_eq_eq_eq_not, Bool.not_true, beq_eq_false_iff_ne, ne_eq]
  omega

open Provider in
/-- On every state the provider reaches (`Reach`: any history of `Current`/`Get` calls with
    non-decreasing clock readings) whose id counter has not hit `math.MaxInt`, `Current` as the
    code has it does not panic and is the state machine's `current`. -/
theorem C12_leaf_current_is_model {P : Params} {t0 now : Int} {s : State} (hr : Reach P t0 now s)
    (hmax : s.currentId ≠ maxInt) (t1 t2 : Int) :
    currentGo P s t1 t2 = some (current P s t1 t2) := by
  have hi := reach_inv hr
  obtain ⟨k0, rest0, hk, hid, hnb⟩ := hi.head
  have hf := find_of_mem hi.sorted (k := k0) (by rw [hk]; exact List.mem_cons_self)
  rw [hid] at hf
  unfold currentGo current needsRenewal
  simp only [hf, Option.getD_some]
  split
  · rw [generateNextGo_eq P s t2 (inv_ids_le hi) hmax]
    simp [generateNext, find]
  · simp only [hf, Option.getD_some]

open Provider in
/-- … and `Get` as the code has it is the state machine's `get` (an `ok` flag instead of an option) -/
theorem C12_leaf_get_is_model (s : State) (id t : Int) :
    (if (getGo s id t).2 then some (getGo s id t).1 else none) = Provider.get s id t := by
  unfold getGo Provider.get
  cases find s.keys id with
  | none => rfl
  | some k => simp only; split <;> simp

open Provider in
/-- with /repo's constants the overflow panic is out of reach on every history shorter than
    2^62 ns (146 years; the id counter is then below 53 376) — so on those histories the code's
    `Current` is the state machine's, by `C12_leaf_current_is_model` -/
theorem C12_leaf_no_overflow {t0 now : Int} {s : State} (hr : Reach std t0 now s)
    (hspan : now - t0 < 4611686018427387904) : s.currentId ≠ maxInt := by
  have h := C12.C12_id_bound (P := std) (by decide) hr
  simp only [std] at h
  unfold maxInt
  omega

/-- the hypotheses are met and all branches occur: a provider holding key 7 (valid 10..20) and
    a stream of 40 bytes — `Get` finds it inside the window only; `Current` at 15 keeps it, at 25
    rotates to key 8 carrying the first 32 bytes of the stream; at `math.MaxInt` rotation panics -/
def exProv (id : Int64) : S_Provider :=
  { keys := (Go.Map.empty).set id { ID := id, Value := [], Validity := { NotBefore := 10, NotAfter := 20 } },
    currentID := id, generatedAt := 10 }

example : WF (exProv 7) := by
  intro e he; simp [exProv, Go.Map.set, Go.Map.erase, Go.Map.filter, Go.Map.empty] at he; subst he; rfl
example : (ntske_Provider_Get (exProv 7) 7 15).2 = true ∧ (ntske_Provider_Get (exProv 7) 7 21).2 = false ∧
    (ntske_Provider_Get (exProv 7) 8 15).2 = false := by decide
example : (ntske_Provider_Current (exProv 7) (List.replicate 40 5) 15 16).map (fun r => (r.1.currentID, r.2.2.ID)) = some (7, 7) := by
  decide
example : (ntske_Provider_Current (exProv 7) (List.replicate 40 5) 25 26).map
    (fun r => (r.1.currentID, r.2.2.ID, r.2.2.Value.length, r.2.1.length, r.2.2.Validity.NotAfter)) =
      some (8, 8, 32, 8, 26 + 259200000000000) := by decide
example : ntske_Provider_Current (exProv 9223372036854775807) (List.replicate 40 5) 25 26 = none := by decide

end ScionTime.LeafTieC12
