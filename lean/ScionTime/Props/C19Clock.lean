/-
  C19, clock side — "a clock step observed through the clock's epoch restarts the start-up
  sequence" needs the clock object to make every step visible through `Epoch()`.
  Models: Model/SysClock.lean (driver/clocks/sysclk_linux.go: Epoch, Step, Adjust, Sleep and the
  expiry goroutine), Model/PllClock.lean (the PLL of Model/Pll.lean on that clock object).

  * every `Step`, in every state (slew registered or not, goroutines pending or not), returns
    with the epoch advanced by exactly one — or panics at `MaxUint64` leaving it alone;
    a registered slew is cancelled first by restoring `afterFreq`, then the offset is set;
  * `Adjust`, the expiry goroutine and `Sleep` never change the epoch; `Adjust` asks for a
    positive whole number of seconds (the duration rounded down, at least 1 s), sets
    `frequency + offset/duration` and registers `afterFreq = frequency`; it panics exactly for
    negative durations;
  * the goroutine restores `afterFreq` iff its adjustment is still the registered one;
  * over any history of calls the epoch is the initial one plus the number of `Step`s that
    returned;
  * product: the PLL's own `Step` is seen by its next update as an epoch change (restart), and so
    is a `Step` by any other user of the shared clock object.
-/
import ScionTime.Props.C19
import ScionTime.Model.PllClock
import ScionTime.Proofs.C19Clock
import ScionTime.Gen.Adjustments
namespace ScionTime.Props.C19
open ScionTime ScionTime.F64

/-- `Step` in any state whose epoch is not `MaxUint64`: returns, epoch + 1, no slew registered
    afterwards; the calls are "restore `afterFreq` if a slew is registered", then `setOffset`. -/
theorem C19_clock_step (c : SysClock.State) (off : Int) (h : c.epoch ≠ SysClock.maxU64) :
    SysClock.step c off = .ok { c with adjustment := none, epoch := c.epoch + 1 }
      (SysClock.cancelActs c ++ [.setOffset off]) := by
  simp [SysClock.step, h]

/-- every Step increments the epoch by exactly one — with or without a registered slew, whatever
    goroutines are pending — and cancels a registered slew by restoring `afterFreq` first. -/
theorem C19_clock_step_epoch (c : SysClock.State) (off : Int) (h : c.epoch < SysClock.maxU64) :
    (SysClock.step c off).isOk = true ∧
    SysClock.epoch (SysClock.step c off).state = SysClock.epoch c + 1 ∧
    (SysClock.step c off).state.adjustment = none ∧
    (SysClock.step c off).state.pending = c.pending ∧
    (SysClock.step c off).acts =
      (match c.adjustment with
       | some a => [.setFrequency a.afterFreq, .setOffset off]
       | none => [.setOffset off]) := by
  rw [C19_clock_step c off (by omega)]
  refine ⟨rfl, rfl, rfl, rfl, ?_⟩
  cases hc : c.adjustment <;> simp [SysClock.Outcome.acts, SysClock.cancelActs, hc]

/-- At `MaxUint64` `Step` panics — after the calls were made and the slew was deregistered — and
    the epoch does not wrap. -/
theorem C19_clock_step_overflow (c : SysClock.State) (off : Int) (h : c.epoch = SysClock.maxU64) :
    SysClock.step c off = .panic .epochOverflow { c with adjustment := none }
      (SysClock.cancelActs c ++ [.setOffset off]) := by
  simp [SysClock.step, h]

/-- a slew is registered (never cleared by its expiry), the step still counts -/
example :
    SysClock.step { epoch := 1, adjustment := some ⟨0, 1000000000, .zero false⟩, nextId := 1, pending := [] } 0
      = .ok { epoch := 2, adjustment := none, nextId := 1, pending := [] }
          [.setFrequency (.zero false), .setOffset 0] := by decide
example : (SysClock.step { SysClock.init with epoch := SysClock.maxU64 } 7).isOk = false := by decide

theorem normDuration_spec {d : Int} (h : 0 ≤ d) :
    SysClock.second ≤ SysClock.normDuration d ∧ SysClock.normDuration d % SysClock.second = 0 ∧
    (d < SysClock.second → SysClock.normDuration d = SysClock.second) ∧
    (SysClock.second ≤ d → SysClock.normDuration d ≤ d ∧ d - SysClock.second < SysClock.normDuration d) := by
  unfold SysClock.normDuration SysClock.second
  rw [Int.tdiv_eq_ediv_of_nonneg h]
  simp only
  split <;> omega

/-- `Adjust` with a non-negative duration: returns; the epoch is unchanged; it asks for a positive
    whole number `d` of seconds (the duration rounded down to seconds, 1 s at least), sets
    `frequency + offset/d` and registers a fresh adjustment `(d, frequency)` whose goroutine it
    starts. -/
theorem C19_clock_adjust (c : SysClock.State) (off dur : Int) (f : F64) (h : 0 ≤ dur) :
    ∃ d, SysClock.second ≤ d ∧ d % SysClock.second = 0 ∧
      (dur < SysClock.second → d = SysClock.second) ∧
      (SysClock.second ≤ dur → d ≤ dur ∧ dur - SysClock.second < d) ∧
      SysClock.adjust c off dur f =
        .ok { c with adjustment := some ⟨c.nextId, d, f⟩, nextId := c.nextId + 1,
                     pending := c.pending ++ [⟨c.nextId, d, f⟩] }
          [.setFrequency (add f (div (durationSeconds off) (durationSeconds d))), .spawn c.nextId d] := by
  obtain ⟨h1, h2, h3, h4⟩ := normDuration_spec h
  refine ⟨SysClock.normDuration dur, h1, h2, h3, h4, ?_⟩
  have : ¬ dur < 0 := by omega
  simp [SysClock.adjust, this, SysClock.slewFrequency]

/-- `Adjust` never changes the epoch (returning or panicking), and panics exactly for negative
    durations. -/
theorem C19_clock_adjust_epoch (c : SysClock.State) (off dur : Int) (f : F64) :
    SysClock.epoch (SysClock.adjust c off dur f).state = SysClock.epoch c ∧
    ((SysClock.adjust c off dur f).isOk = false ↔ dur < 0) ∧
    (dur < 0 → SysClock.adjust c off dur f = .panic .invalidDuration { c with adjustment := none } []) := by
  unfold SysClock.adjust
  by_cases h : dur < 0 <;> simp [h, SysClock.Outcome.state, SysClock.Outcome.isOk, SysClock.epoch]

example : SysClock.normDuration 0 = 1000000000 ∧ SysClock.normDuration 999999999 = 1000000000 ∧
    SysClock.normDuration 1000000000 = 1000000000 ∧ SysClock.normDuration 2999999999 = 2000000000 ∧
    SysClock.normDuration 9223372036854775807 = 9223372036000000000 := by decide

/-- The goroutine's tail never changes the epoch or the registration; it restores `afterFreq`
    exactly when its adjustment is still the registered one. -/
theorem C19_clock_expire (c : SysClock.State) (id : Nat) (o : SysClock.Outcome)
    (h : SysClock.expire c id = some o) :
    o.isOk = true ∧ SysClock.epoch o.state = SysClock.epoch c ∧ o.state.adjustment = c.adjustment ∧
    ∃ a, c.pending.find? (fun a => a.id = id) = some a ∧
      o.acts = (match c.adjustment with
                | some cur => if cur.id = a.id then [.setFrequency a.afterFreq] else []
                | none => []) := by
  obtain ⟨a, hf, rfl⟩ := SysClock.expire_some h
  exact ⟨rfl, rfl, rfl, a, hf, rfl⟩

/-- `Sleep` never changes anything; it panics exactly for negative durations. -/
theorem C19_clock_sleep (c : SysClock.State) (d : Int) :
    (SysClock.sleep c d).state = c ∧ ((SysClock.sleep c d).isOk = false ↔ d < 0) ∧
    (0 ≤ d → SysClock.sleep c d = .ok c [.sleepLog d, .sleep d]) ∧
    (d < 0 → SysClock.Action.sleep d ∉ (SysClock.sleep c d).acts) := by
  unfold SysClock.sleep
  by_cases h : d < 0 <;> simp [h, SysClock.Outcome.state, SysClock.Outcome.isOk, SysClock.Outcome.acts] <;> omega

/-- identities of adjustments: allocated ids are below `nextId`, so a new one is fresh; it holds
    initially and every operation keeps it (`clockWF_init`, `clockWF_apply`), so in every reachable state -/
def ClockWF (c : SysClock.State) : Prop :=
  (∀ a ∈ c.pending, a.id < c.nextId) ∧ (∀ a, c.adjustment = some a → a.id < c.nextId)

theorem clockWF_init : ClockWF SysClock.init := by
  constructor <;> simp [SysClock.init]

theorem clockWF_apply (c : SysClock.State) (x : SysClock.Op) (h : ClockWF c) :
    ClockWF (SysClock.apply c x).state := by
  obtain ⟨hp, ha⟩ := h
  cases x with
  | step o =>
    simp only [SysClock.apply, SysClock.step]
    split <;> exact ⟨by simpa [SysClock.Outcome.state] using hp, by simp [SysClock.Outcome.state]⟩
  | adjust o d f =>
    simp only [SysClock.apply, SysClock.adjust]
    split
    · exact ⟨by simpa [SysClock.Outcome.state] using hp, by simp [SysClock.Outcome.state]⟩
    · refine ⟨fun a hm => ?_, fun a hm => ?_⟩
      · rcases List.mem_append.mp hm with hm | hm
        · exact Nat.lt_succ_of_lt (hp a hm)
        · rw [List.mem_singleton.mp hm]; exact Nat.lt_succ_self _
      · cases hm; exact Nat.lt_succ_self _
  | expire id =>
    simp only [SysClock.apply]
    cases he : SysClock.expire c id with
    | none => simpa [SysClock.Outcome.state] using ⟨hp, ha⟩
    | some o =>
      obtain ⟨a, _, rfl⟩ := SysClock.expire_some he
      exact ⟨fun b hb => hp b (List.mem_filter.mp hb).1, ha⟩
  | sleep d =>
    simp only [SysClock.apply, SysClock.sleep]
    split <;> simpa [SysClock.Outcome.state] using ⟨hp, ha⟩

/-- A slew that was superseded by a later `Adjust` expires silently: its goroutine finds another
    adjustment registered and does not touch the frequency. -/
theorem C19_clock_superseded_expiry_silent (c : SysClock.State) (o1 d1 o2 d2 : Int) (f1 f2 : F64)
    (hwf : ClockWF c) (h1 : 0 ≤ d1) (h2 : 0 ≤ d2) :
    let c1 := (SysClock.adjust c o1 d1 f1).state
    let c2 := (SysClock.adjust c1 o2 d2 f2).state
    ∃ c3, SysClock.expire c2 c.nextId = some (.ok c3 []) ∧
      ∃ c4, SysClock.expire c3 (c.nextId + 1) = some (.ok c4 [.setFrequency f2]) := by
  intro c1 c2
  obtain ⟨e1, _, _, _, _, he1⟩ := C19_clock_adjust c o1 d1 f1 h1
  have hc1 : c1 = { c with adjustment := some ⟨c.nextId, e1, f1⟩, nextId := c.nextId + 1,
                           pending := c.pending ++ [⟨c.nextId, e1, f1⟩] } := by
    simp only [c1, he1, SysClock.Outcome.state]
  obtain ⟨e2, _, _, _, _, he2⟩ := C19_clock_adjust c1 o2 d2 f2 h2
  have hc2 : c2 = { c with adjustment := some ⟨c.nextId + 1, e2, f2⟩, nextId := c.nextId + 2,
                           pending := c.pending ++ [⟨c.nextId, e1, f1⟩] ++ [⟨c.nextId + 1, e2, f2⟩] } := by
    have he2' := he2
    rw [hc1] at he2'
    simp only [c2, hc1, he2', SysClock.Outcome.state, List.append_assoc]
  have hneq : ∀ k, c.nextId ≤ k → ∀ a ∈ c.pending, ¬ a.id = k := by
    intro k hk a ha
    have := hwf.1 a ha
    omega
  have hnot : ∀ k, c.nextId ≤ k → c.pending.find? (fun a => decide (a.id = k)) = none :=
    fun k hk => List.find?_eq_none.mpr fun a ha => by simpa using hneq k hk a ha
  refine ⟨{ c with adjustment := some ⟨c.nextId + 1, e2, f2⟩, nextId := c.nextId + 2,
                   pending := c.pending ++ [⟨c.nextId + 1, e2, f2⟩] }, ?_, ?_⟩
  · rw [hc2]
    simp [SysClock.expire, List.find?_append, hnot c.nextId (Nat.le_refl _), List.filter_append]
    exact hneq c.nextId (Nat.le_refl _)
  · refine ⟨{ c with adjustment := some ⟨c.nextId + 1, e2, f2⟩, nextId := c.nextId + 2,
                     pending := c.pending }, ?_⟩
    simp [SysClock.expire, List.find?_append, hnot (c.nextId + 1) (by omega), List.filter_append]
    exact hneq (c.nextId + 1) (by omega)

theorem apply_epoch (c : SysClock.State) (x : SysClock.Op) :
    (SysClock.apply c x).state.epoch = c.epoch + SysClock.stepCount x (SysClock.apply c x) := by
  cases x with
  | step o =>
    by_cases h : c.epoch = SysClock.maxU64
    · simp [SysClock.apply, C19_clock_step_overflow c o h, SysClock.Outcome.state, SysClock.stepCount]
    · simp [SysClock.apply, C19_clock_step c o h, SysClock.Outcome.state, SysClock.stepCount]
  | adjust o d f =>
    have := (C19_clock_adjust_epoch c o d f).1
    simpa [SysClock.apply, SysClock.epoch, SysClock.stepCount] using this
  | expire id =>
    simp only [SysClock.apply]
    cases he : SysClock.expire c id with
    | none => simp [SysClock.Outcome.state, SysClock.stepCount]
    | some o =>
      have := (C19_clock_expire c id o he).2.1
      simpa [SysClock.epoch, SysClock.stepCount] using this
  | sleep d =>
    have := (C19_clock_sleep c d).1
    simp [SysClock.apply, this, SysClock.stepCount]

/-- Over every history of `Step`/`Adjust`/`Sleep` calls and goroutine expiries, interleaved in any
    way, from any state: the epoch is the initial one plus the number of `Step`s that returned
    (no other method writes it, none of them skips it). -/
theorem C19_clock_epoch_counts_steps (c : SysClock.State) (ops : List SysClock.Op) :
    SysClock.epoch (SysClock.final c ops) = SysClock.epoch c + SysClock.okSteps c ops := by
  induction ops generalizing c with
  | nil => simp [SysClock.final, SysClock.okSteps]
  | cons x xs ih =>
    simp only [SysClock.final, SysClock.okSteps]
    rw [ih]
    simp only [SysClock.epoch]
    rw [apply_epoch c x]
    omega

/-- a history with a step before any slew, a step while a slew is registered and its goroutine
    pending, a step after the goroutine ran (the registration is still there), two slews of which
    the first is superseded: three steps, epoch 3 -/
example :
    let ops : List SysClock.Op :=
      [.step 5, .adjust 1000 1500000000 (.zero false), .step 0, .expire 0,
       .adjust 0 0 (.zero false), .expire 1, .step (-3), .adjust 0 2000000000 (.zero false),
       .adjust 7 0 (.zero false), .expire 2, .expire 3]
    SysClock.okSteps SysClock.init ops = 3 ∧ (SysClock.final SysClock.init ops).epoch = 3 ∧
    (SysClock.final SysClock.init ops).pending = [] := by decide +kernel

/-- The PLL's own `Step`, made on the real clock object, is observed by its next update as an
    epoch change: whenever an update steps (clock epoch below `MaxUint64`), the clock cancels a
    registered slew, sets the offset, and its epoch moves to one more than the epoch the PLL has
    recorded; the NEXT update — whatever its inputs — therefore restarts the start-up sequence
    (mode 1, `t0 = now`, no clock call) and records the new epoch. -/
theorem C19_product_own_step_restarts (s : PllClock.State) (now off : Int) (w pw : F64)
    (p' : Pll.State) (pacts : List Pll.Action) (x : Int)
    (hoff : Pll.minI64 ≤ off ∧ off ≤ Pll.maxI64) (hov : s.clk.epoch < SysClock.maxU64)
    (h : Pll.step s.pll (SysClock.epoch s.clk) now off w pw = .ok p' pacts)
    (hx : Pll.Action.step x ∈ pacts) :
    ∃ c', PllClock.update s now off w pw =
        .ok { pll := p', clk := c' } (SysClock.cancelActs s.clk ++ [.setOffset x]) ∧
      SysClock.epoch c' = SysClock.epoch s.clk + 1 ∧ c'.adjustment = none ∧
      p'.epoch = SysClock.epoch s.clk ∧
      ∀ (now' off' : Int) (w' pw' : F64),
        PllClock.update { pll := p', clk := c' } now' off' w' pw' =
          .ok { pll := { p' with epoch := SysClock.epoch c', mode := 1, t0 := now', t := now' }, clk := c' } [] := by
  have hstep := C19_step_only_when hoff h hx
  have hacts := hstep.2.2.2.2.2.2.2
  have hep : p'.epoch = SysClock.epoch s.clk := (C19_mode_transitions hstep.1 h).1
  refine ⟨{ s.clk with adjustment := none, epoch := s.clk.epoch + 1 }, ?_, rfl, rfl, hep, ?_⟩
  · unfold PllClock.update
    rw [h, hacts]
    simp [PllClock.calls, PllClock.call, C19_clock_step s.clk x (by omega)]
  · exact PllClock.update_restarts p' _ (by rw [hep]; simp [SysClock.epoch])

/-- A `Step` by ANY user of the shared clock object between two updates of a PLL that was in
    sync with it (a history of calls and goroutine expiries containing at least one `Step` that
    returned) is observed by the next update as an epoch change: restart. -/
theorem C19_product_external_step_restarts (s : PllClock.State) (ops : List SysClock.Op)
    (hsync : s.pll.epoch = SysClock.epoch s.clk) (hstep : 1 ≤ SysClock.okSteps s.clk ops)
    (now off : Int) (w pw : F64) :
    PllClock.update { pll := s.pll, clk := SysClock.final s.clk ops } now off w pw =
      .ok { pll := { s.pll with epoch := SysClock.epoch (SysClock.final s.clk ops), mode := 1, t0 := now, t := now },
            clk := SysClock.final s.clk ops } [] :=
  PllClock.update_restarts s.pll _ (by rw [C19_clock_epoch_counts_steps, hsync]; omega) now off w pw

/-- demo: start-up on the real clock object — the PLL steps by 5 ms at the third update, the
    clock's epoch moves to 1, the fourth update restarts (mode 1) although its inputs would
    otherwise continue the sequence. -/
example :
    let w := ofInt 10
    let fzero : F64 := .zero false
    let s1 := (PllClock.update PllClock.init 100000000000 5000000 w fzero).next PllClock.init
    let s2 := (PllClock.update s1 102000000001 5000000 w fzero).next s1
    let s3 := (PllClock.update s2 108000000002 5000000 w fzero).next s2
    PllClock.update s1 102000000001 5000000 w fzero =
        .ok { pll := { s1.pll with mode := 2, t0 := 102000000001, t := 102000000001 },
              clk := { SysClock.init with epoch := 1 } } [.setOffset 5000000] ∧
    s3.pll.mode = 1 ∧ s3.pll.epoch = 1 ∧ s3.clk.epoch = 1 := by decide +kernel

/-! ### pins: the methods are what the model transcribes (re-read from driver/clocks/sysclk_linux.go
on every run by harness/extract/x_c19.go) -/

open ScionTime.Gen.Adjustments in
/-- `Step`: no `return`, exactly one write of `c.epoch` — the unconditional top-level `c.epoch++`
    after the single top-level `setOffset` call; statement for statement what `SysClock.step` is. -/
theorem C19_pin_sysclk_step :
    sysclk_step_stmts = SysClock.stepSource ∧ sysclk_step_returns = 0 ∧ sysclk_step_epochWrites = 1 ∧
    sysclk_step_setOffsetCalls = 1 ∧ sysclk_step_epochIncTopLevel = true ∧
    sysclk_step_setOffsetBeforeEpochInc = true := ⟨rfl, by decide⟩

open ScionTime.Gen.Adjustments in
/-- `Step` is the only function of the file that writes `c.epoch`; `c.adjustment` is written by
    `Step` (cleared) and `Adjust` (cleared, then set) and by nothing else — in particular not by the
    expiry goroutine. -/
theorem C19_pin_sysclk_writers :
    sysclk_epochWriters = ["Step"] ∧ sysclk_adjustmentWriters = ["Step", "Adjust", "Adjust"] := by decide

open ScionTime.Gen.Adjustments in
theorem C19_pin_sysclk_adjust :
    sysclk_adjust_stmts = SysClock.adjustSource ∧ sysclk_adjust_goroutine = SysClock.goroutineSource := ⟨rfl, rfl⟩

open ScionTime.Gen.Adjustments in
theorem C19_pin_sysclk_epoch_sleep :
    sysclk_epoch_stmts = SysClock.epochSource ∧ sysclk_sleep_stmts = SysClock.sleepSource := ⟨rfl, rfl⟩

end ScionTime.Props.C19
