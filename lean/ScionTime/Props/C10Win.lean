/-
  C10 (client clause over SCION) — the NTP header a client evaluates is the one the authenticator
  covered: which bytes of a received SCION/UDP packet go to `ntp.DecodePacket`, to
  `nts.DecodePacket` / `nts.ProcessResponse`, and as `Pld` into the packet authenticator's MAC
  (Model/ClientFlow.lean: `Rx`, `udpDecode`, `tailWindow`, `windows`).

  The UDP layer decoder hands out `Payload = data[8:min(Length, len(data))]` — a window counted from
  the START of the L4 data; `buf[len(buf)-Length:]` is a window counted from the END of the
  datagram. They are the same bytes iff the length field equals the L4 length; the layer check of
  the receive loop (`len(buf) < Length` refuses) admits every smaller value.

  * `C10Win_same_window`: for every buffer and every value of the length field the code (as
    repaired) gives NTS the very byte string it gives the NTP decoder, and the packet authenticator
    the UDP header followed by that string.
  * `C10Win_header_is_authenticated`: hence the 48 header bytes evaluated are the first 48 bytes of
    the associated data `b[:pos]` the NTS authenticator is verified over (C10_authPos, C10_resp_needs_uid).
  * `C10Win_wellformed_windows_agree`: with a consistent length field the tail window is the L4 data —
    the variants are indistinguishable from the code on well-formed traffic.
  * `C10Win_reframed`: for every re-framed packet the variants authenticate one byte string and
    evaluate another; decided instance `C10Win_tail_variants_refuted`.
-/
import ScionTime.Model.ClientFlow
import ScionTime.Gen.Client
import ScionTime.Props.C10
namespace ScionTime.Props.C10Win
open ScionTime.ClientFlow

/-- **Same window.** Whatever was received and whatever the UDP length field says: NTS verifies the
    byte string the NTP header is decoded from, and the packet authenticator covers the UDP
    header followed by exactly that byte string. -/
theorem C10Win_same_window (r : Rx) (w : Windows) (h : windows r = some w) :
    w.nts = w.ntp ∧ ∃ c, udpDecode r.l4 = some (c, w.ntp) ∧ w.spao = c ++ w.ntp := by
  obtain ⟨⟨c, p⟩, hd, rfl⟩ := Option.map_eq_some_iff.mp h
  exact ⟨rfl, c, hd, rfl⟩

/-- the NTP header of a byte string: what `ntp.DecodePacket` reads -/
def ntpHeader (b : Bytes) : Bytes := b.take 48

/-- **The header evaluated is authenticated.** When the NTS decoder accepts the NTS window, the
    authenticator sits at `pos ≥ 48` and the bytes `b[:pos]` it is verified over (C10_auth_sound /
    C10_resp_needs_uid) begin with the 48 bytes `ntp.DecodePacket` reads from the NTP window. -/
theorem C10Win_header_is_authenticated (r : Rx) (w : Windows) (h : windows r = some w)
    (d : ScionTime.Nts.Decoded) (hd : ScionTime.Nts.decodePacket w.nts = .ok d) :
    48 ≤ d.pos ∧ ntpHeader (w.nts.take d.pos) = ntpHeader w.ntp := by
  obtain ⟨heq, _⟩ := C10Win_same_window r w h
  obtain ⟨pre, x, y, z, v, body, hb, hp, h48, _, _, _⟩ := ScionTime.C10.C10_authPos w.nts d hd
  have h48' : 48 ≤ d.pos := by rw [hp]; exact h48
  refine ⟨h48', ?_⟩
  unfold ntpHeader
  rw [← heq, List.take_take]
  congr 1
  omega

theorem udpDecode_cons8 (a0 a1 a2 a3 a4 a5 a6 a7 k : Nat) (rest : Bytes) (hL : a4 * 256 + a5 = 8 + k) :
    udpLengthField (a0 :: a1 :: a2 :: a3 :: a4 :: a5 :: a6 :: a7 :: rest) = 8 + k ∧
    udpDecode (a0 :: a1 :: a2 :: a3 :: a4 :: a5 :: a6 :: a7 :: rest) =
      some ([a0, a1, a2, a3, a4, a5, a6, a7], rest.take k) := by
  have hl : udpLengthField (a0 :: a1 :: a2 :: a3 :: a4 :: a5 :: a6 :: a7 :: rest) = 8 + k := by
    simp [udpLengthField, hL]
  refine ⟨hl, ?_⟩
  unfold udpDecode
  simp only [hl]
  simp
  -- `List.take_succ_cons` peels one cons per successor: bring the eight header bytes into that form
  rw [show 8 + k = k + 1 + 1 + 1 + 1 + 1 + 1 + 1 + 1 by omega]
  simp [List.take_succ_cons]

theorem tailWindow_append (pre x : Bytes) : tailWindow (pre ++ x) x.length = x := by
  unfold tailWindow
  simp

/-- **Re-framed packets, for every header, forged part and authentic payload.** `h` an 8-byte UDP
    header whose length field says `8 + |p|`, `f` as long as `p`, any bytes in front: the layer check
    admits the packet; the code (as repaired) hands `f` to the NTP decoder AND to NTS, and `h ++ f` to
    the packet authenticator — an authenticator over `p` never vouches for `f`. The variant verifies
    NTS over `p` while the NTP header comes from `f`; the code before the `fix:` commit computed the
    packet authenticator's MAC over `h ++ p` while evaluating `f`. -/
theorem C10Win_reframed (pre f p : Bytes) (a0 a1 a2 a3 a4 a5 a6 a7 : Nat)
    (hlen : a4 * 256 + a5 = 8 + p.length) (hf : f.length = p.length) :
    let h := [a0, a1, a2, a3, a4, a5, a6, a7]
    lengthAdmitted (reframed pre h f p) = true ∧
    windows (reframed pre h f p) = some ⟨f, f, h ++ f⟩ ∧
    windowsTailNts (reframed pre h f p) = some ⟨f, p, h ++ p⟩ ∧
    windowsOld (reframed pre h f p) = some ⟨f, f, h ++ p⟩ := by
  intro h
  obtain ⟨hl, hd⟩ := udpDecode_cons8 a0 a1 a2 a3 a4 a5 a6 a7 p.length (f ++ (h ++ p)) hlen
  have hd' : udpDecode (reframed pre h f p).l4 = some (h, f) := by
    rw [List.take_left' hf] at hd
    exact hd
  have hl' : udpLengthField (reframed pre h f p).l4 = (h ++ p).length :=
    hl.trans (by simp [h]; omega)
  have ht : tailWindow (reframed pre h f p).buf (udpLengthField (reframed pre h f p).l4) = h ++ p := by
    rw [hl', show (reframed pre h f p).buf = (pre ++ h ++ f) ++ (h ++ p) by simp [reframed, Rx.buf]]
    exact tailWindow_append _ _
  refine ⟨?_, ?_, ?_, ?_⟩
  · unfold lengthAdmitted
    rw [hl']
    simp [reframed, Rx.buf]; omega
  · simp [windows, hd']
  · simp only [windowsTailNts, hd', ht, Option.map_some]
    simp [h]
  · simp [windowsOld, hd', ht]

/-- **Well-formed traffic cannot tell the variants apart**: when the length field equals the length
    of the L4 data (what every conformant sender produces) the last `Length` bytes of the buffer
    are the L4 data, and all three window selections coincide. -/
theorem C10Win_wellformed_windows_agree (r : Rx) (h8 : 8 ≤ r.l4.length) (hl : udpLengthField r.l4 = r.l4.length) :
    tailWindow r.buf (udpLengthField r.l4) = r.l4 ∧
    windowsTailNts r = windows r ∧ windowsOld r = windows r := by
  have ht : tailWindow r.buf (udpLengthField r.l4) = r.l4 := by
    rw [hl]; exact tailWindow_append r.pre r.l4
  have hd : udpDecode r.l4 = some (r.l4.take 8, r.l4.drop 8) := by
    unfold udpDecode
    rw [hl]
    have : ¬ r.l4.length < 8 := by omega
    simp [this, h8]
  refine ⟨ht, ?_, ?_⟩
  · simp [windowsTailNts, windows, hd, ht]
  · simp [windowsOld, windows, hd, ht]

/-- a small re-framed packet: header `[0,7,0,9,0,12,0,0]` (length field 12), authentic payload
    `[1,2,3,4]`, forged `[9,9,9,9]` -/
def exRx : Rx := reframed [70, 71] [0, 7, 0, 9, 0, 12, 0, 0] [9, 9, 9, 9] [1, 2, 3, 4]

/-- **Refuted variants, decided**: on `exRx` the layer check passes; the code evaluates and
    authenticates `[9,9,9,9]`; the variant evaluates `[9,9,9,9]` but verifies NTS over `[1,2,3,4]`;
    the code before the `fix:` commit verified the packet authenticator over the authentic
    header + payload while evaluating `[9,9,9,9]`. -/
theorem C10Win_tail_variants_refuted :
    lengthAdmitted exRx = true ∧
    windows exRx = some ⟨[9, 9, 9, 9], [9, 9, 9, 9], [0, 7, 0, 9, 0, 12, 0, 0, 9, 9, 9, 9]⟩ ∧
    windowsTailNts exRx = some ⟨[9, 9, 9, 9], [1, 2, 3, 4], [0, 7, 0, 9, 0, 12, 0, 0, 1, 2, 3, 4]⟩ ∧
    windowsOld exRx = some ⟨[9, 9, 9, 9], [9, 9, 9, 9], [0, 7, 0, 9, 0, 12, 0, 0, 1, 2, 3, 4]⟩ := by decide

/-- a length field larger than the datagram is refused by the layer check (nothing is sliced) -/
example : lengthAdmitted ⟨[70, 71], [0, 7, 0, 9, 0, 40, 0, 0, 1, 2, 3, 4]⟩ = false := by decide

/-- **Pin** (regenerated from client_scion.go on every run): the byte strings handed to
    `ntp.DecodePacket`, `nts.DecodePacket`, `nts.ProcessResponse` are all `udpLayer.Payload`, and the
    response's packet authenticator is computed over the UDP header followed by it (`windows`). -/
theorem C10Win_pin_windows :
    Gen.Client.scionPayloadWindows =
      "spao=buffer.Bytes() | spao=udpLayer.Contents[:len(udpLayer.Contents)+len(udpLayer.Payload)] | ntp=udpLayer.Payload | nts.decode=udpLayer.Payload | nts.process=udpLayer.Payload" := by
  rfl

end ScionTime.Props.C10Win
