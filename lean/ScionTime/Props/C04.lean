/-
  C04 — NTP timestamp conversion is exact to 1 ns within ±2^31 s, across eras.
  Model: ScionTime/Model/Time64.lean; helper lemmas: ScionTime/Proofs/Time64Conv.lean.
  The tactic `t64c` (Model/Time64.lean) unfolds the constants `epoch`, `era`, `nsPerSec`.
-/
import ScionTime.Proofs.Time64Conv
import ScionTime.Gen.Ntp
namespace ScionTime.C04
open ScionTime.Time64

/-- Pins: the model's constants are those of /repo's source (Gen is regenerated
    on every run; a changed constant breaks these and thereby the build). -/
theorem C04_pin_nsPerSec : Gen.Ntp.nanosecondsPerSecond = nsPerSec := by decide
theorem C04_pin_epoch : Gen.Ntp.epoch = epoch := by decide
theorem C04_pin_era : Gen.Ntp.secondsPerEra = era := by decide

/-- The decoding window as the code computes it: the reference enters only through
    `t0.Unix()` (whole seconds), and references are not before the NTP epoch (1900; the
    property quantifies over references from 1970 on). -/
def InWindow (t t0 : Int) : Prop :=
  epoch ≤ unixSec t0 ∧ -2147483648 ≤ unixSec t - unixSec t0 ∧ unixSec t - unixSec t0 < 2147483648

/-- Nanosecond-granular window of the property statement; its upper edge is one second
    tighter than `2^31 s` because the code reads the reference at whole seconds. -/
theorem C04_window_ns (t t0 : Int) (h0 : 0 ≤ t0)
    (hlo : -2147483648 * 1000000000 ≤ t - t0) (hhi : t - t0 < 2147483647 * 1000000000) :
    InWindow t t0 := by
  unfold InWindow unixSec; t64c
  omega

/-- Seconds round-trip exactly, on the whole window, on either side of an era boundary. -/
theorem C04_seconds_exact (sec tref : Int) (h0 : epoch ≤ tref)
    (hlo : -2147483648 ≤ sec - tref) (hhi : sec - tref < 2147483648) :
    decSec ((sec - epoch) % era) tref = sec := by
  unfold decSec
  rw [tdiv_era h0]
  t64c
  simp only
  split
  · omega
  · split <;> omega

/-- Sub-second part: never later, at most 1 ns earlier, for all 10^9 values. -/
theorem C04_subsecond (ns : Int) :
    ns - 1 ≤ decNs (ns * era / nsPerSec) ∧ decNs (ns * era / nsPerSec) ≤ ns := by
  unfold decNs; t64c
  omega

/-- Main statement: time -> Time64 -> time relative to any reference in the window returns
    the original time to within one nanosecond and never later. -/
theorem C04_roundtrip (t t0 : Int) (h : InWindow t t0) :
    t - 1 ≤ toTime (ofTime t) t0 ∧ toTime (ofTime t) t0 ≤ t := by
  have ht := (unix_split t).1
  have hn := C04_subsecond (nanosecond t)
  rw [toTime_ofTime t t0 (C04_seconds_exact _ _ h.1 h.2.1 h.2.2)]
  omega

/-- The decoded time lies in the same second as the original. -/
theorem C04_roundtrip_same_second (t t0 : Int) (h : InWindow t t0) :
    unixSec (toTime (ofTime t) t0) = unixSec t := by
  have ⟨_, hn0, hn1⟩ := unix_split t
  have hn := C04_subsecond (nanosecond t)
  have hd := decNs_frac_nonneg hn0
  rw [toTime_ofTime t t0 (C04_seconds_exact _ _ h.1 h.2.1 h.2.2)]
  exact unixSec_add _ _ hd (by omega)

/-- Distinct nanosecond values get distinct fractions (2^32 > 10^9): encoding is injective
    on the sub-second part and strictly monotone. -/
theorem C04_frac_strict_mono (a b : Int) (hab : a < b) :
    a * era / nsPerSec < b * era / nsPerSec := by
  t64c
  omega

/-- Conversion preserves order within the window. -/
theorem C04_order_preserved (t u t0 : Int) (ht : InWindow t t0) (hu : InWindow u t0)
    (h : t ≤ u) : toTime (ofTime t) t0 ≤ toTime (ofTime u) t0 := by
  have ⟨et, ht0, _⟩ := unix_split t
  have ⟨eu, hu0, _⟩ := unix_split u
  rw [toTime_ofTime t t0 (C04_seconds_exact _ _ ht.1 ht.2.1 ht.2.2),
    toTime_ofTime u t0 (C04_seconds_exact _ _ hu.1 hu.2.1 hu.2.2)]
  by_cases hsec : unixSec t = unixSec u
  · have hm := decNs_frac_mono (a := nanosecond t) (b := nanosecond u) (by omega)
    omega
  · have hn := C04_subsecond (nanosecond t)
    have hd := decNs_frac_nonneg hu0
    omega

/-- `Before`/`After` are the strict lexicographic order on (seconds, fraction). -/
theorem C04_before_iff (a b : T64) :
    before a b = true ↔ a.sec < b.sec ∨ (a.sec = b.sec ∧ a.frac < b.frac) := by
  unfold before; simp

theorem C04_after_eq_before_swap (a b : T64) : after a b = before b a := by
  unfold after before
  simp only [gt_iff_lt]
  congr 2
  rw [Bool.eq_iff_iff]; simp only [beq_iff_eq]; exact eq_comm

/-- Within one era, encoding is strictly order preserving w.r.t. `Before`. -/
theorem C04_encode_order_same_era (t u : Int) (hlt : t < u)
    (hera : (unixSec t - epoch) / era = (unixSec u - epoch) / era) :
    after (ofTime t) (ofTime u) = false := by
  unfold after ofTime
  simp only [gt_iff_lt, Bool.or_eq_false_iff, Bool.and_eq_false_iff, decide_eq_false_iff_not,
    beq_eq_false_iff_ne, ne_eq]
  have ⟨et, _, _⟩ := unix_split t
  have ⟨eu, _, _⟩ := unix_split u
  t64c
  omega

/-! Non-vacuity: the hypotheses are met across the February 2036 era boundary. -/
example : InWindow (2085978491 * 1000000000 + 999999999) (2085978506 * 1000000000) := by
  unfold InWindow unixSec; t64c; omega
example : toTime (ofTime (2085978491 * 1000000000 + 999999999)) (2085978506 * 1000000000)
    = 2085978491 * 1000000000 + 999999998 := by decide
example : toTime (ofTime (2085978491 * 1000000000 + 500000000)) (2085978506 * 1000000000)
    = 2085978491 * 1000000000 + 500000000 := by decide

/-! Finding F1 (fixed in /repo by a `fix:` commit): the function as it was at the pinned
    commit never unfolded towards the previous era. Reference 10 s after the 2036
    rollover, time 5 s before it: decoded 2^32 s (136 years) late. -/
theorem C04_old_code_counterexample :
    decSecOld ((2085978491 - epoch) % era) 2085978506 = 2085978491 + era := by decide

/-- What held of the old function: exact when the time is not before the reference's era. -/
theorem C04_old_code_partial (sec tref : Int) (h0 : epoch ≤ tref)
    (hlo : -2147483648 ≤ sec - tref) (hhi : sec - tref < 2147483648)
    (hsame : epoch + (tref - epoch) / era * era ≤ sec) :
    decSecOld ((sec - epoch) % era) tref = sec := by
  unfold decSecOld
  rw [tdiv_era h0]
  t64c
  simp only
  split <;> omega

end ScionTime.C04
