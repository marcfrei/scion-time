/-
  Kernel-checked ties (C14 / C08 / C11): `(*ServerCookie).Decode` and `(*EncryptedServerCookie).Decode`
  of net/ntske/cookies.go as regenerated from /repo's Go source on every run (Gen/LeafNtske.lean:
  `for pos < len(b) { … }` with a budget, `binary.BigEndian.Uint16(b[pos:])`, `b[lo:hi]` as a value)
  against the suffix-based models `scDecode` / `ecDecode` of Model/Cookies.lean.

  The generated decoders walk the buffer by POSITION (`pos`, an int64), the model by SUFFIX
  (`rest = b[pos:]`).  `stepAt` is one iteration of the generated loops with the cookie-specific
  part (which field is stored) taken out; `sc_loop` / `ec_loop` show that the generated loop
  bodies are `stepAt` + storing, by pushing `contOf` through the tests and reads of `stepAt`;
  `stepN` says what an iteration at position `p` does in terms of the bytes at `p … p+5` as
  naturals; `stepAt_spec` computes `stepAt` at position `p` in these terms (all the int64 / uint16
  arithmetic is here); `tlv_at` is the model's iteration on `b.drop p` in the same terms; `loop_tie`
  is the induction.

  PROVED for EVERY buffer shorter than 2^62 bytes, every receiver, every budget above the length:
    * the generated decoder NEVER panics and is never out of budget (`C14_leaf_*_Decode_total`):
      totality of the cookie decoders is a theorem about the regenerated code;
    * it returns `nil` exactly when the model decodes, with the model's three fields
      (`C14_leaf_ServerCookie_Decode`, `C14_leaf_EncryptedServerCookie_Decode`), an error exactly when
      the model returns `errUnexpectedCookieData`.
-/
import ScionTime.Gen.LeafNtske
import ScionTime.Model.Cookies
import ScionTime.Proofs.GoPrelude
import ScionTime.Proofs.LeafBytes
import ScionTime.Proofs.LeafSlice2
import ScionTime.Proofs.LeafTlv
namespace ScionTime.LeafTieC14CookiesDec
open ScionTime ScionTime.Gen.Leaf ScionTime.GoLemmas ScionTime.Nts ScionTime.LeafBytes ScionTime.LeafTlv
open ScionTime.GoSlice (ofNat_toInt)

def bytesN (b : List UInt8) : List Nat := b.map UInt8.toNat

theorem bytesN_take (b : List UInt8) (k : Nat) : bytesN (b.take k) = (bytesN b).take k := List.map_take

/- One iteration of the generated loops, without the cookie-specific stores. -/

inductive Step where
  | stop                                   -- `pos < len(b)` is false: the loop ends
  | err                                    -- `return errUnexpectedCookieData`
  | num (v : UInt16) (next : Int64)        -- the 2-byte field
  | fx (s : List UInt8) (next : Int64)     -- the first byte string
  | fy (s : List UInt8) (next : Int64)     -- the second byte string
  | skip (next : Int64)                    -- an unknown type: skipped

def stepAt (t0 t1 t2 : UInt16) (b : List UInt8) (pos : Int64) : Go.Out Step :=
  if (!(decide (pos < (Go.len b)))) then .ok .stop
  else if (decide (((Go.len b) - pos) < (4 : Int64))) then .ok .err
  else
    (Go.Out.ofOption "slice" (Go.beU16At? b pos)).bind fun t =>
    (Go.Out.ofOption "slice" (Go.beU16At? b (pos + (2 : Int64)))).bind fun l =>
    if (decide (((l).toUInt64.toInt64) > (((Go.len b) - pos) - (4 : Int64)))) then .ok .err
    else if (t == t0) then
      if (decide (l < (2 : UInt16))) then .ok .err
      else (Go.Out.ofOption "slice" (Go.beU16At? b (pos + (4 : Int64)))).bind fun v =>
        .ok (.num v (pos + ((4 : Int64) + ((l).toUInt64.toInt64))))
    else if (t == t1) then
      (Go.Out.ofOption "slice" (Go.subslice? b (pos + (4 : Int64)) ((pos + (4 : Int64)) + ((l).toUInt64.toInt64)))).bind fun s =>
        .ok (.fx s (pos + ((4 : Int64) + ((l).toUInt64.toInt64))))
    else if (t == t2) then
      (Go.Out.ofOption "slice" (Go.subslice? b (pos + (4 : Int64)) ((pos + (4 : Int64)) + ((l).toUInt64.toInt64)))).bind fun s =>
        .ok (.fy s (pos + ((4 : Int64) + ((l).toUInt64.toInt64))))
    else .ok (.skip (pos + ((4 : Int64) + ((l).toUInt64.toInt64))))

theorem len_toInt (l : List UInt8) (h : l.length < 4611686018427387904) : (Go.len l).toInt = l.length :=
  ofNat_toInt l.length h

theorem beU16At_spec (b : List UInt8) (q : Nat) (off : Int64) (hoff : off.toInt = q) (hq : q + 2 ≤ b.length) :
    ∃ v, Go.beU16At? b off = some v ∧ v.toNat = (b.getD q 0).toNat * 256 + (b.getD (q + 1) 0).toNat := by
  unfold Go.beU16At?
  rw [hoff, Int.toNat_natCast, if_pos ⟨Int.natCast_nonneg q, Int.ofNat_le.2 hq⟩]
  exact ⟨_, rfl, by rw [LeafBytes.be16]; simp [Wire.beVal]⟩

theorem subslice_spec (b : List UInt8) (q l : Nat) (lo hi : Int64) (hlo : lo.toInt = q) (hhi : hi.toInt = q + l)
    (hq : q + l ≤ b.length) : Go.subslice? b lo hi = some ((b.drop q).take l) := by
  unfold Go.subslice?
  rw [hlo, hhi, ← Int.natCast_add, Int.toNat_natCast, Int.toNat_natCast, Nat.add_sub_cancel_left,
    if_pos ⟨Int.natCast_nonneg q, Int.ofNat_le.2 (Nat.le_add_right q l), Int.ofNat_le.2 hq⟩]

/-- the outcome of `stepAt` at position `p`, in terms of the bytes (as naturals) -/
inductive StepN where
  | stop | err
  | num (v : Nat) (l : Nat)
  | fx (l : Nat) | fy (l : Nat) | skip (l : Nat)

/-- the iteration once the header `(t, l)` is read; `rem` = bytes after the header, `v` = the first
    two of them as a number -/
def stepTL (T0 T1 T2 : Nat) (rem t l v : Nat) : StepN :=
  if l > rem then .err
  else if t = T0 then (if l < 2 then .err else .num v l)
  else if t = T1 then .fx l
  else if t = T2 then .fy l
  else .skip l

def stepN (T0 T1 T2 : Nat) (B : List Nat) (p : Nat) : StepN :=
  if ¬ p < B.length then .stop
  else if B.length - p < 4 then .err
  else stepTL T0 T1 T2 (B.length - p - 4) (B.getD p 0 * 256 + B.getD (p + 1) 0)
    (B.getD (p + 2) 0 * 256 + B.getD (p + 3) 0) (B.getD (p + 4) 0 * 256 + B.getD (p + 4 + 1) 0)

/-- what the generated step `r` at position `p` is when the bytes say `stepN`; where the loop goes
    on, the next position is inside the buffer -/
def Agrees (b : List UInt8) (p : Nat) (r : Go.Out Step) : StepN → Prop
  | .stop => r = .ok .stop ∧ p = b.length
  | .err => r = .ok .err
  | .num n l => ∃ v, r = .ok (.num v (Int64.ofNat (p + 4 + l))) ∧ v.toNat = n ∧ p + 4 + l ≤ b.length
  | .fx l => r = .ok (.fx ((b.drop (p + 4)).take l) (Int64.ofNat (p + 4 + l))) ∧ p + 4 + l ≤ b.length
  | .fy l => r = .ok (.fy ((b.drop (p + 4)).take l) (Int64.ofNat (p + 4 + l))) ∧ p + 4 + l ≤ b.length
  | .skip l => r = .ok (.skip (Int64.ofNat (p + 4 + l))) ∧ p + 4 + l ≤ b.length

theorem u16_beq_iff (a b : UInt16) : (a == b) = true ↔ a.toNat = b.toNat :=
  beq_iff_eq.trans UInt16.toNat_inj.symm

theorem length_bytesN (b : List UInt8) : (bytesN b).length = b.length := List.length_map _

theorem next_pos {pos w : Int64} {p l : Nat} (hpos : pos.toInt = p) (hw : w.toInt = l)
    (h : p + 4 + l < 4611686018427387904) : pos + (4 + w) = Int64.ofNat (p + 4 + l) := Int64.toInt_inj.mp (by
  rw [toInt_add_nat hpos (toInt_add_nat (m := 4) rfl hw (by omega)) (by omega), ofNat_toInt _ h, Nat.add_assoc])

theorem stepAt_spec (t0 t1 t2 : UInt16) (b : List UInt8) (p : Nat)
    (hL : b.length < 4611686018427387904) (hp : p ≤ b.length) :
    Agrees b p (stepAt t0 t1 t2 b (Int64.ofNat p)) (stepN t0.toNat t1.toNat t2.toNat (bytesN b) p) := by
  have hlen := len_toInt b hL
  have hpos := ofNat_toInt p (Nat.lt_of_le_of_lt hp hL)
  generalize Int64.ofNat p = pos at hpos
  have hsub := toInt_sub_nat hlen hpos hp
  have l2 (l : UInt16) : l < 2 ↔ l.toNat < 2 := UInt16.lt_iff_toNat_lt
  -- the tests of the code are the tests of `stepN` / `stepTL`: one walk through the cascade serves both
  simp only [stepAt, stepN, stepTL, length_bytesN, Bool.not_eq_true', decide_eq_false_iff_not, decide_eq_true_eq, gt_iff_lt,
    lt_iff_nat hpos hlen, lt_iff_nat (c := 4) (k := 4) hsub rfl, u16_beq_iff, l2]
  by_cases h1 : p < b.length
  case neg =>
    simp only [if_pos h1]
    exact ⟨rfl, Nat.le_antisymm hp (Nat.le_of_not_lt h1)⟩
  simp only [if_neg (not_not_intro h1)]
  by_cases h2 : b.length - p < 4
  · simp only [if_pos h2]
    exact rfl
  -- the header: type `t` and length `l`
  have h4 := hdr_le h2
  obtain ⟨t, ht, htn⟩ := beU16At_spec b p pos hpos (by omega)
  obtain ⟨l, hl, hln⟩ := beU16At_spec b (p + 2) (pos + 2) (toInt_add_nat (k := 2) hpos rfl (by omega)) (by omega)
  have hp4 := toInt_add_nat (c := 4) (k := 4) hpos rfl (by omega)
  have hrem := toInt_sub_nat (c := 4) (k := 4) hsub rfl (Nat.le_of_not_lt h2)
  have hw := widen16 l
  simp only [if_neg h2, ht, hl, ofOption_some, bind_ok, bytesN, getD_bytes, lt_iff_nat hrem hw]
  rw [← htn, ← hln]
  by_cases h3 : b.length - p - 4 < l.toNat
  · simp only [if_pos h3]
    exact rfl
  have hin := next_le h4 (Nat.le_of_not_lt h3)
  have hlt := Nat.lt_of_le_of_lt hin hL
  simp only [if_neg h3, Int64.add_assoc, next_pos hpos hw hlt, subslice_spec b (p + 4) l.toNat (pos + 4) _ hp4
    ((ofNat_toInt _ hlt).trans (Int.natCast_add _ _)) hin, ofOption_some, bind_ok]
  by_cases k0 : t.toNat = t0.toNat
  · simp only [if_pos k0]
    by_cases k2 : l.toNat < 2
    · simp only [if_pos k2]
      exact rfl
    · obtain ⟨v, hv, hvn⟩ := beU16At_spec b (p + 4) (pos + 4) hp4 (Nat.le_trans (Nat.add_le_add_left (Nat.le_of_not_lt k2) _) hin)
      simp only [if_neg k2, hv, ofOption_some, bind_ok]
      exact ⟨v, rfl, hvn, hin⟩
  simp only [if_neg k0]
  by_cases k1 : t.toNat = t1.toNat
  · simp only [if_pos k1]
    exact ⟨rfl, hin⟩
  simp only [if_neg k1]
  by_cases k2 : t.toNat = t2.toNat
  · simp only [if_pos k2]
    exact ⟨rfl, hin⟩
  · simp only [if_neg k2]
    exact ⟨rfl, hin⟩

theorem drop_cons (B : List Nat) (p : Nat) (h : p < B.length) : B.drop p = B.getD p 0 :: B.drop (p + 1) := by
  rw [List.drop_eq_getElem_cons h]
  congr 1
  simp [List.getD_eq_getElem?_getD, List.getElem?_eq_getElem h]

theorem drop_cons2 (B : List Nat) (p : Nat) (h : p + 2 ≤ B.length) :
    B.drop p = B.getD p 0 :: B.getD (p + 1) 0 :: B.drop (p + 2) := by
  rw [drop_cons B p (by omega), drop_cons B (p + 1) (by omega)]

theorem drop_cons4 (B : List Nat) (p : Nat) (h : p + 4 ≤ B.length) :
    B.drop p = B.getD p 0 :: B.getD (p + 1) 0 :: B.getD (p + 2) 0 :: B.getD (p + 3) 0 :: B.drop (p + 4) := by
  rw [drop_cons2 B p (by omega), drop_cons2 B (p + 2) (by omega)]

theorem tlv_cons4 (T0 T1 T2 : Nat) (a b c d : Nat) (v : List Nat) (n : Nat) (st : TlvSt) :
    tlvLoop true T0 T1 T2 (n + 1) (a :: b :: c :: d :: v) st =
      match stepTL T0 T1 T2 v.length (a * 256 + b) (c * 256 + d) (v.getD 0 0 * 256 + v.getD 1 0) with
      | .stop => .ok st
      | .err => .err .cookieData
      | .num w l => tlvLoop true T0 T1 T2 n (v.drop l) { st with num := some w }
      | .fx l => tlvLoop true T0 T1 T2 n (v.drop l) { st with x := some (v.take l) }
      | .fy l => tlvLoop true T0 T1 T2 n (v.drop l) { st with y := some (v.take l) }
      | .skip l => tlvLoop true T0 T1 T2 n (v.drop l) st := by
  have e (x y : Nat) : x * 256 + y = u16 x y := rfl
  simp only [e, tlvLoop, stepTL, Bool.true_and, decide_eq_true_eq, gt_iff_lt]
  by_cases h3 : v.length < u16 c d
  · simp only [if_pos h3]
  simp only [if_neg h3]
  by_cases c0 : u16 a b = T0
  · simp only [if_pos c0]
    by_cases c2 : u16 c d < 2
    · simp only [if_pos c2]
    simp only [if_neg c2]
    -- the value has its two bytes: `2 ≤ l ≤ v.length`
    match v, Nat.le_trans (Nat.le_of_not_lt c2) (Nat.le_of_not_lt h3) with
    | n1 :: n0 :: v', _ => rfl
  simp only [if_neg c0]
  by_cases c1 : u16 a b = T1
  · simp only [if_pos c1]
  simp only [if_neg c1]
  by_cases c2 : u16 a b = T2
  · simp only [if_pos c2]
  · simp only [if_neg c2]

theorem getD_drop (B : List Nat) (k i : Nat) : (B.drop k).getD i 0 = B.getD (k + i) 0 := by
  simp [List.getD_eq_getElem?_getD, List.getElem?_drop]

theorem tlv_at (T0 T1 T2 : Nat) (B : List Nat) (p n : Nat) (st : TlvSt) :
    tlvLoop true T0 T1 T2 (n + 1) (B.drop p) st =
      match stepN T0 T1 T2 B p with
      | .stop => .ok st
      | .err => .err .cookieData
      | .num v l => tlvLoop true T0 T1 T2 n (B.drop (p + 4 + l)) { st with num := some v }
      | .fx l => tlvLoop true T0 T1 T2 n (B.drop (p + 4 + l)) { st with x := some ((B.drop (p + 4)).take l) }
      | .fy l => tlvLoop true T0 T1 T2 n (B.drop (p + 4 + l)) { st with y := some ((B.drop (p + 4)).take l) }
      | .skip l => tlvLoop true T0 T1 T2 n (B.drop (p + 4 + l)) st := by
  unfold stepN
  by_cases h1 : p < B.length
  case neg => rw [if_pos h1, List.drop_eq_nil_of_le (Nat.le_of_not_lt h1)]; rfl
  rw [if_neg (not_not_intro h1)]
  by_cases h2 : B.length - p < 4
  · rw [if_pos h2]
    exact tlvLoop_short _ _ _ _ _ _ (mt List.drop_eq_nil_iff.1 (Nat.not_le.2 h1)) (by rw [List.length_drop]; exact h2)
  · rw [if_neg h2, drop_cons4 B p (hdr_le h2), tlv_cons4]
    simp only [List.length_drop, Nat.sub_sub, getD_drop, Nat.add_zero, List.drop_drop]

/-- what the three stores amount to: the loop's variables as the model's accumulator -/
structure View (σ : Type) where
  pos : σ → Int64
  acc : σ → TlvSt
  setPos : σ → Int64 → σ
  onNum : σ → UInt16 → Int64 → σ
  onX : σ → List UInt8 → Int64 → σ
  onY : σ → List UInt8 → Int64 → σ

/-- the generic loop body: `stepAt`, then the stores -/
def contOf {σ ρ : Type} (V : View σ) (errOut : σ → Go.Out ρ) (s : σ) : Go.Out Step → Go.Ctl σ (Go.Out ρ)
  | .ok .stop => .brk s
  | .ok .err => .ret (errOut s)
  | .ok (.num v nx) => .next (V.onNum s v nx)
  | .ok (.fx x nx) => .next (V.onX s x nx)
  | .ok (.fy y nx) => .next (V.onY s y nx)
  | .ok (.skip nx) => .next (V.setPos s nx)
  | .panic m => .ret (.panic m)
  | .stuck => .ret .stuck

def bodyOf {σ ρ : Type} (V : View σ) (t0 t1 t2 : UInt16) (b : List UInt8) (errOut : σ → Go.Out ρ) (s : σ) :
    Go.Ctl σ (Go.Out ρ) :=
  contOf V errOut s (stepAt t0 t1 t2 b (V.pos s))

theorem contOf_bind {σ ρ α : Type} (V : View σ) (errOut : σ → Go.Out ρ) (s : σ) (x : Go.Out α)
    (f : α → Go.Out Step) :
    contOf V errOut s (x.bind f) = Go.Ctl.bindR x fun a => contOf V errOut s (f a) := by
  cases x <;> rfl

/-- the stores do what the model's accumulator does -/
structure View.Lawful {σ : Type} (V : View σ) : Prop where
  setPos_pos : ∀ s nx, V.pos (V.setPos s nx) = nx
  setPos_acc : ∀ s nx, V.acc (V.setPos s nx) = V.acc s
  num_pos : ∀ s v nx, V.pos (V.onNum s v nx) = nx
  num_acc : ∀ s v nx, V.acc (V.onNum s v nx) = { V.acc s with num := some v.toNat }
  x_pos : ∀ s x nx, V.pos (V.onX s x nx) = nx
  x_acc : ∀ s x nx, V.acc (V.onX s x nx) = { V.acc s with x := some (bytesN x) }
  y_pos : ∀ s y nx, V.pos (V.onY s y nx) = nx
  y_acc : ∀ s y nx, V.acc (V.onY s y nx) = { V.acc s with y := some (bytesN y) }

theorem take_drop_bytes (b : List UInt8) (k l : Nat) :
    ((bytesN b).drop k).take l = bytesN ((b.drop k).take l) := by
  simp [bytesN, List.map_drop, List.map_take]

/-- **position-based loop = suffix-based loop**: with a budget above the bytes left, the generated
    loop ends exactly as the model's does — same accumulator at the end of the buffer, or the
    error return; it never panics and never runs out of budget. -/
theorem loop_tie {σ ρ : Type} (V : View σ) (hV : V.Lawful) (t0 t1 t2 : UInt16) (b : List UInt8)
    (errOut : σ → Go.Out ρ) (hL : b.length < 4611686018427387904) :
    ∀ (n p : Nat) (s : σ), p ≤ b.length → b.length - p < n → V.pos s = Int64.ofNat p →
      (match tlvLoop true t0.toNat t1.toNat t2.toNat n ((bytesN b).drop p) (V.acc s) with
       | .ok st => ∃ s', Go.forFuel n s (bodyOf V t0 t1 t2 b errOut) = some (.inl s') ∧ V.acc s' = st ∧
            V.pos s' = Int64.ofNat b.length
       | .err _ => ∃ s', Go.forFuel n s (bodyOf V t0 t1 t2 b errOut) = some (.inr (errOut s'))
       | .panic _ => False
       | .hang => False) := by
  intro n
  induction n with
  | zero => intro p s _ h; exact absurd h (Nat.not_lt_zero _)
  | succ n ih =>
    intro p s hp hn hpos
    have hspec := stepAt_spec t0 t1 t2 b p hL hp
    rw [tlv_at]
    simp only [Go.forFuel, bodyOf, hpos]
    generalize stepN t0.toNat t1.toNat t2.toNat (bytesN b) p = sN at hspec ⊢
    cases sN with
    | stop =>
      obtain ⟨hr, hpe⟩ := hspec
      rw [hr]
      exact ⟨s, rfl, rfl, by rw [hpos, hpe]⟩
    | err =>
      rw [show stepAt t0 t1 t2 b (Int64.ofNat p) = .ok .err from hspec]
      exact ⟨s, rfl⟩
    | num v l =>
      obtain ⟨v', hr, hv, hin⟩ := hspec
      rw [hr]
      have := ih (p + 4 + l) (V.onNum s v' (Int64.ofNat (p + 4 + l))) hin (fuel_next hn hin) (hV.num_pos _ _ _)
      rw [hV.num_acc, hv] at this
      exact this
    | fx l =>
      obtain ⟨hr, hin⟩ := hspec
      rw [hr]
      have := ih (p + 4 + l) (V.onX s ((b.drop (p + 4)).take l) (Int64.ofNat (p + 4 + l))) hin (fuel_next hn hin) (hV.x_pos _ _ _)
      rw [hV.x_acc, ← take_drop_bytes] at this
      exact this
    | fy l =>
      obtain ⟨hr, hin⟩ := hspec
      rw [hr]
      have := ih (p + 4 + l) (V.onY s ((b.drop (p + 4)).take l) (Int64.ofNat (p + 4 + l))) hin (fuel_next hn hin) (hV.y_pos _ _ _)
      rw [hV.y_acc, ← take_drop_bytes] at this
      exact this
    | skip l =>
      obtain ⟨hr, hin⟩ := hspec
      rw [hr]
      have := ih (p + 4 + l) (V.setPos s (Int64.ofNat (p + 4 + l))) hin (fuel_next hn hin) (hV.setPos_pos _ _)
      rw [hV.setPos_acc] at this
      exact this

theorem forFuel_mono {σ ρ : Type} (body : σ → Go.Ctl σ ρ) :
    ∀ (n k : Nat) (s : σ) (r : σ ⊕ ρ), Go.forFuel n s body = some r → Go.forFuel (n + k) s body = some r := by
  intro n
  induction n with
  | zero => intro k s r h; exact nomatch h
  | succ n ih =>
    intro k s r
    rw [Nat.add_right_comm]
    simp only [Go.forFuel]
    cases body s with
    | next s' => exact ih k s' r
    | brk s' => exact id
    | ret x => exact id

theorem loop_tie_start {σ ρ : Type} (V : View σ) (hV : V.Lawful) (t0 t1 t2 : UInt16) (b : List UInt8)
    (errOut : σ → Go.Out ρ) (hL : b.length < 4611686018427387904) (fuel : Nat) (hf : b.length < fuel)
    (s : σ) (hpos : V.pos s = 0) (hacc : V.acc s = {}) :
    match tlvLoop true t0.toNat t1.toNat t2.toNat (b.length + 1) (bytesN b) {} with
    | .ok st => ∃ s', Go.forFuel fuel s (bodyOf V t0 t1 t2 b errOut) = some (.inl s') ∧ V.acc s' = st ∧
        V.pos s' = Go.len b
    | .err _ => ∃ s', Go.forFuel fuel s (bodyOf V t0 t1 t2 b errOut) = some (.inr (errOut s'))
    | .panic _ => False
    | .hang => False := by
  have h := loop_tie V hV t0 t1 t2 b errOut hL (b.length + 1) 0 s (Nat.zero_le _) (Nat.lt_succ_self _) hpos
  rw [hacc, List.drop_zero] at h
  obtain ⟨k, rfl⟩ : ∃ k, fuel = (b.length + 1) + k := ⟨fuel - (b.length + 1), by omega⟩
  generalize tlvLoop true t0.toNat t1.toNat t2.toNat (b.length + 1) (bytesN b) {} = r at h ⊢
  cases r with
  | ok st => obtain ⟨s', hrun, hst, hps⟩ := h; exact ⟨s', forFuel_mono _ _ k _ _ hrun, hst, hps⟩
  | err e => obtain ⟨s', hrun⟩ := h; exact ⟨s', forFuel_mono _ _ k _ _ hrun⟩
  | panic _ => exact h
  | hang => exact h

abbrev ScSt := Bool × S_ServerCookie × Bool × Int64 × Bool   -- (algo, c, c2s, pos, s2c)

def scView : View ScSt where
  pos := fun (_, _, _, pos, _) => pos
  acc := fun (algo, c, c2s, _, s2c) =>
    { num := if algo then some c.Algo.toNat else none,
      x := if s2c then some (bytesN c.S2C) else none,
      y := if c2s then some (bytesN c.C2S) else none }
  setPos := fun (algo, c, c2s, _, s2c) nx => (algo, c, c2s, nx, s2c)
  onNum := fun (_, c, c2s, _, s2c) v nx => (true, { c with Algo := v }, c2s, nx, s2c)
  onX := fun (algo, c, c2s, _, _) x nx => (algo, { c with S2C := x }, c2s, nx, true)
  onY := fun (algo, c, _, _, s2c) y nx => (algo, { c with C2S := y }, true, nx, s2c)

theorem scView_lawful : scView.Lawful := by
  constructor <;> intros <;> rfl

theorem scPos (algo : Bool) (c : S_ServerCookie) (c2s : Bool) (pos : Int64) (s2c : Bool) :
    scView.pos (algo, c, c2s, pos, s2c) = pos := rfl
theorem scSetPos (algo : Bool) (c : S_ServerCookie) (c2s : Bool) (pos : Int64) (s2c : Bool) (nx : Int64) :
    scView.setPos (algo, c, c2s, pos, s2c) nx = (algo, c, c2s, nx, s2c) := rfl
theorem scOnNum (algo : Bool) (c : S_ServerCookie) (c2s : Bool) (pos : Int64) (s2c : Bool) (v : UInt16) (nx : Int64) :
    scView.onNum (algo, c, c2s, pos, s2c) v nx = (true, { c with Algo := v }, c2s, nx, s2c) := rfl
theorem scOnX (algo : Bool) (c : S_ServerCookie) (c2s : Bool) (pos : Int64) (s2c : Bool) (x : List UInt8) (nx : Int64) :
    scView.onX (algo, c, c2s, pos, s2c) x nx = (algo, { c with S2C := x }, c2s, nx, true) := rfl
theorem scOnY (algo : Bool) (c : S_ServerCookie) (c2s : Bool) (pos : Int64) (s2c : Bool) (y : List UInt8) (nx : Int64) :
    scView.onY (algo, c, c2s, pos, s2c) y nx = (algo, { c with C2S := y }, true, nx, s2c) := rfl

/-- the generated function is the loop with body `bodyOf scView` followed by the two final tests:
    pushing `contOf` through the tests and reads of `stepAt`, and the binds of the generated body to
    their leaves, gives the same cascade (re-checked against the regenerated definition on every run) -/
theorem sc_loop (c : S_ServerCookie) (b : List UInt8) (fuel : Nat) :
    ntske_ServerCookie_Decode c b fuel =
      (match Go.forFuel (ρ := Go.Out (S_ServerCookie × Bool)) fuel (false, c, false, (0 : Int64), false)
          (bodyOf scView 257 513 769 b (fun s => Go.Out.ok (s.2.1, true))) with
       | none => Go.Out.stuck
       | some (.inr _r) => _r
       | some (.inl (algo, c, c2s, pos, s2c)) =>
         if (pos != (Go.len b)) then Go.Out.ok ((c, true))
         else if (!((algo && s2c) && c2s)) then Go.Out.ok ((c, true))
         else Go.Out.ok ((c, false))) := by
  unfold ntske_ServerCookie_Decode
  dsimp only
  congr 2
  funext ⟨algo, c, c2s, pos, s2c⟩
  simp only [bodyOf, stepAt, apply_ite (contOf _ _ _), contOf_bind]
  simp only [contOf, bindR_ite, bindR_bind, bindR_ok, scPos, scOnNum, scOnX, scOnY, scSetPos]
  rfl

theorem k257 : (257 : UInt16).toNat = cookieTypeAlgorithm := rfl
theorem k513 : (513 : UInt16).toNat = cookieTypeKeyS2C := rfl
theorem k769 : (769 : UInt16).toNat = cookieTypeKeyC2S := rfl

/-- **`(*ServerCookie).Decode`, for every buffer shorter than 2^62 bytes, every receiver and every
    budget above the length**: the regenerated decoder returns `nil` exactly when `scDecode` decodes,
    with the model's fields; `errUnexpectedCookieData` exactly when the model does; it never panics
    and never runs out of budget (so neither does the model: the last two cases are impossible). -/
theorem C14_leaf_ServerCookie_Decode (c0 : S_ServerCookie) (b : List UInt8) (fuel : Nat)
    (hL : b.length < 4611686018427387904) (hf : b.length < fuel) :
    match scDecode (bytesN b) with
    | .ok t => ∃ c', ntske_ServerCookie_Decode c0 b fuel = .ok (c', false) ∧
        c'.Algo.toNat = t.num ∧ bytesN c'.S2C = t.x ∧ bytesN c'.C2S = t.y
    | .err _ => ∃ c', ntske_ServerCookie_Decode c0 b fuel = .ok (c', true)
    | .panic _ => False
    | .hang => False := by
  have h := loop_tie_start scView scView_lawful 257 513 769 b (fun s => Go.Out.ok (s.2.1, true)) hL fuel hf
    (false, c0, false, (0 : Int64), false) rfl rfl
  rw [k257, k513, k769] at h
  rw [sc_loop]
  unfold scDecode decodeTLV
  rw [length_bytesN]
  generalize tlvLoop true cookieTypeAlgorithm cookieTypeKeyS2C cookieTypeKeyC2S (b.length + 1) (bytesN b) {} = r at h ⊢
  cases r with
  | ok st =>
    obtain ⟨⟨algo, c, c2s, pos, s2c⟩, hrun, hst, hps⟩ := h
    have hp : pos = Go.len b := hps
    subst hst hp
    rw [hrun]
    simp only [scView, bne_self_eq_false, Bool.false_eq_true, if_false]
    -- the model wants all three fields, the code all three flags
    cases algo <;> cases s2c <;> cases c2s
    case true.true.true => exact ⟨c, rfl, rfl, rfl, rfl⟩
    all_goals exact ⟨c, rfl⟩
  | err e => obtain ⟨s', hrun⟩ := h; rw [hrun]; exact ⟨_, rfl⟩
  | panic _ => exact h
  | hang => exact h

/-- totality, as a statement about the regenerated code alone -/
theorem C14_leaf_ServerCookie_Decode_total (c0 : S_ServerCookie) (b : List UInt8) (fuel : Nat)
    (hL : b.length < 4611686018427387904) (hf : b.length < fuel) :
    ∃ c' e, ntske_ServerCookie_Decode c0 b fuel = .ok (c', e) := by
  have h := C14_leaf_ServerCookie_Decode c0 b fuel hL hf
  split at h
  · obtain ⟨c', h1, _⟩ := h
    exact ⟨c', false, h1⟩
  · obtain ⟨c', h1⟩ := h
    exact ⟨c', true, h1⟩
  · exact h.elim
  · exact h.elim

/-- non-vacuity: the generated decoder on the encoding of (algo 15, S2C = [1,2], C2S = [3]) and on a
    truncated header -/
example : (match ntske_ServerCookie_Decode { Algo := 0, S2C := [], C2S := [] }
      [1, 1, 0, 2, 0, 15, 2, 1, 0, 2, 1, 2, 3, 1, 0, 1, 3] 18 with
    | .ok (c, e) => some (c.Algo, c.S2C, c.C2S, e) | _ => none) = some (15, [1, 2], [3], false) := by
  decide +kernel
example : (match ntske_ServerCookie_Decode { Algo := 0, S2C := [], C2S := [] } [1, 1, 0] 4 with
    | .ok (_, e) => some e | _ => none) = some true := by decide +kernel

abbrev EcSt := S_EncryptedServerCookie × Bool × Bool × Bool × Int64   -- (c, ciphertext, id, nonce, pos)

def ecView : View EcSt where
  pos := fun (_, _, _, _, pos) => pos
  acc := fun (c, ciphertext, id, nonce, _) =>
    { num := if id then some c.ID.toNat else none,
      x := if nonce then some (bytesN c.Nonce) else none,
      y := if ciphertext then some (bytesN c.Ciphertext) else none }
  setPos := fun (c, ciphertext, id, nonce, _) nx => (c, ciphertext, id, nonce, nx)
  onNum := fun (c, ciphertext, _, nonce, _) v nx => ({ c with ID := v }, ciphertext, true, nonce, nx)
  onX := fun (c, ciphertext, id, _, _) x nx => ({ c with Nonce := x }, ciphertext, id, true, nx)
  onY := fun (c, _, id, nonce, _) y nx => ({ c with Ciphertext := y }, true, id, nonce, nx)

theorem ecView_lawful : ecView.Lawful := by
  constructor <;> intros <;> rfl

theorem ecPos (c : S_EncryptedServerCookie) (ciphertext id nonce : Bool) (pos : Int64) :
    ecView.pos (c, ciphertext, id, nonce, pos) = pos := rfl
theorem ecSetPos (c : S_EncryptedServerCookie) (ciphertext id nonce : Bool) (pos : Int64) (nx : Int64) :
    ecView.setPos (c, ciphertext, id, nonce, pos) nx = (c, ciphertext, id, nonce, nx) := rfl
theorem ecOnNum (c : S_EncryptedServerCookie) (ciphertext id nonce : Bool) (pos : Int64) (v : UInt16) (nx : Int64) :
    ecView.onNum (c, ciphertext, id, nonce, pos) v nx = ({ c with ID := v }, ciphertext, true, nonce, nx) := rfl
theorem ecOnX (c : S_EncryptedServerCookie) (ciphertext id nonce : Bool) (pos : Int64) (x : List UInt8) (nx : Int64) :
    ecView.onX (c, ciphertext, id, nonce, pos) x nx = ({ c with Nonce := x }, ciphertext, id, true, nx) := rfl
theorem ecOnY (c : S_EncryptedServerCookie) (ciphertext id nonce : Bool) (pos : Int64) (y : List UInt8) (nx : Int64) :
    ecView.onY (c, ciphertext, id, nonce, pos) y nx = ({ c with Ciphertext := y }, true, id, nonce, nx) := rfl

theorem ec_loop (c : S_EncryptedServerCookie) (b : List UInt8) (fuel : Nat) :
    ntske_EncryptedServerCookie_Decode c b fuel =
      (match Go.forFuel (ρ := Go.Out (S_EncryptedServerCookie × Bool)) fuel (c, false, false, false, (0 : Int64))
          (bodyOf ecView 1025 1281 1537 b (fun s => Go.Out.ok (s.1, true))) with
       | none => Go.Out.stuck
       | some (.inr _r) => _r
       | some (.inl (c, ciphertext, id, nonce, pos)) =>
         if (pos != (Go.len b)) then Go.Out.ok ((c, true))
         else if (!((id && nonce) && ciphertext)) then Go.Out.ok ((c, true))
         else Go.Out.ok ((c, false))) := by
  unfold ntske_EncryptedServerCookie_Decode
  dsimp only
  congr 2
  funext ⟨c, ciphertext, id, nonce, pos⟩
  simp only [bodyOf, stepAt, apply_ite (contOf _ _ _), contOf_bind]
  simp only [contOf, bindR_ite, bindR_bind, bindR_ok, ecPos, ecOnNum, ecOnX, ecOnY, ecSetPos]
  rfl

theorem k1025 : (1025 : UInt16).toNat = cookieTypeKeyID := rfl
theorem k1281 : (1281 : UInt16).toNat = cookieTypeNonce := rfl
theorem k1537 : (1537 : UInt16).toNat = cookieTypeCiphertext := rfl

/-- **`(*EncryptedServerCookie).Decode`, for every buffer shorter than 2^62 bytes, every receiver and every
    budget above the length**: the regenerated decoder returns `nil` exactly when `ecDecode` decodes,
    with the model's fields; `errUnexpectedCookieData` exactly when the model does; it never panics
    and never runs out of budget (so neither does the model: the last two cases are impossible). -/
theorem C14_leaf_EncryptedServerCookie_Decode (c0 : S_EncryptedServerCookie) (b : List UInt8) (fuel : Nat)
    (hL : b.length < 4611686018427387904) (hf : b.length < fuel) :
    match ecDecode (bytesN b) with
    | .ok t => ∃ c', ntske_EncryptedServerCookie_Decode c0 b fuel = .ok (c', false) ∧
        c'.ID.toNat = t.num ∧ bytesN c'.Nonce = t.x ∧ bytesN c'.Ciphertext = t.y
    | .err _ => ∃ c', ntske_EncryptedServerCookie_Decode c0 b fuel = .ok (c', true)
    | .panic _ => False
    | .hang => False := by
  have h := loop_tie_start ecView ecView_lawful 1025 1281 1537 b (fun s => Go.Out.ok (s.1, true)) hL fuel hf
    (c0, false, false, false, (0 : Int64)) rfl rfl
  rw [k1025, k1281, k1537] at h
  rw [ec_loop]
  unfold ecDecode decodeTLV
  rw [length_bytesN]
  generalize tlvLoop true cookieTypeKeyID cookieTypeNonce cookieTypeCiphertext (b.length + 1) (bytesN b) {} = r at h ⊢
  cases r with
  | ok st =>
    obtain ⟨⟨c, ciphertext, id, nonce, pos⟩, hrun, hst, hps⟩ := h
    have hp : pos = Go.len b := hps
    subst hst hp
    rw [hrun]
    simp only [ecView, bne_self_eq_false, Bool.false_eq_true, if_false]
    cases id <;> cases nonce <;> cases ciphertext
    case true.true.true => exact ⟨c, rfl, rfl, rfl, rfl⟩
    all_goals exact ⟨c, rfl⟩
  | err e => obtain ⟨s', hrun⟩ := h; rw [hrun]; exact ⟨_, rfl⟩
  | panic _ => exact h
  | hang => exact h

/-- totality, as a statement about the regenerated code alone -/
theorem C14_leaf_EncryptedServerCookie_Decode_total (c0 : S_EncryptedServerCookie) (b : List UInt8) (fuel : Nat)
    (hL : b.length < 4611686018427387904) (hf : b.length < fuel) :
    ∃ c' e, ntske_EncryptedServerCookie_Decode c0 b fuel = .ok (c', e) := by
  have h := C14_leaf_EncryptedServerCookie_Decode c0 b fuel hL hf
  split at h
  · obtain ⟨c', h1, _⟩ := h
    exact ⟨c', false, h1⟩
  · obtain ⟨c', h1⟩ := h
    exact ⟨c', true, h1⟩
  · exact h.elim
  · exact h.elim

/-- non-vacuity: (key id 7, nonce [9, 9], ciphertext [5]) decodes; a value length beyond the buffer is
    an error, not a panic -/
example : (match ntske_EncryptedServerCookie_Decode { ID := 0, Nonce := [], Ciphertext := [] }
      [4, 1, 0, 2, 0, 7, 5, 1, 0, 2, 9, 9, 6, 1, 0, 1, 5] 18 with
    | .ok (c, e) => some (c.ID, c.Nonce, c.Ciphertext, e) | _ => none) = some (7, [9, 9], [5], false) := by
  decide +kernel
example : (match ntske_EncryptedServerCookie_Decode { ID := 0, Nonce := [], Ciphertext := [] } [5, 1, 0, 9, 1] 6 with
    | .ok (_, e) => some e | _ => none) = some true := by decide +kernel

end ScionTime.LeafTieC14CookiesDec
