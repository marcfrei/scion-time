/-
  C05 — clients accept only genuine, matching, authenticated server responses.
  Property theorems; model: ScionTime/Model/ClientNtp.lean (+ NtpMath.lean),
  helper lemmas: ScionTime/Proofs/ClientNtp.lean, ClientWrap.lean.

  Scope: the two per-exchange functions and the exported `MeasureClockOffsetIP`.
  The exported SCION wrapper `MeasureClockOffsetSCION` (multi-path, FTM over the per-path
  results; finding F12) is modelled under C15: C05's wrapper-level clause for SCION
  ("success ⇒ some per-path exchange accepted a datagram") depends on that model and on the
  repair of F12; what is proved here for SCION is the per-exchange statement.
-/
import ScionTime.Proofs.ClientNtp
import ScionTime.Proofs.ClientWrap
import ScionTime.Gen.Ntp
import ScionTime.Gen.Scion
import ScionTime.Gen.Client
namespace ScionTime.C05
open ScionTime.Time64 ScionTime.NtpMath ScionTime.ClientNtp

/-! ### Pins: the model's constants are those of the current source -/
theorem C05_pin_packetLen : Gen.Ntp.PacketLen = 48 := by decide
theorem C05_pin_modeServer : Gen.Ntp.ModeServer = 4 := by decide
theorem C05_pin_modeClient_versionMax :
    Gen.Ntp.VersionMax * 8 + Gen.Ntp.ModeClient = requestLVM := by decide
theorem C05_pin_leapUnknown : Gen.Ntp.LeapIndicatorUnknown = 3 := by decide
theorem C05_pin_spiServer : Gen.Scion.PacketAuthSPIServer = spiServer := by decide
theorem C05_pin_algorithm : Gen.Scion.PacketAuthAlgorithm = algCMAC := by decide
theorem C05_pin_maxNumRetries :
    Gen.Client.maxNumRetriesIP = maxNumRetries ∧ Gen.Client.maxNumRetriesSCION = maxNumRetries := by
  decide

/-- The conditions of the property on the NTP payload `p` of an accepted datagram, for the
    outstanding request `req`, with `a` the tuple that was evaluated. -/
structure PayloadOk (cfg : Cfg) (req : Req) (p : Payload) (a : Accepted) : Prop where
  /-- at least a whole NTP header -/
  len : 48 ≤ p.len
  /-- echoes the request's transmit timestamp, or — only for an interleaved request — its
      receive timestamp -/
  origin : p.pkt.origin = req.tx ∨ (req.interleaved = true ∧ p.pkt.origin = req.rx)
  mode : mode p.pkt.lvm = 4
  version : version p.pkt.lvm = 3 ∨ version p.pkt.lvm = 4
  leap : leap p.pkt.lvm ≠ 3
  stratum : 1 ≤ p.pkt.stratum ∧ p.pkt.stratum ≤ 15
  /-- transmit time not before receive time (of the tuple that is evaluated) -/
  tx_after_rx : a.t1 ≤ a.t2
  /-- with NTS: decodes, carries the request's unique identifier, opens under the S2C key -/
  nts : cfg.nts = true → p.ntsDecodeOk = true ∧ p.ntsUidEq = true ∧ p.ntsOpenOk = true

theorem C05_payload_ok (cfg : Cfg) (prev : Prev) (req : Req) (cTx1 cRx : Int) (p : Payload)
    (a : Accepted) (h : ntpStage cfg prev req cTx1 cRx p = .accept a) : PayloadOk cfg req p a := by
  obtain ⟨hl, hn, ho, hm, _, _, h12⟩ := ntpStage_accept cfg prev req cTx1 cRx p a h
  obtain ⟨m1, m2, m3, m4, m5⟩ := validMetadata_true _ _ hm
  exact ⟨hl, ho.symm, m3, m2, m1, ⟨m4, m5⟩, h12, hn⟩

/-- **accept_sound_ip**: whatever the IP client accepts comes from the queried server's
    address and meets every listed condition. -/
theorem C05_accept_sound_ip (cfg : Cfg) (server : Nat) (prev : Prev) (req : Req) (cTx1 cRx : Int)
    (d : IpDgram) (a : Accepted) (h : classifyIP cfg server prev req cTx1 cRx d = .accept a) :
    d.src = server ∧ PayloadOk cfg req d.payload a := by
  obtain ⟨hs, hn⟩ := classifyIP_accept cfg server prev req cTx1 cRx d a h
  exact ⟨hs, C05_payload_ok _ _ _ _ _ _ _ hn⟩

/-- non-vacuity: a datagram that is accepted (basic request sent at t = 10 s, reply stamped
    2 s ahead) -/
example :
    let req : Req := ⟨false, zero64, zero64, ofTime 10000000000, 10000000000⟩
    let pkt : NtpPkt := ⟨36, 1, req.tx, ofTime 12000000100, ofTime 12000000200⟩
    (classifyIP ⟨.ip, true, false, true⟩ 7 Prev.init req 10000000050 10000000900
      ⟨7, ⟨48, pkt, true, true, true⟩⟩).isAccept = true := by decide

/-- **accept_sound_scion**: whatever the SCION client accepts is a SCION/UDP packet from the
    queried ISD-AS and host, addressed to the client's ISD-AS and host (`equalsIP`: the header's
    address is of an IP type and is that IP address up to IPv4-mapping — spelled out in
    `C05_scion_accepted_host_is_queried_host` below), authenticated when an
    authenticator with the server SPI and algorithm is present and a key is available, and
    meets every listed condition on the payload. -/
theorem C05_accept_sound_scion (cfg : Cfg) (sc : ScionCtx) (prev : Prev) (req : Req) (cTx1 cRx : Int)
    (d : ScionDgram) (a : Accepted) (h : classifySCION cfg sc prev req cTx1 cRx d = .accept a) :
    d.decodeOk = true ∧ lastLayer d.decoded = some .udp ∧ d.udpLength ≤ d.bufLen ∧
    d.srcIA = sc.remoteIA ∧ equalsIP d.srcHost sc.remoteHost = true ∧
    d.dstIA = sc.localIA ∧ equalsIP d.dstHost sc.localHost = true ∧
    (∀ au, (d.decoded.length ≥ 3 && secondLast d.decoded == some .e2e) = true →
        sc.keyAvailable = true → d.authOpt = some au → au.spi = spiServer → au.alg = algCMAC →
        au.macOk = true) ∧
    PayloadOk cfg req d.payload a := by
  obtain ⟨h1, _, h3, h4, h5, h6, h7, h8, h9, hn⟩ := classifySCION_accept cfg sc prev req cTx1 cRx d a h
  exact ⟨h1, h3, h4, h5, h6, h7, h8, h9, C05_payload_ok _ _ _ _ _ _ _ hn⟩

/-- The authenticator clause is conditional, as in the code: a packet *without* an
    authenticator option is accepted unauthenticated even when a key is available
    (recorded as a limitation of what the client enforces, not a model artefact). -/
example :
    let req : Req := ⟨false, zero64, zero64, ofTime 10000000000, 10000000000⟩
    let pkt : NtpPkt := ⟨36, 1, req.tx, ofTime 12000000100, ofTime 12000000200⟩
    (classifySCION ⟨.scion, true, false, true⟩ ⟨1, [10, 0, 0, 2], 3, [10, 0, 0, 4], true⟩ Prev.init req 10000000050 10000000900
      ⟨true, [.scion, .udp], 100, 56, 1, .v4 10 0 0 2, 3, .v4 10 0 0 4, none, none, ⟨48, pkt, true, true, true⟩⟩).isAccept = true := by
  decide

/-- **never_offset_otherwise** (IP): an exchange yields an offset only through a datagram of
    the delivered sequence that `classifyIP` accepts — hence (accept_sound_ip) one meeting all
    conditions; every other course of the loop ends in an error, a panic, or is still waiting.
    At most two events are consumed (one retry). -/
theorem C05_never_offset_otherwise_ip (cfg : Cfg) (server : Nat) (prev : Prev) (reference : String)
    (now cTx1 : Int) (evs : List (Event IpDgram)) :
    let req := mkRequest cfg prev reference now
    let res := exchangeIP cfg server prev reference now cTx1 evs
    (∀ a n, res.1 = .accepted a n →
      n ≤ 2 ∧ ∃ d cRx b, Event.dgram d cRx b ∈ evs ∧ d.src = server ∧ PayloadOk cfg req d.payload a) ∧
    (res.1.hasOffset = false → res.2 = prev) := by
  refine ⟨fun a n h => ⟨(runLoop_consumes _ _ _ 0 0 (Nat.zero_le _)).1 a n h, ?_⟩, prev_of_no_offset cfg prev reference cTx1 _⟩
  obtain ⟨d, cRx, b, hm, hc⟩ := runLoop_accepted _ _ _ _ _ _ _ h
  exact ⟨d, cRx, b, hm, C05_accept_sound_ip _ _ _ _ _ _ _ _ hc⟩

/-- **never_offset_otherwise** (SCION, per exchange). -/
theorem C05_never_offset_otherwise_scion (cfg : Cfg) (sc : ScionCtx) (prev : Prev) (reference : String)
    (now cTx1 : Int) (evs : List (Event ScionDgram)) :
    let req := mkRequest cfg prev reference now
    let res := exchangeSCION cfg sc prev reference now cTx1 evs
    (∀ a n, res.1 = .accepted a n →
      n ≤ 2 ∧ ∃ d cRx b, Event.dgram d cRx b ∈ evs ∧
        d.srcIA = sc.remoteIA ∧ equalsIP d.srcHost sc.remoteHost = true ∧
        d.dstIA = sc.localIA ∧ equalsIP d.dstHost sc.localHost = true ∧
        PayloadOk cfg req d.payload a) ∧
    (res.1.hasOffset = false → res.2 = prev) := by
  refine ⟨fun a n h => ⟨(runLoop_consumes _ _ _ 0 0 (Nat.zero_le _)).1 a n h, ?_⟩, prev_of_no_offset cfg prev reference cTx1 _⟩
  obtain ⟨d, cRx, b, hm, hc⟩ := runLoop_accepted _ _ _ _ _ _ _ h
  obtain ⟨_, _, _, h5, h6, h7, h8, _, hp⟩ := C05_accept_sound_scion _ _ _ _ _ _ _ _ hc
  exact ⟨d, cRx, b, hm, h5, h6, h7, h8, hp⟩

/-- "one retry then error": a second unacceptable datagram ends the exchange with an error. -/
theorem C05_one_retry_then_error {D : Type} (classify : Int → D → Step) (dl : Bool)
    (e1 e2 : Event D) (rest : List (Event D)) (a : Accepted) (n : Nat)
    (h : runLoop classify dl 0 0 (e1 :: e2 :: rest) = .accepted a n) :
    (∃ d cRx b, e1 = .dgram d cRx b ∧ classify cRx d = .accept a) ∨
    (∃ d cRx b, e2 = .dgram d cRx b ∧ classify cRx d = .accept a) := by
  rcases runLoop_cons_accepted classify dl h with ⟨hs, _⟩ | ⟨_, h⟩
  · exact .inl (Event.step_accept classify hs)
  · -- the retry is used up: `mayRetry 1 …` is false, the second event decides
    rcases runLoop_cons_accepted classify dl h with ⟨hs, _⟩ | ⟨hr, _⟩
    · exact .inr (Event.step_accept classify hs)
    · cases hr

/-! ### Origin clause per request mode (seeded change C05-4 / C05-1: "interleaved" match not
tied to an interleaved request) -/

/-- After a *basic* request the only origin timestamp that is accepted is the request's
    transmit timestamp, and the response is evaluated as a basic one (the tuple is the
    exchange's own: `t0 = cTxTime1`, `t3 = cRxTime`) — whatever the request's receive field
    (zero for a basic request) and the client's stale `prev` contain. -/
theorem C05_basic_request_accepts_only_tx_echo (cfg : Cfg) (prev : Prev) (req : Req) (cTx1 cRx : Int)
    (p : Payload) (a : Accepted) (hb : req.interleaved = false)
    (h : ntpStage cfg prev req cTx1 cRx p = .accept a) :
    p.pkt.origin = req.tx ∧ a.il = false ∧ a.t0 = cTx1 ∧ a.t3 = cRx := by
  obtain ⟨_, _, ho, _, ha, _, _⟩ := ntpStage_accept cfg prev req cTx1 cRx p a h
  rw [ha, tupleOf_basic _ _ _ _ _ (by rw [hb]; rfl)]
  exact ⟨ho.resolve_left (fun hi => by rw [hb] at hi; cases hi.1), rfl, rfl, rfl⟩

/-- In particular a datagram whose origin timestamp is all zero — equal to the receive field
    of every basic request — is never accepted after a basic request built by `mkRequest`
    (its transmit field is `Time64FromTime(cTxTime0)`, non-zero for every clock reading that
    is not exactly the NTP era boundary). -/
theorem C05_zero_origin_never_accepted_after_basic_request (cfg : Cfg) (prev : Prev)
    (reference : String) (now cTx1 cRx : Int) (p : Payload)
    (hb : (mkRequest cfg prev reference now).interleaved = false)
    (hnow : ofTime now ≠ zero64) (hz : p.pkt.origin = zero64) :
    (ntpStage cfg prev (mkRequest cfg prev reference now) cTx1 cRx p).isAccept = false := by
  refine Step.isAccept_false fun a hs => ?_
  have ho := (C05_basic_request_accepts_only_tx_echo cfg prev _ cTx1 cRx p a hb hs).1
  rw [hz, mkRequest_basic_tx _ _ _ _ hb] at ho
  exact hnow ho.symm

/-- non-vacuity: a client with stale state (last exchange 10 s ago) sends a basic request
    although interleaved mode is on; the zero-origin datagram whose transmit stamp lies just
    after `prev.sRx` (a valid interleaved tuple w.r.t. the stale state) is skipped, the same
    datagram echoing the transmit timestamp is what a basic exchange evaluates. -/
example :
    let prev : Prev := ⟨"S", true, ofTime 10000000000, ofTime 10000050000, ofTime 10000030000⟩
    let cfg : Cfg := ⟨.scion, true, false, true⟩
    let req := mkRequest cfg prev "S" 20000000000
    req.interleaved = false ∧ ofTime 20000000000 ≠ zero64 ∧
    ntpStage cfg prev req 20000000050 20000000900
      ⟨48, ⟨36, 1, zero64, ofTime 20000000100, ofTime 10000050000⟩, true, true, true⟩ = .skip .unexpected ∧
    (ntpStage cfg prev req 20000000050 20000000900
      ⟨48, ⟨36, 1, req.tx, ofTime 20000000100, ofTime 20000000200⟩, true, true, true⟩).isAccept = true := by
  decide

/-- Only an interleaved request lets a response be evaluated against the stored stamps of the
    previous exchange, and then only if it echoes the request's receive timestamp. -/
theorem C05_interleaved_tuple_only_for_interleaved_request (cfg : Cfg) (prev : Prev) (req : Req)
    (cTx1 cRx : Int) (p : Payload) (a : Accepted) (h : ntpStage cfg prev req cTx1 cRx p = .accept a)
    (hil : a.il = true) : req.interleaved = true ∧ p.pkt.origin = req.rx := by
  obtain ⟨_, _, _, _, ha, _, _⟩ := ntpStage_accept cfg prev req cTx1 cRx p a h
  subst ha
  simpa [tupleOf] using hil

/-- non-vacuity: an interleaved request (state 1 s old) answered with an interleaved response
    (origin = the request's receive field, transmit stamp just after `prev.sRx`) is accepted and
    evaluated against the stored stamps. -/
example :
    let prev : Prev := ⟨"S", true, ofTime 10000000000, ofTime 10000050000, ofTime 10000030000⟩
    let cfg : Cfg := ⟨.ip, true, false, true⟩
    let req := mkRequest cfg prev "S" 11000000000
    req.interleaved = true ∧
    (match ntpStage cfg prev req 11000000050 11000000900
      ⟨48, ⟨36, 1, req.rx, ofTime 11000000100, ofTime 10000040000⟩, true, true, true⟩ with
     | .accept a => a.il
     | _ => false) = true := by
  decide

/-! ### Packet authenticator (client clause of C13; seeded change C13-5: extension looked up by
the SCION next-header field) -/

/-- With a key available, a response that carries — in its end-to-end extension, wherever that
    sits behind the SCION header — an authenticator option with the time-service server SPI and
    algorithm whose MAC does not verify is never accepted: the loop skips it (retry once, then
    the error is returned) before the payload is looked at. -/
theorem C05_scion_invalid_authenticator_never_accepted (cfg : Cfg) (sc : ScionCtx) (prev : Prev)
    (req : Req) (cTx1 cRx : Int) (d : ScionDgram) (au : AuthOpt)
    (he : (d.decoded.length ≥ 3 && secondLast d.decoded == some .e2e) = true)
    (hk : sc.keyAvailable = true) (hau : d.authOpt = some au)
    (hspi : au.spi = spiServer) (halg : au.alg = algCMAC) (hmac : au.macOk = false) :
    (classifySCION cfg sc prev req cTx1 cRx d).isAccept = false := by
  refine Step.isAccept_false fun a hs => ?_
  obtain ⟨_, _, _, _, _, _, _, h8, _⟩ := C05_accept_sound_scion cfg sc prev req cTx1 cRx d a hs
  have := h8 au he hk hau hspi halg
  rw [hmac] at this; cases this

/-- The end-to-end extension is recognised by its position in front of the UDP layer, not by
    the SCION header's next-header field: any layers in front of it (a hop-by-hop extension
    header) do not hide the authenticator. -/
theorem C05_scion_hbh_does_not_hide_authenticator (cfg : Cfg) (sc : ScionCtx) (prev : Prev)
    (req : Req) (cTx1 cRx : Int) (d : ScionDgram) (au : AuthOpt) (pre : List Layer)
    (hpre : pre ≠ []) (hd : d.decoded = pre ++ [.e2e, .udp])
    (hk : sc.keyAvailable = true) (hau : d.authOpt = some au)
    (hspi : au.spi = spiServer) (halg : au.alg = algCMAC) (hmac : au.macOk = false) :
    (classifySCION cfg sc prev req cTx1 cRx d).isAccept = false := by
  apply C05_scion_invalid_authenticator_never_accepted cfg sc prev req cTx1 cRx d au ?_ hk hau hspi halg hmac
  have := List.length_pos_iff.mpr hpre
  rw [hd, show pre ++ [Layer.e2e, .udp] = pre ++ [.e2e] ++ [.udp] by simp]
  simp [secondLast]
  omega

/-- non-vacuity / the concrete packets of the stream: SCION | HBH | E2E(authenticator, MAC
    wrong) | UDP is skipped with `errInvalidPacketAuthenticator`; the same with a verifying MAC,
    and SCION | HBH | UDP without any authenticator, are accepted. -/
example :
    let req : Req := ⟨false, zero64, zero64, ofTime 10000000000, 10000000000⟩
    let pay : Payload := ⟨48, ⟨36, 1, req.tx, ofTime 12000000100, ofTime 12000000200⟩, true, true, true⟩
    let cfg : Cfg := ⟨.scion, true, false, true⟩
    let sc : ScionCtx := ⟨1, [10, 0, 0, 2], 3, [10, 0, 0, 4], true⟩
    classifySCION cfg sc Prev.init req 10000000050 10000000900
      ⟨true, [.scion, .hbh, .e2e, .udp], 132, 56, 1, .v4 10 0 0 2, 3, .v4 10 0 0 4, none, some ⟨true, spiServer, algCMAC, false⟩, pay⟩
      = .skip .auth ∧
    (classifySCION cfg sc Prev.init req 10000000050 10000000900
      ⟨true, [.scion, .hbh, .e2e, .udp], 132, 56, 1, .v4 10 0 0 2, 3, .v4 10 0 0 4, none, some ⟨true, spiServer, algCMAC, true⟩, pay⟩).isAccept
      = true ∧
    (classifySCION cfg sc Prev.init req 10000000050 10000000900
      ⟨true, [.scion, .hbh, .udp], 100, 56, 1, .v4 10 0 0 2, 3, .v4 10 0 0 4, none, none, pay⟩).isAccept = true := by
  decide

/-! ### The exported `MeasureClockOffsetIP` (up to three attempts) -/

/-- Success of the wrapper stems from a successful attempt: if anything was attempted and the
    result carries no error, the returned timestamp and offset are those of an attempt that
    accepted a response. With nothing but failed attempts the result is an error. -/
theorem C05_wrapper_ip_sound (il : Bool) (atts : List Attempt) (hne : atts ≠ []) :
    let s := wrapIP il atts
    (s.err = none → ∃ inIL, Attempt.ok s.ts s.off inIL ∈ atts) ∧
    ((∀ x ∈ atts, ∃ e, x = .err e) → s.err ≠ none) := by
  intro s
  have hne' : atts.take (if il then 3 else 1) ≠ [] := by
    cases atts with
    | nil => exact absurd rfl hne
    | cons a r => cases il <;> simp
  refine ⟨fun h => ?_, fun hall => ?_⟩
  · obtain ⟨_, b, hb⟩ := ClientFlow.wrapLoop_nil_error _ hne' h
    exact ⟨b, List.mem_of_mem_take hb⟩
  · exact ((ClientFlow.wrapLoop_result _ hne').2
      (ClientFlow.lastOkGo_all_err _ fun y hy => hall y (List.mem_of_mem_take hy))).1

/-! ### C08 clause: the network-supplied receive time (SCION E2E timestamp option) -/

/-- As repaired, the receive time the SCION client evaluates lies inside the exchange whatever
    the packet's timestamp option says. -/
theorem C05_scion_rx_time_within_exchange (d : ScionDgram) (cTx1 cRx : Int) (hle : cTx1 ≤ cRx) :
    cTx1 ≤ scionRxTime d cTx1 cRx ∧ scionRxTime d cTx1 cRx ≤ cRx :=
  scionRxTime_within d cTx1 cRx hle

/-- Hence no datagram makes a basic exchange of the SCION client reach
    `panic("unexpected system clock behavior")` (kernel receive time not before the kernel
    transmit time), and — as repaired — none reaches the panic of `PacketAuthOptMetadata`
    either: an authenticator option of any length is handled. For an interleaved response
    `t0`, `t3` are the previous exchange's stored stamps, which by the same bound are ordered
    when they were stored. -/
theorem C05_scion_basic_no_panic (cfg : Cfg) (sc : ScionCtx) (prev : Prev) (req : Req) (cTx1 cRx : Int)
    (d : ScionDgram) (hb : req.interleaved = false) (hle : cTx1 ≤ cRx) :
    classifySCION cfg sc prev req cTx1 cRx d ≠ .panic := by
  intro hp
  rcases classifySCION_cases cfg sc prev req cTx1 cRx d with ⟨_, _, _, hs⟩ | ⟨_, hn, _⟩
  · rw [hp] at hs; cases hs
  · exact ntpStage_basic_no_panic cfg prev req cTx1 _ d.payload hb (scionRxTime_within d cTx1 cRx hle).1
      (hn ▸ hp)

/-- The code before the fix (client-side twin of F4b): with a key available, a datagram with
    the right addresses whose authenticator option data is not 28 bytes long made the client
    panic — no key is needed to send it (failing input found by the check, sig
    `C08:client:panic-on-datagram`, stream `e2e:auth:len27`); as repaired it is an
    authentication failure. -/
theorem C05_scion_malformed_authenticator_old_counterexample :
    let req : Req := ⟨false, zero64, zero64, ofTime 4000000000000, 4000000000000⟩
    let pkt : NtpPkt := ⟨36, 1, req.tx, ofTime 4000000100000, ofTime 4000000200000⟩
    let d : ScionDgram := ⟨true, [.scion, .e2e, .udp], 160, 56, 1, .v4 10 0 0 2, 3, .v4 10 0 0 4, none, some ⟨false, 0, 0, false⟩,
      ⟨48, pkt, true, true, true⟩⟩
    classifySCIONAuthOld ⟨.scion, true, false, true⟩ ⟨1, [10, 0, 0, 2], 3, [10, 0, 0, 4], true⟩ Prev.init req 4000000050000 4000000900000 d
      = .panic ∧
    classifySCION ⟨.scion, true, false, true⟩ ⟨1, [10, 0, 0, 2], 3, [10, 0, 0, 4], true⟩ Prev.init req 4000000050000 4000000900000 d
      = .skip .auth := by
  decide

/-- The code before the fix: a reply that is genuine except for a timestamp option carrying a
    time one hour before the request makes the client panic (failing input found by the check,
    sig `C08:client-scion:tsopt-early-time`; here with the request sent at t = 4000 s). -/
theorem C05_scion_tsopt_old_counterexample :
    let req : Req := ⟨false, zero64, zero64, ofTime 4000000000000, 4000000000000⟩
    let pkt : NtpPkt := ⟨36, 1, req.tx, ofTime 4000000100000, ofTime 4000000200000⟩
    let d : ScionDgram := ⟨true, [.scion, .e2e, .udp], 160, 56, 1, .v4 10 0 0 2, 3, .v4 10 0 0 4, some 400000000000, none,
      ⟨48, pkt, true, true, true⟩⟩
    classifySCIONOld ⟨.scion, true, false, true⟩ ⟨1, [10, 0, 0, 2], 3, [10, 0, 0, 4], false⟩ Prev.init req 4000000050000 4000000900000 d
      = .panic ∧
    (classifySCION ⟨.scion, true, false, true⟩ ⟨1, [10, 0, 0, 2], 3, [10, 0, 0, 4], false⟩ Prev.init req 4000000050000 4000000900000 d).isAccept
      = true := by
  decide

/-! ### Host addresses of a received SCION header (C05 "from the queried host … addressed to the
client"; C08: the address bytes and the address type are network input) -/

/-- "Equal up to IPv4-mapping", spelled out on the bytes: two slices that `netip.AddrFromSlice`
    and `Unmap` send to the same address are the same slice, or one is the other with the
    twelve bytes `::ffff:` in front. -/
theorem C05_unmapIP_same (x y a : List Nat) (hx : unmapIP x = some a) (hy : unmapIP y = some a) :
    x = y ∨ x = v4mappedPrefix ++ y ∨ y = v4mappedPrefix ++ x := by
  rcases (unmapIP_some hx).2.2 with rfl | rfl <;> rcases (unmapIP_some hy).2.2 with rfl | rfl
  · exact .inl rfl
  · exact .inr (.inr rfl)
  · exact .inr (.inl rfl)
  · exact .inl rfl

/-- What `equalsIP` (repaired comparison) accepts: an address of an IP type whose bytes denote
    the same IP address as `ip`, up to IPv4-mapping. -/
theorem C05_equalsIP_sound (h : HostAddr) (ip : List Nat) (he : equalsIP h ip = true) :
    (h.type = t4Ip ∨ h.type = t16Ip) ∧
    (h.raw = ip ∨ h.raw = v4mappedPrefix ++ ip ∨ ip = v4mappedPrefix ++ h.raw) ∧
    (h.raw.length = 4 ∨ h.raw.length = 16) := by
  unfold equalsIP at he
  simp only [Bool.and_eq_true, Bool.or_eq_true, beq_iff_eq] at he
  obtain ⟨ht, hm⟩ := he
  split at hm
  · rename_i a b hx hy
    obtain rfl := beq_iff_eq.mp hm
    exact ⟨ht, C05_unmapIP_same _ _ _ hx hy, (unmapIP_some hx).1⟩
  · cases hm

/-- **accepted source = queried host**: whatever the SCION client accepts carries, as source, an
    address of an IP type that is the queried server's IP address up to IPv4-mapping, and as
    destination likewise the client's own address. -/
theorem C05_scion_accepted_host_is_queried_host (cfg : Cfg) (sc : ScionCtx) (prev : Prev) (req : Req)
    (cTx1 cRx : Int) (d : ScionDgram) (a : Accepted)
    (h : classifySCION cfg sc prev req cTx1 cRx d = .accept a) :
    ((d.srcHost.type = t4Ip ∨ d.srcHost.type = t16Ip) ∧
      (d.srcHost.raw = sc.remoteHost ∨ d.srcHost.raw = v4mappedPrefix ++ sc.remoteHost ∨
        sc.remoteHost = v4mappedPrefix ++ d.srcHost.raw)) ∧
    ((d.dstHost.type = t4Ip ∨ d.dstHost.type = t16Ip) ∧
      (d.dstHost.raw = sc.localHost ∨ d.dstHost.raw = v4mappedPrefix ++ sc.localHost ∨
        sc.localHost = v4mappedPrefix ++ d.dstHost.raw)) := by
  obtain ⟨_, _, _, _, hs, _, hd, _, _⟩ := C05_accept_sound_scion cfg sc prev req cTx1 cRx d a h
  exact ⟨⟨(C05_equalsIP_sound _ _ hs).1, (C05_equalsIP_sound _ _ hs).2.1⟩,
         ⟨(C05_equalsIP_sound _ _ hd).1, (C05_equalsIP_sound _ _ hd).2.1⟩⟩

/-- non-vacuity, and the shapes of the live stream `c05addr`: the server's IPv4 address in a
    4-byte and in an IPv4-mapped 16-byte header field are the queried host; an IPv6 address that
    merely ends in the server's four bytes (seeded change C05-7: `2001:db8::7f00:1` for
    `127.0.0.1`), a service address with the same bytes, and 8- or 12-byte fields are not. -/
example :
    equalsIP (.v4 127 0 0 1) [127, 0, 0, 1] = true ∧
    equalsIP ⟨t16Ip, v4mappedPrefix ++ [127, 0, 0, 1]⟩ [127, 0, 0, 1] = true ∧
    equalsIP (.v4 127 0 0 1) (v4mappedPrefix ++ [127, 0, 0, 1]) = true ∧
    equalsIP ⟨t16Ip, [0x20, 0x01, 0x0d, 0xb8, 0, 0, 0, 0, 0, 0, 0, 0, 127, 0, 0, 1]⟩ [127, 0, 0, 1] = false ∧
    equalsIP ⟨t16Ip, [0, 0, 0, 0, 0, 0, 0, 0, 0, 0, 0, 0, 127, 0, 0, 1]⟩ [127, 0, 0, 1] = false ∧
    equalsIP ⟨t4Svc, [127, 0, 0, 1]⟩ [127, 0, 0, 1] = false ∧
    equalsIP ⟨1, [127, 0, 0, 1, 0, 0, 0, 0]⟩ [127, 0, 0, 1] = false ∧
    equalsIP ⟨2, [0, 0, 0, 0, 0, 0, 0, 0, 127, 0, 0, 1]⟩ [127, 0, 0, 1] = false := by decide

/-- **foreign or non-IP addresses are skipped**: a datagram that fails the source/destination
    test — other ISD-AS, other host, service address, unassigned type, 8 or 12 address bytes —
    is treated like any other datagram from someone else: the loop skips it (one retry, then
    `errUnexpectedPacket` or an earlier structural error). Never a panic, never accepted, and
    never an error returned at once. -/
theorem C05_scion_foreign_address_is_skipped (cfg : Cfg) (sc : ScionCtx) (prev : Prev) (req : Req)
    (cTx1 cRx : Int) (d : ScionDgram) (h : addrValid sc d = false) :
    ∃ e, classifySCION cfg sc prev req cTx1 cRx d = .skip e := by
  rcases classifySCION_cases cfg sc prev req cTx1 cRx d with ⟨s, _, _, hs⟩ | ⟨_, _, _, _, _, _, _, hv⟩
  · exact ⟨_, hs⟩
  · rw [h] at hv; cases hv

/-- **no panic through the address comparison** (C08): whatever type and bytes the host
    addresses of a datagram have, if the SCION client's loop body panics at all, the panic is the
    one of `ValidateResponseTimestamps` in the NTP stage — reached only with both addresses
    valid — which `C05_scion_basic_no_panic` excludes for basic exchanges. -/
theorem C05_scion_panic_only_from_timestamps (cfg : Cfg) (sc : ScionCtx) (prev : Prev) (req : Req)
    (cTx1 cRx : Int) (d : ScionDgram) (h : classifySCION cfg sc prev req cTx1 cRx d = .panic) :
    addrValid sc d = true ∧
    ntpStage cfg prev req cTx1 (scionRxTime d cTx1 cRx) d.payload = .panic := by
  rcases classifySCION_cases cfg sc prev req cTx1 cRx d with
    ⟨_, _, _, hs⟩ | ⟨_, hn, _, _, _, _, _, hv⟩
  · rw [h] at hs; cases hs
  · exact ⟨hv, hn ▸ h⟩

/-- The code before the fix (`compareIPs`; client-side twin of F4a). Failing inputs found by the
    check on the unrepaired code (stream `c05addr`, sig `C08:client:panic-on-datagram`, e.g.
    `… ev=s:true:su:96:56:<ria>:t1x7f00000100000000:<lia>:t0x7f000001:…`): a response from the
    queried ISD-AS whose source host field has address type 1 (8 bytes) made the client panic
    ("unexpected IP address byte slice"); as repaired it is skipped. And (sig
    `C05:scion:accepted-response-from-other-host`, `…:t4x7f000001:…`) a *service* address with the
    server's four bytes was taken for the server; as repaired it is skipped as well. -/
theorem C05_scion_compareIPs_old_counterexample :
    let req : Req := ⟨false, zero64, zero64, ofTime 4000000000000, 4000000000000⟩
    let pkt : NtpPkt := ⟨36, 1, req.tx, ofTime 4000000100000, ofTime 4000000200000⟩
    let cfg : Cfg := ⟨.scion, true, false, true⟩
    let sc : ScionCtx := ⟨1, [127, 0, 0, 1], 3, [127, 0, 0, 1], false⟩
    let d8 : ScionDgram := ⟨true, [.scion, .udp], 96, 56, 1, ⟨1, [127, 0, 0, 1, 0, 0, 0, 0]⟩, 3, .v4 127 0 0 1,
      none, none, ⟨48, pkt, true, true, true⟩⟩
    let dsvc : ScionDgram := ⟨true, [.scion, .udp], 92, 56, 1, ⟨t4Svc, [127, 0, 0, 1]⟩, 3, .v4 127 0 0 1,
      none, none, ⟨48, pkt, true, true, true⟩⟩
    classifySCIONAddrOld cfg sc Prev.init req 4000000050000 4000000900000 d8 = .panic ∧
    classifySCION cfg sc Prev.init req 4000000050000 4000000900000 d8 = .skip .unexpected ∧
    (classifySCIONAddrOld cfg sc Prev.init req 4000000050000 4000000900000 dsvc).isAccept = true ∧
    classifySCION cfg sc Prev.init req 4000000050000 4000000900000 dsvc = .skip .unexpected := by
  decide

/-! ### F13: entry of the per-exchange functions -/

/-- As repaired, a local address that is no valid IP slice yields an error — never a result. -/
theorem C05_entry_no_success_without_datagram (iplen : Nat) :
    entry iplen = .proceed ∨ entry iplen = .errAddr := by
  unfold entry; split <;> simp

/-- The code before the fix returned `(time.Time{}, 0, nil)` — a successful measurement of
    offset 0 without any datagram — for `localAddr.IP == nil` (failing input found by the
    check: `cli.badlocal tr=ip iplen=0`). -/
theorem C05_F13_old_counterexample : entryOld 0 = .successZeroOld := by decide

end ScionTime.C05
