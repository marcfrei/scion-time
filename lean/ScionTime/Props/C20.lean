/-
  C20 — NTS key exchange: bad offers refused, pool = cookies issued, server/port defaults,
  failures leave no state, re-key only when the pool is empty.
  Model: ScionTime/Model/Ntske.lean (TLS branch of Fetcher.exchangeKeys; ReadData; FetchData;
  StoreCookie; newNTSKEMsg). Helper lemmas: ScionTime/Proofs/Ntske.lean.
  Key agreement itself (both sides export the same values from one TLS session) is a
  property of TLS and is observed by the harness, not proved; what is proved is that the
  keys kept are the exporter outputs of the exchange that succeeded, and the label /
  contexts the code passes to the exporter are RFC 8915's.
-/
import ScionTime.Proofs.Ntske
import ScionTime.Gen.Ntske
import ScionTime.Gen.Ntp
import ScionTime.Proofs.ClientNtp
namespace ScionTime.C20
open ScionTime.Ntske

/-! ### Pins: the model's constants are those of the current source -/
theorem C20_pin_alpn : Gen.Ntske.alpn = alpnProto := rfl
theorem C20_pin_record_types :
    Gen.Ntske.RecEom = recEom ∧ Gen.Ntske.RecNextproto = recNextproto ∧ Gen.Ntske.RecError = recError ∧
    Gen.Ntske.RecWarning = recWarning ∧ Gen.Ntske.RecAead = recAead ∧ Gen.Ntske.RecCookie = recCookie ∧
    Gen.Ntske.RecServer = recServer ∧ Gen.Ntske.RecPort = recPort := by decide
theorem C20_pin_algorithm : Gen.Ntske.AES_SIV_CMAC_256 = aesSivCmac256 ∧ Gen.Ntske.NTPv4 = ntpv4 := by decide
theorem C20_pin_ntp_ports :
    Gen.Ntp.ServerPortIP = ntpPortIP ∧ Gen.Ntp.ServerPortSCION = ntpPortSCION := by decide
theorem C20_pin_exporter :
    Gen.Ntske.exportLabel = exporterLabel ∧ Gen.Ntske.exportC2SContext = c2sContext ∧
    Gen.Ntske.exportS2CContext = s2cContext ∧ Gen.Ntske.exportLen = exportLen :=
  ⟨rfl, rfl, rfl, rfl⟩

/-- RFC 8915 §4.3/§5.1: label "EXPORTER-network-time-security"; context = protocol id
    (0x0000, NTPv4), AEAD id (0x000f, AES-SIV-CMAC-256), then 0x00 for C2S / 0x01 for S2C. -/
theorem C20_exporter_rfc8915 :
    exporterLabel = "EXPORTER-network-time-security" ∧
    c2sContext = u16 ntpv4 ++ u16 aesSivCmac256 ++ [0] ∧
    s2cContext = u16 ntpv4 ++ u16 aesSivCmac256 ++ [1] ∧ exportLen = 32 :=
  ⟨rfl, rfl, rfl, rfl⟩

/-- The peer's byte stream consists of the well-formed records `items`, each of which the
    reader accepts (a recognised kind other than error, or an unrecognised kind without the
    critical bit), followed by an end-of-message header; what follows it is not looked at.
    (Every accepted item has a type other than end-of-message, so the header is the *first*
    end-of-message.) -/
def Accepts (stream : List Byte) (items : List Item) : Prop :=
  ∃ (t1 t0 l1 l0 : Byte) (tail : List Byte),
    stream = items.flatMap Item.enc ++ t1 :: t0 :: l1 :: l0 :: tail ∧
    be16 t1 t0 % 32768 = recEom ∧ ∀ it ∈ items, it.wf ∧ it.accepted

/-- **success_iff.** A key exchange succeeds — and then replaces the cached data by `d` —
    exactly when the connection was established, the peer negotiated `ntske/1`, the stream up
    to the first end-of-message consists of well-formed records none of which is an error
    record or an unrecognised critical record, the algorithm negotiated is
    AES-SIV-CMAC-256 (15) and at least one cookie was supplied. `d` is then the fold of the
    records over the defaults, with the two exporter values as keys. -/
theorem C20_success_iff (cached : Data) (e : Exchange) (d : Data) :
    exchangeKeys cached e = (d, none) ↔
      e.dialOk = true ∧ (e.quic = true ∨ e.alpn = alpnProto) ∧ e.exportOk = true ∧
      ∃ items, Accepts e.stream.flatten items ∧
        (items.foldl Item.apply (dialData e)).algo = aesSivCmac256 ∧
        (items.foldl Item.apply (dialData e)).cookies ≠ [] ∧
        d = { items.foldl Item.apply (dialData e) with c2s := e.c2s, s2c := e.s2c } := by
  rw [exchangeKeys_ok_iff, exchangeCore, exchangeCoreFrom_ok_iff]
  simp only [readData_eq_readFlat, readFlat_ok_iff]
  constructor
  · rintro ⟨hd, ha, hx, _, ⟨items, hacc, rfl⟩, h⟩
    exact ⟨hd, ha, hx, items, hacc, h⟩
  · rintro ⟨hd, ha, hx, items, hacc, h⟩
    exact ⟨hd, ha, hx, _, ⟨items, hacc, rfl⟩, h⟩

/-- a concrete successful exchange (segmented inside the cookie, an ignorable record in
    front, garbage after the end-of-message) -/
def exGood : Exchange where
  dialOk := true
  host := [49]
  alpn := "ntske/1"
  stream := [[0, 9, 0, 1, 77, 128, 4, 0, 2, 0, 15, 0, 5, 0, 2, 7], [9, 128, 0, 0, 0, 255]]
  c2s := [1]
  s2c := [2]

example : exchangeKeys {} exGood =
    ({ c2s := [1], s2c := [2], server := [49], port := 123, cookies := [[7, 9]], algo := 15 }, none) := by
  decide

/-- the keys kept after a successful exchange are the two exporter values of that session -/
theorem C20_keys_are_exporter_values (cached : Data) (e : Exchange) (d : Data)
    (h : exchangeKeys cached e = (d, none)) : d.c2s = e.c2s ∧ d.s2c = e.s2c ∧ d.algo = aesSivCmac256 := by
  rw [C20_success_iff] at h
  obtain ⟨_, _, _, items, _, h15, _, rfl⟩ := h
  exact ⟨rfl, rfl, h15⟩

/-- An unrecognised record without the critical bit, anywhere among the records (after any
    accepted records, before anything whatsoever), changes neither the data nor the verdict,
    under any segmentation of either stream. -/
theorem C20_noncritical_ignored (pre : List Item) (it : Item) (rest : List Byte) (d : Data)
    (hpre : ∀ x ∈ pre, x.wf ∧ x.accepted) (hwf : it.wf) (hig : it.ignorable)
    (c₁ c₂ : List (List Byte))
    (h₁ : c₁.flatten = pre.flatMap Item.enc ++ (it.enc ++ rest))
    (h₂ : c₂.flatten = pre.flatMap Item.enc ++ rest) :
    readData c₁ d = readData c₂ d := by
  have happ : ∀ d, it.apply d = d := by
    intro d
    have hk := hig.1
    simp only [knownType, not_or] at hk
    simp [Item.apply, hk]
  rw [readData_eq_readFlat, readData_eq_readFlat, h₁, h₂, readFlat_items pre _ d hpre,
    readFlat_items pre _ d hpre, readFlat_item it rest _ hwf (.inr hig.2), happ]

example : Item.ignorable ⟨0, 3, 0, 2, [0, 1]⟩ ∧ Item.wf ⟨0, 3, 0, 2, [0, 1]⟩ := by
  refine ⟨⟨?_, ?_, ?_, ?_⟩, ?_⟩ <;> simp [knownType, Item.typ, Item.raw, Item.crit, Item.wf, Item.blen, be16, bodyNeed,
    recEom, recNextproto, recAead, recCookie, recServer, recPort, recError]

/-- After a successful exchange the data handed out carries exactly the cookies of the
    stream's cookie records, in stream order, and the pool keeps all but the first. -/
theorem C20_pool_is_issued (cached : Data) (e : Exchange) (d : Data)
    (hempty : cached.cookies = []) (h : exchangeKeys cached e = (d, none)) :
    (∃ items, Accepts e.stream.flatten items ∧
      d.cookies = (items.filter (fun it => it.typ == recCookie)).map Item.body) ∧
    (fetchData cached e).out = .ok d ∧ (fetchData cached e).cached.cookies = d.cookies.drop 1 := by
  constructor
  · rw [C20_success_iff] at h
    obtain ⟨_, _, _, items, hacc, _, _, rfl⟩ := h
    exact ⟨items, hacc, by simp [foldl_apply_cookies, dialData]⟩
  · unfold fetchData fetchWith
    simp [hempty, h]

/-- NTP requests go to the server and port named in the exchange — the last server / port
    record before the end-of-message — and by default to the key-exchange host and the
    standard NTP port (123 over IP, 10123 over SCION). -/
theorem C20_server_port_defaults (cached : Data) (e : Exchange) (d : Data)
    (h : exchangeKeys cached e = (d, none)) :
    ∃ items, Accepts e.stream.flatten items ∧
      ((∀ it ∈ items, it.typ ≠ recServer) → d.server = e.host) ∧
      ((∀ it ∈ items, it.typ ≠ recPort) → d.port = if e.quic then ntpPortSCION else ntpPortIP) ∧
      (∀ pre sv post, items = pre ++ sv :: post → sv.typ = recServer →
        (∀ it ∈ post, it.typ ≠ recServer) → d.server = sv.body) ∧
      (∀ pre pt post, items = pre ++ pt :: post → pt.typ = recPort →
        (∀ it ∈ post, it.typ ≠ recPort) → d.port = be16 (pt.body.getD 0 0) (pt.body.getD 1 0)) := by
  rw [C20_success_iff] at h
  obtain ⟨_, _, _, items, hacc, _, _, rfl⟩ := h
  refine ⟨items, hacc, ?_, ?_, ?_, ?_⟩
  · intro hn; simp [foldl_apply_server items _ hn, dialData]
  · intro hn; simp [foldl_apply_port items _ hn, dialData]
  · rintro pre sv post rfl hsv hpost
    simp only [List.foldl_append, List.foldl_cons]
    rw [foldl_apply_server post _ hpost, Item.apply_eq]
    exact if_pos hsv
  · rintro pre pt post rfl hpt hpost
    simp only [List.foldl_append, List.foldl_cons]
    rw [foldl_apply_port post _ hpost, Item.apply_eq]
    exact if_pos hpt

/-! ### The NTP request goes to the server and port named in the exchange (client glue in
core/client/client_ip.go and client_scion.go; model `ClientNtp.ntsDestination`) -/

open ScionTime.ClientNtp in
/-- **request destination**: the NTS-protected request (it carries a cookie of the new
    association) can go to one place only — the IP address that `net.ParseIP` reads from the
    named server (in its 4-byte form when it has one) and the named port. It does not depend on
    what the caller's address object held before (the configured server, or the server named by
    an earlier exchange); and when the named server is no IP literal (`parsed = none`: host name,
    zoned literal, empty, garbage) nothing is sent. -/
theorem C20_nts_request_destination (held held' : List Nat × Nat) (parsed : Option (List Nat)) (port : Nat) :
    ntsDestination held parsed port = ntsDestination held' parsed port ∧
    (∀ ip p, ntsDestination held parsed port = some (ip, p) →
      p = port ∧ ∃ lit, parsed = some lit ∧ unmapIP lit = some ip) ∧
    (parsed = none → ntsDestination held parsed port = none) :=
  ⟨rfl, fun _ _ => ntsDestination_some, fun h => by subst h; rfl⟩

open ScionTime.ClientNtp in
/-- non-vacuity and the cases of the live stream `c20ntsdest`: `::ffff:127.0.0.2` port 4123 goes
    to 127.0.0.2:4123 whatever was configured; `2001:db8::7f00:1` stays a 16-byte address; a
    server that is no IP literal goes nowhere. -/
example :
    ntsDestination ([127, 0, 0, 1], 123) (some (v4mappedPrefix ++ [127, 0, 0, 2])) 4123 = some ([127, 0, 0, 2], 4123) ∧
    ntsDestination ([127, 0, 0, 1], 123)
      (some [0x20, 0x01, 0x0d, 0xb8, 0, 0, 0, 0, 0, 0, 0, 0, 127, 0, 0, 1]) 123
      = some ([0x20, 0x01, 0x0d, 0xb8, 0, 0, 0, 0, 0, 0, 0, 0, 127, 0, 0, 1], 123) ∧
    ntsDestination ([127, 0, 0, 1], 123) none 4123 = none := by decide

open ScionTime.ClientNtp in
/-- Composition with the key exchange: after a successful exchange the request goes to what
    `net.ParseIP` (a parameter: `parseIP`) makes of the *last server record* of the accepted
    stream and to the port of the *last port record* — never to the configured address when the
    exchange named one. -/
theorem C20_request_goes_to_named_server (parseIP : List Byte → Option (List Nat))
    (cached : Data) (e : Exchange) (d : Data) (held : List Nat × Nat)
    (h : exchangeKeys cached e = (d, none)) :
    ∃ items, Accepts e.stream.flatten items ∧
      (∀ pre sv post, items = pre ++ sv :: post → sv.typ = recServer →
        (∀ it ∈ post, it.typ ≠ recServer) →
        (parseIP sv.body = none → ntsDestination held (parseIP d.server) d.port = none) ∧
        (∀ ip p, ntsDestination held (parseIP d.server) d.port = some (ip, p) →
          ∃ lit, parseIP sv.body = some lit ∧ unmapIP lit = some ip)) ∧
      (∀ pre pt post, items = pre ++ pt :: post → pt.typ = recPort →
        (∀ it ∈ post, it.typ ≠ recPort) →
        ∀ ip p, ntsDestination held (parseIP d.server) d.port = some (ip, p) →
          p = be16 (pt.body.getD 0 0) (pt.body.getD 1 0)) := by
  obtain ⟨items, hacc, _, _, hsv, hpt⟩ := C20_server_port_defaults cached e d h
  refine ⟨items, hacc, ?_, ?_⟩
  · intro pre sv post hi ht hpost
    rw [hsv pre sv post hi ht hpost]
    exact ⟨fun hn => by rw [hn]; rfl,
      fun ip p hd => ((C20_nts_request_destination held held _ _).2.1 ip p hd).2⟩
  · intro pre pt post hi ht hpost ip p hd
    rw [((C20_nts_request_destination held held _ _).2.1 ip p hd).1, hpt pre pt post hi ht hpost]

open ScionTime.ClientNtp in
/-- The SCION client before the fix: a server name that is no IP literal — which an NTS-KE
    server is free to send (RFC 8915 allows a host name) — made the client panic
    (`panic(errUnexpectedAddrType)`; failing input found by the check on the unrepaired code:
    `cli.ntsdest tr=scion parsed=- …` with `ntske.Data{Server: "localhost"}`, sig
    `C08:client:panic-on-key-exchange-data`); as repaired nothing is sent and the call fails. -/
theorem C20_scion_client_old_panics_on_server_name :
    ntsDestinationSCIONOld none 4123 = .panic ∧ ntsDestination ([127, 0, 0, 1], 123) none 4123 = none := by
  decide

/-- A failed exchange leaves the cached data exactly as it was. -/
theorem C20_failure_leaves_nothing (cached : Data) (e : Exchange) (c' : Data) (err : ExErr)
    (h : exchangeKeys cached e = (c', some err)) : c' = cached := by
  unfold exchangeKeys at h
  cases hc : exchangeCore e with
  | mk d1 r =>
    rw [hc] at h
    cases r <;> cases h
    rfl

/-- `FetchData` performs a key exchange exactly when the pool is empty. -/
theorem C20_rekey_only_when_empty (cached : Data) (e : Exchange) :
    (fetchData cached e).exchanged = true ↔ cached.cookies = [] := by
  rcases fetchWith_cases exchangeKeys cached e with ⟨hc, hf⟩ | ⟨hc, ⟨_, _, hf⟩ | ⟨_, _, _, hf⟩⟩ <;>
    simp [fetchData, hf, hc]

/-- With a non-empty pool `FetchData` hands out a copy of the cached data, pops one cookie,
    and does not look at the network at all. -/
theorem C20_fetch_from_pool (cached : Data) (e : Exchange) (h : cached.cookies ≠ []) :
    (fetchData cached e).out = .ok cached ∧ (fetchData cached e).exchanged = false ∧
    (fetchData cached e).cached = { cached with cookies := cached.cookies.drop 1 } := by
  rcases fetchWith_cases exchangeKeys cached e with ⟨_, hf⟩ | ⟨hc, _⟩
  · rw [fetchData, hf]
    exact ⟨rfl, rfl, rfl⟩
  · exact absurd hc h

/-- After a failed `FetchData` (which can only happen with an empty pool) nothing was kept:
    the cached data is unchanged, the pool is still empty, and the next `FetchData` performs
    a complete new exchange whatever the peer does. -/
theorem C20_failed_fetch_then_new_exchange (cached : Data) (e e' : Exchange) (err : ExErr)
    (hfail : (fetchData cached e).out = .error err) :
    (fetchData cached e).cached = cached ∧ cached.cookies = [] ∧
    (fetchData (fetchData cached e).cached e').exchanged = true := by
  rw [fetchData] at hfail ⊢
  rcases fetchWith_cases exchangeKeys cached e with ⟨_, hf⟩ | ⟨hc, ⟨_, _, hf⟩ | ⟨c, err', hx, hf⟩⟩
  · rw [hf] at hfail; cases hfail
  · rw [hf] at hfail; cases hfail
  · rw [hf, C20_failure_leaves_nothing cached e c err' hx]
    exact ⟨rfl, hc, (C20_rekey_only_when_empty cached e').mpr hc⟩

/-- `FetchData` has no failure of its own: it fails exactly when the pool is empty and the key
    exchange fails, with the exchange's error. (Its body is pinned row by row in `SkelC20`; the
    direct oracle of harness c20 counts a failed `FetchData` whatever its cause.) -/
theorem C20_fetch_fails_iff_exchange_fails (cached : Data) (e : Exchange) (err : ExErr) :
    (fetchData cached e).out = .error err ↔
      cached.cookies = [] ∧ (exchangeKeys cached e).2 = some err := by
  rcases fetchWith_cases exchangeKeys cached e with ⟨hc, hf⟩ | ⟨hc, ⟨_, hx, hf⟩ | ⟨_, _, hx, hf⟩⟩ <;>
    simp [fetchData, *]

/-- The function at the pinned commit is the variant without a check. -/
theorem C20_postCheck_none (cached : Data) (e : Exchange) :
    fetchDataPostCheck (fun _ => none) cached e = fetchData cached e := by
  unfold fetchDataPostCheck fetchData fetchWith
  split
  · cases hx : exchangeKeys cached e with
    | mk c r => cases r <;> rfl
  · rfl

/-- Why a check placed in `FetchData` behind `exchangeKeys` breaks "a failed exchange leaves nothing
    behind" (seeded C20-17), for EVERY such check and error value: if it refuses the data of an
    exchange that issued at least two cookies, the call fails, yet the refused data stays cached with
    its whole pool, and the next `FetchData` — whatever the peer would do — opens no connection
    and hands out exactly the refused data. -/
theorem C20_postCheck_after_store_refuted (refuse : Data → Option ExErr) (cached d : Data)
    (e e' : Exchange) (err : ExErr) (c1 c2 : List Byte) (rest : List (List Byte))
    (hempty : cached.cookies = []) (hex : exchangeKeys cached e = (d, none))
    (hck : d.cookies = c1 :: c2 :: rest) (hre : refuse d = some err) :
    let r1 := fetchDataPostCheck refuse cached e
    r1.out = .error err ∧ r1.cached = d ∧
    (fetchDataPostCheck refuse r1.cached e').exchanged = false ∧
    (fetchDataPostCheck refuse r1.cached e').out = .ok d := by
  have h1 : fetchDataPostCheck refuse cached e = ⟨d, .error err, true⟩ := by
    unfold fetchDataPostCheck
    simp only [hempty, List.isEmpty_nil, if_true, hex, hre]
  simp only [h1]
  refine ⟨trivial, trivial, ?_, ?_⟩ <;>
  · unfold fetchDataPostCheck
    simp [hck]

/-- a peer nobody can connect to -/
def exBad0 : Exchange where
  dialOk := false
  host := []
  alpn := ""
  stream := []
  c2s := []
  s2c := []

/-- a key-exchange server that names the NTP server "ntp" and issues two cookies -/
def exNamed : Exchange where
  dialOk := true
  host := [49]
  alpn := "ntske/1"
  stream := [[128, 4, 0, 2, 0, 15, 0, 6, 0, 3, 110, 116, 112, 0, 5, 0, 1, 7], [0, 5, 0, 1, 8, 128, 0, 0, 0]]
  c2s := [1]
  s2c := [2]

/-- the refusal of seeded C20-17 on that exchange: attempt 1 fails, attempt 2 (against a peer that
    would fail) "succeeds" without a connection and hands out the refused server name -/
example :
    let refuse : Data → Option ExErr := fun d => if d.server = [110, 116, 112] then some .noNtske else none
    let r1 := fetchDataPostCheck refuse {} exNamed
    r1.out = .error .noNtske ∧ r1.cached.cookies = [[7], [8]] ∧
    (fetchDataPostCheck refuse r1.cached exBad0).exchanged = false ∧
    (fetchDataPostCheck refuse r1.cached exBad0).out =
      .ok { c2s := [1], s2c := [2], server := [110, 116, 112], port := 123, cookies := [[7], [8]], algo := 15 } ∧
    -- the function as it is accepts the name and keeps handing it out
    (fetchData {} exNamed).out =
      .ok { c2s := [1], s2c := [2], server := [110, 116, 112], port := 123, cookies := [[7], [8]], algo := 15 } := by
  decide

/-- a peer that issues a cookie and then an error record (the F8 input) -/
def exBad : Exchange where
  dialOk := true
  host := [49]
  alpn := "ntske/1"
  stream := [[0, 5, 0, 1, 7, 128, 2, 0, 2, 0, 1]]
  c2s := [1]
  s2c := [2]

example : (fetchData {} exBad).out = .error (.read .badRequest) ∧ (fetchData {} exBad).cached = {} := by
  decide

/-- `FetchData` never indexes an empty pool (`f.data.Cookie[1:]`): whenever it returns data,
    that data has at least one cookie. -/
theorem C20_fetch_ok_has_cookie (cached : Data) (e : Exchange) (d : Data)
    (h : (fetchData cached e).out = .ok d) : d.cookies ≠ [] := by
  rw [fetchData] at h
  rcases fetchWith_cases exchangeKeys cached e with ⟨hc, hf⟩ | ⟨_, ⟨c, hx, hf⟩ | ⟨_, _, _, hf⟩⟩ <;>
    rw [hf] at h <;> cases h
  · exact hc
  · rw [C20_success_iff] at hx
    obtain ⟨_, _, _, items, _, _, hne, rfl⟩ := hx
    exact hne

inductive Op where
  | fetch (e : Exchange)
  | store (c : List Byte)

/-- Fetcher state with a ghost: `good` is the data of the most recent successful exchange
    (the zero value before the first one). -/
structure HState where
  cached : Data
  good : Data

def HState.step (s : HState) : Op → HState × Option (FetchOut)
  | .store c => (⟨storeCookie s.cached c, s.good⟩, none)
  | .fetch e =>
    let r := fetchData s.cached e
    (⟨r.cached, match r.exchanged, r.out with
                | true, .ok d => d
                | _, _ => s.good⟩, some r.out)

def HState.run (s : HState) : List Op → HState
  | [] => s
  | op :: ops => (s.step op).1.run ops

/-- One step keeps the session fields of the cache equal to those of the last successful
    exchange, and any data handed out carries them. -/
theorem C20_step_invariant (s : HState) (op : Op) (h : SameSession s.cached s.good) :
    SameSession (s.step op).1.cached (s.step op).1.good ∧
    ∀ d, (s.step op).2 = some (.ok d) → SameSession d (s.step op).1.good := by
  cases op with
  | store c => exact ⟨h, by simp [HState.step]⟩
  | fetch e =>
    simp only [HState.step, fetchData]
    rcases fetchWith_cases exchangeKeys s.cached e with ⟨_, hf⟩ | ⟨_, ⟨c, _, hf⟩ | ⟨c, err, hx, hf⟩⟩ <;>
      rw [hf]
    · exact ⟨h, by rintro d ⟨⟩; exact h⟩
    · exact ⟨⟨rfl, rfl, rfl, rfl, rfl⟩, by rintro d ⟨⟩; exact ⟨rfl, rfl, rfl, rfl, rfl⟩⟩
    · rw [C20_failure_leaves_nothing _ _ _ _ hx]
      exact ⟨h, by rintro d ⟨⟩⟩

/-- **failure leaves nothing behind, over histories.** Along every history of `FetchData`
    (with arbitrary peers: failing, succeeding, in any order) and `StoreCookie` calls on one
    fetcher, the keys, algorithm, server and port in the cache are those of the most recent
    *successful* exchange — never anything a failed exchange delivered. -/
theorem C20_history_invariant (ops : List Op) :
    ∀ s : HState, SameSession s.cached s.good → SameSession (s.run ops).cached (s.run ops).good := by
  induction ops with
  | nil => intro s h; exact h
  | cons op ops ih => intro s h; exact ih _ (C20_step_invariant s op h).1

example : SameSession (HState.mk {} {}).cached (HState.mk {} {}).good := ⟨rfl, rfl, rfl, rfl, rfl⟩

/-- F8: with the unrepaired `exchangeKeys` an exchange that delivers a cookie and then an
    error record fails but leaves the cookie in the cache; the next `FetchData` performs no
    exchange and hands out data with empty keys and algorithm 0. -/
theorem C20_F8_old_failed_exchange_leaves_state :
    let r1 := fetchDataOld {} exBad
    let r2 := fetchDataOld r1.cached exBad
    r1.out = .error (.read .badRequest) ∧ r1.cached.cookies = [[7]] ∧
    r2.exchanged = false ∧
    r2.out = .ok { server := [49], port := 123, cookies := [[7]] } := by
  decide

/-- a QUIC exchange whose peer names neither server nor port -/
def exQuicNoServerPort : Exchange where
  quic := true
  dialOk := true
  host := [49]
  alpn := "ntske/1"
  stream := [[128, 4, 0, 2, 0, 15, 0, 5, 0, 1, 7, 128, 0, 0, 0]]
  c2s := [1]
  s2c := [2]

/-- F18: the unrepaired QUIC branch discarded the defaults computed by dialQUIC, so a peer
    that names neither server nor port left the client with an empty server and port 0; the
    repaired code falls back to the key-exchange host and the SCION NTP port. -/
theorem C20_F18_old_quic_defaults_dropped :
    (exchangeCoreQUICOld exQuicNoServerPort).1.server = [] ∧ (exchangeCoreQUICOld exQuicNoServerPort).1.port = 0 ∧
    (exchangeCoreQUICOld exQuicNoServerPort).2 = none ∧
    (exchangeCore exQuicNoServerPort).1.server = [49] ∧ (exchangeCore exQuicNoServerPort).1.port = 10123 := by
  decide

/-- What the NTS-KE server sends (next protocol, algorithm, server, port, the cookies, end)
    is accepted by the client under every segmentation, and yields exactly the server's
    address, port and cookies, algorithm 15 and the session's exporter values. -/
theorem C20_server_message_accepted (ip : List Byte) (port : Nat) (cookies : List (List Byte))
    (msg : List Rec) (hmsg : serverMsg ip port cookies = some msg)
    (hip : ip.length < 65536) (hck : ∀ c ∈ cookies, c.length < 65536)
    (e : Exchange) (hd : e.dialOk = true) (ha : e.quic = true ∨ e.alpn = alpnProto) (hx : e.exportOk = true)
    (hs : e.stream.flatten = packMsg msg) (cached : Data) :
    exchangeKeys cached e =
      ({ c2s := e.c2s, s2c := e.s2c, server := ip, port := port % 65536, cookies := cookies,
         algo := aesSivCmac256 }, none) := by
  unfold serverMsg at hmsg
  split at hmsg
  · cases hmsg
  next hne =>
  cases hmsg
  have hfit : ∀ r ∈ [Rec.nextProto ntpv4, .algorithm [aesSivCmac256], .server ip false,
      .port (port % 65536) false] ++ cookies.map Rec.cookie, Fits r := by
    simpa [Fits, ntpv4, aesSivCmac256, hip, Nat.mod_lt] using hck
  rw [exchangeKeys_ok_iff, exchangeCore, exchangeCoreFrom_ok_iff]
  refine ⟨hd, ha, hx, _, readData_packed _ hfit e.stream [] (by rw [hs]; simp) _, ?_⟩
  simpa [foldl_cookie_recs, Rec.apply, dialData] using hne

example : serverMsg [49] 123 [[1], [2]] ≠ none := by decide

/-- The client's request (next protocol NTPv4, AES-SIV-CMAC-256, end) is read by the server's
    `ReadData` without error under every segmentation, leaving algorithm 15 and no cookie. -/
theorem C20_client_request_accepted (chunks : List (List Byte)) (h : chunks.flatten = packMsg clientMsg) :
    readData chunks {} = ({ algo := aesSivCmac256 }, none) := by
  have := readData_packed _ fits_clientMsg chunks [] (by rw [h]; rfl) {}
  simpa [Rec.apply] using this

end ScionTime.C20
