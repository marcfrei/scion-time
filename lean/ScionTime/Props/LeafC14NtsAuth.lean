/-
  Kernel-checked ties (C14 / C10 / C08 / C05): `(*Packet).authenticate` and `nts.ProcessResponse` of
  net/nts/nts.go as regenerated from /repo's Go source on every run (Gen/LeafNts.lean; translated
  by harness/extract/leaf9.go: the AEAD made inside the function by `miscreant.NewAEAD` is
  rendered as its constructor arguments, its error / `NonceSize` / `Open` are FUNCTION-typed
  parameters applied to the translated arguments; `ntskeFetcher.StoreCookie(c)` is recorded in the
  thread `sk_ntskeFetcher`; `bytes.Equal`; `b[:pkt.Auth.pos]`).

  PROVED for EVERY function standing for the library (every AEAD, lawful or not), every packet,
  buffer, key, request identifier and budget:
    * `C10_leaf_ProcessResponse_accept`: `ProcessResponse` returns `nil` ONLY IF the response's
      unique identifier equals the request's, `NewAEAD("AES-CMAC-SIV", key, 16)` succeeded, the
      nonce has the AEAD's nonce size, `Open(nil, nonce, ciphertext, b[:Auth.pos])` — the bytes before
      the authenticator as associated data, under THAT key — succeeded, and the cookies handed to
      `StoreCookie` are exactly the packet's cookies afterwards, in order (`Opened` names the
      arguments of every consultation: an edited key, nonce, ciphertext or associated-data argument
      changes the generated term and the theorem no longer checks);
  and, for every library that agrees with the model's AEAD (`Agree`), every packet whose
  authenticator position lies inside the buffer and every budget above the plaintext length:
    * `C10_leaf_authenticate`, `C10_leaf_ProcessResponse`: equal to `Nts.authenticateG true` /
      `Nts.processResponse` — accepted exactly when the model accepts, with the model's cookies;
      rejected exactly when the model rejects; no panic, never out of budget.
-/
import ScionTime.Gen.LeafNts
import ScionTime.Model.Nts
import ScionTime.Proofs.GoPrelude
import ScionTime.Proofs.LeafBytes
import ScionTime.Props.LeafC14NtsDec
namespace ScionTime.LeafTieC14NtsAuth
open ScionTime ScionTime.Gen.Leaf ScionTime.GoLemmas ScionTime.Nts ScionTime.LeafBytes

abbrev Obj := String × List UInt8 × Int64
abbrev NewErr := String → List UInt8 → Int64 → Bool
abbrev NonceSize := Obj → Int64
abbrev OpenF := Obj → List UInt8 → List UInt8 → List UInt8 → List UInt8 → Option (List UInt8 × Bool)

/-- the `for _, cookie := range pkt.Cookies { ntskeFetcher.StoreCookie(cookie.Cookie) }` loop -/
theorem store_loop {ρ : Type} (cs : List S_Cookie) : ∀ (i : Int64) (acc : List (List UInt8)),
    Go.forRange (ρ := ρ) cs i acc (fun _ cookie sk => Go.Ctl.next (sk ++ [cookie.Cookie])) =
      .inl (acc ++ cs.map (·.Cookie)) := by
  induction cs with
  | nil => intro i acc; simp [Go.forRange]
  | cons c cs ih => intro i acc; simp [Go.forRange, ih]

/-- what `authenticate` does before its loop: the three library consultations, with their arguments -/
def Opened (ne : NewErr) (ns : NonceSize) (op : OpenF) (pkt : S_NtsPacket) (b key : List UInt8) (pt : List UInt8) : Prop :=
  ne "AES-CMAC-SIV" key 16 = false ∧
  Go.len pkt.Auth.Nonce = ns ("AES-CMAC-SIV", key, 16) ∧
  ∃ ad, Go.subslice? b 0 pkt.Auth.pos = some ad ∧
    op ("AES-CMAC-SIV", key, 16) [] pkt.Auth.Nonce pkt.Auth.CipherText ad = some (pt, false)

/-- **`authenticate` returns `nil` only after a successful `Open`** of the packet's nonce and
    ciphertext under the key given, with the bytes before the authenticator as associated data. -/
theorem C10_leaf_authenticate_accept (ne : NewErr) (ns : NonceSize) (op : OpenF) (pkt pkt' : S_NtsPacket)
    (b key : List UInt8) (fuel : Nat)
    (h : nts_Packet_authenticate pkt b key ne ns op fuel = .ok (pkt', false)) :
    ∃ pt, Opened ne ns op pkt b key pt := by
  unfold nts_Packet_authenticate at h
  simp only at h
  cases h1 : ne "AES-CMAC-SIV" key 16 with
  | true => simp [h1] at h
  | false =>
    simp only [h1, bne_self_eq_false, Bool.false_eq_true, if_false] at h
    by_cases h2 : Go.len pkt.Auth.Nonce = ns ("AES-CMAC-SIV", key, 16)
    · simp only [h2, bne_self_eq_false, Bool.false_eq_true, if_false] at h
      cases hs : Go.subslice? b 0 pkt.Auth.pos with
      | none => simp [hs, Go.Out.ofOption, Go.Out.bind] at h
      | some ad =>
        cases ho : op ("AES-CMAC-SIV", key, 16) [] pkt.Auth.Nonce pkt.Auth.CipherText ad with
        | none => simp [hs, ho, Go.Out.ofOption, Go.Out.bind] at h
        | some r =>
          obtain ⟨pt, e⟩ := r
          cases e with
          | true => simp [hs, ho, Go.Out.ofOption, Go.Out.bind] at h
          | false => exact ⟨pt, h1, h2, ad, hs, ho⟩
    · simp [bne_iff_ne.mpr h2] at h

/-- **`ProcessResponse` accepts only an authenticated response to this request.** -/
theorem C10_leaf_ProcessResponse_accept (ne : NewErr) (ns : NonceSize) (op : OpenF) (pkt pkt' : S_NtsPacket)
    (b key reqID : List UInt8) (sk : List (List UInt8)) (fuel : Nat)
    (h : nts_ProcessResponse b key pkt reqID ne ns op fuel = .ok (pkt', sk, false)) :
    reqID = pkt.UniqueID.ID ∧ (∃ pt, Opened ne ns op pkt b key pt) ∧ sk = pkt'.Cookies.map (·.Cookie) := by
  unfold nts_ProcessResponse at h
  simp only at h
  cases h1 : reqID == pkt.UniqueID.ID with
  | false => simp [h1] at h
  | true =>
    simp only [h1, Bool.not_true, Bool.false_eq_true, if_false] at h
    cases ha : nts_Packet_authenticate pkt b key ne ns op fuel with
    | ok r =>
      obtain ⟨p2, e⟩ := r
      cases e with
      | true => simp [ha, Go.Out.bind] at h
      | false =>
        simp only [ha, Go.Out.bind, bne_self_eq_false, Bool.false_eq_true, if_false, store_loop, List.nil_append] at h
        injection h with h
        injection h with hp hs
        injection hs with hs _
        subst hp
        exact ⟨eq_of_beq h1, C10_leaf_authenticate_accept ne ns op pkt p2 b key fuel ha, hs.symm⟩
    | panic m => simp [ha, Go.Out.bind] at h
    | stuck => simp [ha, Go.Out.bind] at h

open ScionTime.LeafTieC14CookiesDec (bytesN bytesN_take length_bytesN len_toInt drop_cons4 forFuel_mono)
open ScionTime.LeafTieC14Nts (k516 C10_leaf_Cookie_unpack)
open ScionTime.LeafTieC14NtsDec (typeAt lenAt field_step k28 view view_cookie)
open ScionTime.LeafNtsDec

abbrev AuSt := Bool × S_NtsPacket × Int64   -- (err, pkt, pos)

/-- the loop body of the generated `authenticate` over the opened plaintext, verbatim -/
def auBody (decrytedBuf : List UInt8) : AuSt → Go.Ctl AuSt (Go.Out (S_NtsPacket × Bool)) :=
  fun (err, pkt, pos) =>
            if (!(decide (((Go.len decrytedBuf) - pos) >= (28 : Int64)))) then
              Go.Ctl.brk (err, pkt, pos)
            else
              let eh : S_extHdr := { Type' := (0 : UInt16), Length := (0 : UInt16) : S_extHdr }
              Go.Ctl.bindR (Go.Out.ofOption "panic" (nts_extHdr_unpack eh decrytedBuf pos)) fun eh =>
              if ((decide (eh.Length < (4 : UInt16))) || (decide (((eh.Length).toUInt64.toInt64) > ((Go.len decrytedBuf) - pos)))) then
                Go.Ctl.ret (Go.Out.ok ((pkt, true)))
              else
                let pos : Int64 := (pos + (4 : Int64))
                if (eh.Type' == (516 : UInt16)) then
                  let cookie : S_Cookie := { extHdr := eh, Cookie := ([] : (List UInt8)) : S_Cookie }
                  Go.Ctl.bindR (Go.Out.ofOption "panic" (nts_Cookie_unpack cookie decrytedBuf pos)) fun (cookie, _c3) =>
                  let err : Bool := _c3
                  if (err != false) then
                    Go.Ctl.ret (Go.Out.ok ((pkt, err)))
                  else
                    let pkt : S_NtsPacket := { pkt with Cookies := (Go.appendOwn pkt.Cookies cookie) }
                    let pos : Int64 := (pos + (((eh.Length).toUInt64.toInt64) - (4 : Int64)))
                    Go.Ctl.next (err, pkt, pos)
                else
                  let pos : Int64 := (pos + (((eh.Length).toUInt64.toInt64) - (4 : Int64)))
                  Go.Ctl.next (err, pkt, pos)

/-- the generated function is the three library consultations followed by its loop (definitional:
    re-checked against the regenerated definition on every run) -/
theorem au_pieces (pkt : S_NtsPacket) (b key : List UInt8) (ext_miscreant_NewAEAD_err : NewErr)
    (ext_miscreant_NewAEAD_NonceSize : NonceSize) (ext_miscreant_NewAEAD_Open : OpenF) (ext_fuel : Nat) :
    nts_Packet_authenticate pkt b key ext_miscreant_NewAEAD_err ext_miscreant_NewAEAD_NonceSize ext_miscreant_NewAEAD_Open ext_fuel =
      (
  let (aessiv, err) := (("AES-CMAC-SIV", key, (16 : Int64)), (ext_miscreant_NewAEAD_err "AES-CMAC-SIV" key (16 : Int64)))
  if (err != false) then
    Go.Out.ok ((pkt, err))
  else
    if ((Go.len pkt.Auth.Nonce) != (ext_miscreant_NewAEAD_NonceSize aessiv)) then
      Go.Out.ok ((pkt, true))
    else
      ((Go.Out.ofOption "slice" (Go.subslice? b (0 : Int64) pkt.Auth.pos))).bind fun _s1 =>
      ((Go.Out.ofOption "library" (ext_miscreant_NewAEAD_Open aessiv ([] : List UInt8) pkt.Auth.Nonce pkt.Auth.CipherText _s1))).bind fun _o2 =>
      let (decrytedBuf, err) := _o2
      if (err != false) then
        Go.Out.ok ((pkt, err))
      else
        let pos : Int64 := (0 : Int64)
        match Go.forFuel (ρ := Go.Out (S_NtsPacket × Bool)) ext_fuel (err, pkt, pos) (auBody decrytedBuf) with
        | none => Go.Out.stuck
        | some (.inr _r) => _r
        | some (.inl (err, pkt, pos)) =>
        Go.Out.ok ((pkt, false))) := rfl

/-- one iteration of `ptLoop` (fixed code) on a suffix of `rem ≥ 28` bytes with header `(t, l)`;
    `body` is the suffix behind the header, `next` the suffix behind the field -/
def ptNext (n rem : Nat) (body next : Bytes) (cs : List Bytes) (t l : Nat) : Res (List Bytes) :=
  if l < 4 ∨ l > rem then .err .extLen
  else if t = extCookie then ptLoop true n next (cs ++ [copyN (valueLen l) body])
  else ptLoop true n next cs

theorem pt_at (d : List UInt8) (p n : Nat) (cs : List Bytes) (h : p + 28 ≤ d.length) :
    ptLoop true (n + 1) ((bytesN d).drop p) cs =
      ptNext n (d.length - p) ((bytesN d).drop (p + 4)) ((bytesN d).drop (p + lenAt d p)) cs (typeAt d p) (lenAt d p) := by
  have hcons := drop_cons4 (bytesN d) p (by rw [length_bytesN]; omega)
  have hlen : ((bytesN d).drop p).length = d.length - p := by rw [List.length_drop, length_bytesN]
  unfold ptNext typeAt lenAt
  -- the model matches on the four header bytes: the suffix is written out for the step and folded back after it
  rw [hcons, ptLoop_cons_checked _ _ _ _ _ _ _ (by rw [← hcons, hlen]; omega), ← hcons, hlen, List.drop_drop]
  exact ite_congr rfl (fun _ => rfl) fun _ => apply_ite _ _ _ _

theorem pt_short (n : Nat) (rest : Bytes) (cs : List Bytes) (h : rest.length < 28) :
    ptLoop true (n + 1) rest cs = .ok cs :=
  ptLoop_short true n rest cs h

theorem au_short (d : List UInt8) (p : Nat) (e : Bool) (pkt : S_NtsPacket)
    (hL : d.length < 4611686018427387904) (hp : p < 4611686018427387904) (h : d.length < p + 28) :
    auBody d (e, pkt, Int64.ofNat p) = .brk (e, pkt, Int64.ofNat p) :=
  if_pos (by rw [left_ge d p 28 hL hp, decide_eq_false (by rw [k28]; omega)]; rfl)

section Body
variable (d : List UInt8) (p : Nat) (pkt : S_NtsPacket) (hL : d.length < 4611686018427387904) (h28 : p + 28 ≤ d.length)
include hL h28

theorem au_go :
    ¬ ((!(decide (Go.len d - Int64.ofNat p ≥ (28 : Int64)))) = true) := by
  rw [left_ge d p 28 hL (by omega), decide_eq_true (by rw [k28]; omega)]; decide

theorem au_bad (hl : lenAt d p < 4 ∨ lenAt d p > d.length - p) :
    auBody d (false, pkt, Int64.ofNat p) = .ret (.ok (pkt, true)) := by
  obtain ⟨t, l, _, _, hstep⟩ := field_step d p hL (by omega) { Type' := 0, Length := 0 }
  exact (if_neg (au_go d p hL h28)).trans ((hstep _ _).trans (if_pos hl))

variable (hl : ¬ (lenAt d p < 4 ∨ lenAt d p > d.length - p))
include hl

theorem au_cookie (ht : typeAt d p = extCookie) :
    ∃ c, auBody d (false, pkt, Int64.ofNat p) =
        .next (false, { pkt with Cookies := pkt.Cookies ++ [c] }, Int64.ofNat (p + lenAt d p)) ∧
      bytesN c.Cookie = copyN (valueLen (lenAt d p)) ((bytesN d).drop (p + 4)) := by
  obtain ⟨t, l, htn, hln, hstep⟩ := field_step d p hL (by omega) { Type' := 0, Length := 0 }
  obtain rfl : t = 516 := type_eq htn k516 ht
  obtain ⟨X, hrun, hX⟩ := C10_leaf_Cookie_unpack { extHdr := { Type' := 516, Length := l }, Cookie := [] }
    d (p + 4) hL (by omega) rfl
  refine ⟨{ extHdr := { Type' := 516, Length := l }, Cookie := X }, ?_, hX.trans (by rw [hln])⟩
  refine (if_neg (au_go d p hL h28)).trans ((hstep _ _).trans ((if_neg hl).trans ((if_pos rfl).trans ?_)))
  rw [pos_add4, ← hln, ← pos_next]
  show Go.Ctl.bindR (Go.Out.ofOption "panic" (nts_Cookie_unpack _ d _)) _ = _
  rw [hrun]
  rfl

theorem au_other (ht : typeAt d p ≠ extCookie) :
    auBody d (false, pkt, Int64.ofNat p) = .next (false, pkt, Int64.ofNat (p + lenAt d p)) := by
  obtain ⟨t, l, htn, hln, hstep⟩ := field_step d p hL (by omega) { Type' := 0, Length := 0 }
  refine (if_neg (au_go d p hL h28)).trans ((hstep _ _).trans ((if_neg hl).trans ((if_neg (type_ne htn k516 ht)).trans ?_)))
  rw [pos_add4, ← hln, ← pos_next]

end Body

/-- how the generated loop ends when the model's walk ends with `r`: of the fields `d0` of the
    packet only the cookie list has changed -/
def PtEnds (d0 : Decoded) (r : Res (List Bytes)) (o : AuSt ⊕ Go.Out (S_NtsPacket × Bool)) : Prop :=
  match r with
  | .ok cs => ∃ pkt pos, o = .inl (false, pkt, pos) ∧ view pkt = { d0 with cookies := cs }
  | .err _ => ∃ pkt, o = .inr (.ok (pkt, true))
  | .panic _ => False
  | .hang => False

theorem ptEnds_cookies (d0 : Decoded) (cs : List Bytes) (r : Res (List Bytes)) (o : AuSt ⊕ Go.Out (S_NtsPacket × Bool)) :
    PtEnds { d0 with cookies := cs } r o = PtEnds d0 r o := by
  cases r <;> rfl

/-- the walk over the opened plaintext: position-based loop = suffix-based `ptLoop`; only the
    cookie list of the packet changes. An instance of `forFuel_walk`, as `dp_loop` of
    Props/LeafC14NtsDec is. -/
theorem au_loop (d : List UInt8) (hL : d.length < 4611686018427387904) (n : Nat) (pkt : S_NtsPacket) (hn : d.length < n) :
    ∃ o, Go.forFuel n (false, pkt, 0) (auBody d) = some o ∧
      PtEnds (view pkt) (ptLoop true n (bytesN d) (view pkt).cookies) o := by
  refine forFuel_walk (auBody d) (fun p pkt => (false, pkt, Int64.ofNat p)) d.length
    (fun n p pkt o => PtEnds (view pkt) (ptLoop true n ((bytesN d).drop p) (view pkt).cookies) o) ?_ n 0 pkt
    (Nat.zero_le _) hn
  intro n p pkt hp
  by_cases h28 : p + 28 ≤ d.length
  case neg =>
    refine .inl ⟨_, au_short d p false pkt hL (by omega) (by omega), ?_⟩
    rw [pt_short _ _ _ (by rw [List.length_drop, length_bytesN]; omega)]
    exact ⟨pkt, _, rfl, rfl⟩
  by_cases hl : lenAt d p < 4 ∨ lenAt d p > d.length - p
  case pos =>
    refine .inr (.inl ⟨_, au_bad d p pkt hL h28 hl, ?_⟩)
    rw [pt_at _ _ _ _ h28, ptNext, if_pos hl]
    exact ⟨pkt, rfl⟩
  have hadv : p < p + lenAt d p ∧ p + lenAt d p ≤ d.length := by omega
  by_cases hc : typeAt d p = extCookie
  case pos =>
    obtain ⟨c, hr, hX⟩ := au_cookie d p pkt hL h28 hl hc
    refine .inr (.inr ⟨p + lenAt d p, { pkt with Cookies := pkt.Cookies ++ [c] }, hr, hadv.1, hadv.2, fun o ho => ?_⟩)
    rw [pt_at _ _ _ _ h28, ptNext, if_neg hl, if_pos hc, ← hX]
    rw [view_cookie, ptEnds_cookies] at ho
    exact ho
  refine .inr (.inr ⟨p + lenAt d p, pkt, au_other d p pkt hL h28 hl hc, hadv.1, hadv.2, fun o ho => ?_⟩)
  rw [pt_at _ _ _ _ h28, ptNext, if_neg hl, if_neg hc]
  exact ho

/-- the functions standing for the library agree with the model's AEAD (what the harness observes
    of miscreant on every run; here a hypothesis) -/
structure Agree (ne : NewErr) (ns : NonceSize) (op : OpenF) (A : AEAD) : Prop where
  newErr : ∀ key, ne "AES-CMAC-SIV" key 16 = !keyOk (bytesN key)
  nonceSize : ∀ o, ns o = 16
  opens : ∀ key n c ad, n.length = 16 →
    match op ("AES-CMAC-SIV", key, 16) [] n c ad with
    | some (pt, false) => A.openF (bytesN key) (bytesN n) (bytesN c) (some (bytesN ad)) = some (bytesN pt) ∧
        pt.length < 4611686018427387904
    | some (_, true) => A.openF (bytesN key) (bytesN n) (bytesN c) (some (bytesN ad)) = none
    | none => False

theorem len_eq16 (x : List UInt8) (h : x.length < 4611686018427387904) : (Go.len x = 16) ↔ x.length = 16 := by
  rw [← Int64.toInt_inj, len_toInt x h]
  exact Int.natCast_inj (n := 16)

/-- **`(*Packet).authenticate`, for every packet whose authenticator position lies in the buffer,
    every library agreeing with the model's AEAD and every budget above the plaintext length**: the
    regenerated function returns `nil` exactly when `authenticateG` (fixed code) accepts, and the
    packet's cookies are then the model's (the other fields unchanged); an error exactly when the
    model returns one; it never panics and never runs out of budget. -/
theorem C10_leaf_authenticate (ne : NewErr) (ns : NonceSize) (op : OpenF) (A : AEAD) (hA : Agree ne ns op A)
    (pkt : S_NtsPacket) (b key : List UInt8) (fuel : Nat)
    (hN : pkt.Auth.Nonce.length < 4611686018427387904)
    (hpos : 0 ≤ pkt.Auth.pos.toInt ∧ pkt.Auth.pos.toInt ≤ b.length)
    (hf : ∀ o x n c ad pt e, op o x n c ad = some (pt, e) → pt.length < fuel) :
    match authenticateG true A (bytesN b) (bytesN key) (view pkt) with
    | .ok cs => ∃ pkt', nts_Packet_authenticate pkt b key ne ns op fuel = .ok (pkt', false) ∧
        view pkt' = { view pkt with cookies := cs }
    | .err _ => ∃ pkt', nts_Packet_authenticate pkt b key ne ns op fuel = .ok (pkt', true)
    | .panic _ => False
    | .hang => False := by
  rw [au_pieces]
  unfold authenticateG
  simp only [hA.newErr, hA.nonceSize]
  cases hk : keyOk (bytesN key) with
  | false => simp
  | true =>
    simp only [Bool.not_true, bne_self_eq_false, Bool.false_eq_true, if_false, Bool.true_and]
    have hvn : (view pkt).nonce.length = pkt.Auth.Nonce.length := length_bytesN _
    by_cases hn : pkt.Auth.Nonce.length = 16
    · have hg : Go.len pkt.Auth.Nonce = 16 := (len_eq16 _ hN).mpr hn
      have hss := ScionTime.LeafTieC14CookiesDec.subslice_spec b 0 pkt.Auth.pos.toInt.toNat 0 pkt.Auth.pos
        Int64.toInt_zero (by omega) (by omega)
      simp only [hg, bne_self_eq_false, Bool.false_eq_true, if_false, hss, Go.Out.ofOption, Go.Out.bind, List.drop_zero,
        hvn, hn, ne_eq, not_true_eq_false, decide_false, openC]
      have ho := hA.opens key pkt.Auth.Nonce pkt.Auth.CipherText (b.take pkt.Auth.pos.toInt.toNat) hn
      have hvp : (view pkt).pos = pkt.Auth.pos.toInt.toNat := rfl
      have hvc : (view pkt).ct = bytesN pkt.Auth.CipherText := rfl
      have hvno : (view pkt).nonce = bytesN pkt.Auth.Nonce := rfl
      rw [hvp, hvc, hvno, ← bytesN_take]
      cases hop : op ("AES-CMAC-SIV", key, 16) [] pkt.Auth.Nonce pkt.Auth.CipherText (b.take pkt.Auth.pos.toInt.toNat) with
      | none => rw [hop] at ho; exact ho.elim
      | some r =>
        obtain ⟨pt, e⟩ := r
        rw [hop] at ho
        cases e with
        | true =>
          simp only at ho
          rw [ho]
          simp
        | false =>
          simp only at ho
          obtain ⟨hoA, hpt⟩ := ho
          have hfu := hf _ _ _ _ _ _ _ hop
          rw [hoA]
          simp only [bne_self_eq_false, Bool.false_eq_true, if_false]
          simp only [bind, Res.bind, length_bytesN]
          obtain ⟨k, hk2⟩ : ∃ k, fuel = (pt.length + 1) + k := ⟨fuel - (pt.length + 1), by omega⟩
          obtain ⟨o, hrun, he⟩ := au_loop pt hpt (pt.length + 1) pkt (by omega)
          rw [hk2, forFuel_mono _ _ k _ _ hrun]
          generalize ptLoop _ _ _ _ = r at he ⊢
          cases r with
          | ok cs =>
            obtain ⟨pkt', pos', rfl, hv⟩ := he
            exact ⟨pkt', rfl, hv⟩
          | err e =>
            obtain ⟨pkt', rfl⟩ := he
            exact ⟨pkt', rfl⟩
          | panic m => exact he
          | hang => exact he
    · simp [bne_iff_ne.mpr (mt (len_eq16 _ hN).mp hn), hvn, hn]

theorem bytesN_inj {x y : List UInt8} : bytesN x = bytesN y → x = y :=
  (List.map_inj_right fun _ _ => UInt8.toNat_inj.mp).mp

/-- **`nts.ProcessResponse`** under the same hypotheses: `nil` exactly when `processResponse` (fixed
    code) accepts; the cookies handed to `StoreCookie`, in order, are then the model's list, which is
    the packet's cookie list afterwards; an error exactly when the model returns one (nothing is
    stored then); never a panic, never out of budget. -/
theorem C10_leaf_ProcessResponse (ne : NewErr) (ns : NonceSize) (op : OpenF) (A : AEAD) (hA : Agree ne ns op A)
    (pkt : S_NtsPacket) (b key reqID : List UInt8) (fuel : Nat)
    (hL : b.length < 4611686018427387904) (hN : pkt.Auth.Nonce.length < 4611686018427387904)
    (hpos : 0 ≤ pkt.Auth.pos.toInt ∧ pkt.Auth.pos.toInt ≤ b.length)
    (hf : ∀ o x n c ad pt e, op o x n c ad = some (pt, e) → pt.length < fuel) :
    match processResponse A (bytesN b) (bytesN key) (view pkt) (bytesN reqID) with
    | .ok cs => ∃ pkt' sk, nts_ProcessResponse b key pkt reqID ne ns op fuel = .ok (pkt', sk, false) ∧
        sk.map bytesN = cs ∧ view pkt' = { view pkt with cookies := cs }
    | .err _ => ∃ pkt', nts_ProcessResponse b key pkt reqID ne ns op fuel = .ok (pkt', [], true)
    | .panic _ => False
    | .hang => False := by
  unfold processResponse processResponseG nts_ProcessResponse
  simp only
  cases h1 : reqID == pkt.UniqueID.ID with
  | true =>
    rw [if_neg (show ¬ bytesN reqID ≠ (view pkt).uid from not_not_intro (congrArg bytesN (eq_of_beq h1)))]
    simp only [Bool.not_true, Bool.false_eq_true, if_false]
    have ha := C10_leaf_authenticate ne ns op A hA pkt b key fuel hN hpos hf
    generalize authenticateG _ _ _ _ _ = r at ha ⊢
    cases r with
    | ok cs =>
      obtain ⟨pkt', hrun, hv⟩ := ha
      refine ⟨pkt', pkt'.Cookies.map (·.Cookie), ?_, ?_, hv⟩
      · simp only [hrun, Go.Out.bind, bne_self_eq_false, Bool.false_eq_true, if_false, store_loop, List.nil_append]
      · exact List.map_map.trans (congrArg Decoded.cookies hv)
    | err e =>
      obtain ⟨pkt', hrun⟩ := ha
      exact ⟨pkt', by simp [hrun, Go.Out.bind]⟩
    | panic m => exact ha
    | hang => exact ha
  | false =>
    rw [if_pos (show bytesN reqID ≠ (view pkt).uid from fun e => ne_of_beq_false h1 (bytesN_inj e))]
    exact ⟨pkt, rfl⟩

/-- a toy library: keys of 32 or 64 bytes, "decryption" = identity on texts shorter than 100 bytes -/
def toyNe : NewErr := fun _ k _ => !(k.length == 32 || k.length == 64)
def toyNs : NonceSize := fun _ => 16
def toyOp : OpenF := fun _ _ _ c _ => if c.length < 100 then some (c, false) else some ([], true)
def toyA : AEAD := { sealF := fun _ _ p _ => p, openF := fun _ _ c _ => if c.length < 100 then some c else none }

example : Agree toyNe toyNs toyOp toyA where
  newErr := by intro key; simp [toyNe, keyOk, bytesN]
  nonceSize := by intro o; rfl
  opens := by
    intro key n c ad _
    by_cases h : c.length < 100
    · simp only [toyOp, toyA, h, if_true, bytesN, List.length_map]; exact ⟨trivial, by omega⟩
    · simp only [toyOp, toyA, h, if_false, bytesN, List.length_map]

def samplePkt : S_NtsPacket :=
  { UniqueID := { extHdr := { Type' := 260, Length := 5 }, ID := [1] }, Cookies := [], CookiePlaceholders := [],
    Auth := { extHdr := { Type' := 1028, Length := 0 }, Nonce := List.replicate 16 0,
              CipherText := [2, 4, 0, 28] ++ List.replicate 24 7, Key := [], PlainText := [], pos := 0 } }

/-- a response carrying one encrypted cookie field (24 x 7), identifier [1] = the request's -/
example : (match nts_ProcessResponse [] (List.replicate 32 0)
      samplePkt
      [1] toyNe toyNs toyOp 30 with
    | .ok (p, sk, e) => some (sk, p.Cookies.length, e) | _ => none) = some ([List.replicate 24 7], 1, false) := by
  decide +kernel

/-- the same response for another request identifier: refused, nothing stored -/
example : (match nts_ProcessResponse [] (List.replicate 32 0)
      samplePkt
      [2] toyNe toyNs toyOp 30 with
    | .ok (_, sk, e) => some (sk, e) | _ => none) = some ([], true) := by
  decide +kernel

end ScionTime.LeafTieC14NtsAuth
