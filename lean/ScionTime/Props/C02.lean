/-
  C02 — fault-tolerant midpoint and median stay within the correct values.
  Models: ScionTime/Model/Timemath.lean, ScionTime/Model/Measurements.lean;
  helper lemmas: ScionTime/Proofs/Sort.lean, ScionTime/Proofs/MeasSort.lean,
  ScionTime/Proofs/Int64Arith.lean.
-/
import ScionTime.Model.Timemath
import ScionTime.Model.Measurements
import ScionTime.Proofs.Int64Arith
import ScionTime.Proofs.Sort
import ScionTime.Proofs.MeasSort
import ScionTime.Gen.Timemath
import ScionTime.Gen.Measurements
namespace ScionTime.C02
open ScionTime.Timemath

/-- `|v| < 2^62` (about 146 years in nanoseconds). -/
def Small (v : Int64) : Prop := -4611686018427387904 < v.toInt ∧ v.toInt < 4611686018427387904

/-! ### Pins: the literals inside the Go function bodies (regenerated from /repo on every
run by harness/extract/x_c02c18.go) are the ones the model computes with. -/

/-- `f := (n - 1) / 3` in `timemath.FaultTolerantMidpoint` is the model's index. -/
theorem C02_pin_ftm_index (s : List Int64) :
    ftmSorted s =
      midpoint (s.getD ((s.length - Gen.Timemath.ftmIndexSub.toNat) / Gen.Timemath.ftmIndexDiv.toNat) 0)
        (s.getD (s.length - 1 - (s.length - Gen.Timemath.ftmIndexSub.toNat) / Gen.Timemath.ftmIndexDiv.toNat) 0) := rfl

/-- the same line in `measurements.FaultTolerantMidpoint` -/
theorem C02_pin_meas_ftm_index (s : List Measurements.M) :
    Measurements.ftmSel s =
      Measurements.midpointM
        (s.getD ((s.length - Gen.Measurements.ftmIndexSub.toNat) / Gen.Measurements.ftmIndexDiv.toNat) Measurements.zeroM)
        (s.getD (s.length - 1 - (s.length - Gen.Measurements.ftmIndexSub.toNat) / Gen.Measurements.ftmIndexDiv.toNat)
          Measurements.zeroM) := rfl

/-- `(y-x)/2` in `Midpoint` / `midpoint`, `n / 2` and `n % 2` in `Median`. -/
theorem C02_pin_divisors :
    Gen.Timemath.midpointDiv = 2 ∧ Gen.Measurements.midpointDiv = 2 ∧
    Gen.Timemath.medianIndexDiv = 2 ∧ Gen.Timemath.medianParityMod = 2 := ⟨rfl, rfl, rfl, rfl⟩

theorem C02_sgn_spec (d : Int64) : sgn d = Int.sign d.toInt := by
  unfold sgn
  simp only [gt_iff_lt, Int64.lt_iff_toInt_lt, show (0 : Int64).toInt = 0 from rfl]
  rcases Int.lt_trichotomy d.toInt 0 with h | h | h
  · rw [if_pos h, Int.sign_eq_neg_one_of_neg h]
  · rw [h]; rfl
  · rw [if_neg (by omega), if_pos h, Int.sign_eq_one_of_pos h]

/-- `Inv` negates exactly, except that `MinInt64` (whose negation does not exist) maps to
    `MaxInt64`; it never returns `MinInt64`'s wrap-around. -/
theorem C02_inv_spec (d : Int64) :
    (d ≠ Int64.minValue → (inv d).toInt = - d.toInt) ∧ inv Int64.minValue = Int64.maxValue := by
  refine ⟨?_, by decide⟩
  intro h
  unfold inv
  rw [if_neg h, (Int64Arith.neg_toInt h).2]

/-- no_overflow (midpoint): for `|x|, |y| < 2^62` the int64 computation `x + (y-x)/2` equals
    the unbounded one. -/
theorem C02_midpoint_exact (x y : Int64) (hx : Small x) (hy : Small y) :
    (midpoint x y).toInt = midZ x.toInt y.toInt :=
  midpoint_toInt x y hx.1 hx.2 hy.1 hy.2

/-- The bound is needed: at `MinInt64, MaxInt64` the int64 midpoint is `MinInt64`, the
    true one is `-1`; and it is tight: at `∓2^62` the int64 midpoint `-2^63` lies outside
    `[x, y]`. -/
theorem C02_midpoint_overflow_witness :
    (midpoint Int64.minValue Int64.maxValue).toInt = -9223372036854775808 ∧
    midZ Int64.minValue.toInt Int64.maxValue.toInt = -1 ∧
    (midpoint (-4611686018427387904) 4611686018427387904).toInt = -9223372036854775808 ∧
    midZ (-4611686018427387904) 4611686018427387904 = 0 := by decide

/-- sort_perm: after `FaultTolerantMidpoint(ds)` / `Median(ds)` the caller's slice is a sorted
    permutation of what it was (elements are only reordered). -/
theorem C02_ftm_post_sorted_perm (ds post : List Int64) (v : Int64) (h : ftm ds = some (v, post)) :
    post.Perm ds ∧ SortedBy Int64.toInt post := by
  cases ds with
  | nil => cases h
  | cons a t => cases h; exact ⟨sortBy_perm _ _, sortBy_sorted _ _⟩

theorem C02_median_post_sorted_perm (ds post : List Int64) (v : Int64) (h : median ds = some (v, post)) :
    post.Perm ds ∧ SortedBy Int64.toInt post := by
  cases ds with
  | nil => cases h
  | cons a t => cases h; exact ⟨sortBy_perm _ _, sortBy_sorted _ _⟩

/-- The sorted permutation is unique: whatever correct sorting algorithm `slices.Sort` is, it
    leaves exactly the slice the model's insertion sort computes. -/
theorem C02_sort_unique (ds post : List Int64) (hp : post.Perm ds) (hs : SortedBy Int64.toInt post) :
    post = sort64 ds := sort64_unique hp hs

/-- The calls panic exactly on the empty slice. -/
theorem C02_panic_iff_empty (ds : List Int64) :
    (ftm ds = none ↔ ds = []) ∧ (median ds = none ↔ ds = []) := by
  unfold ftm median
  cases ds <;> simp

/-- ftm_perm: result and post-call slice do not depend on the order of the inputs. -/
theorem C02_ftm_perm (ds₁ ds₂ : List Int64) (hp : ds₁.Perm ds₂) : ftm ds₁ = ftm ds₂ := by
  unfold ftm
  rw [sort64_perm_eq hp, hp.isEmpty_eq]

/-- median_perm -/
theorem C02_median_perm (ds₁ ds₂ : List Int64) (hp : ds₁.Perm ds₂) : median ds₁ = median ds₂ := by
  unfold median
  rw [sort64_perm_eq hp, hp.isEmpty_eq]

/-- Tagged offsets: `(value, faulty?)`.  Tagging positions rather than values means a value
    that occurs both as a correct and as a faulty offset causes no ambiguity. -/
abbrev Tagged := Int64 × Bool

/-- ftm_between_good.  For every non-empty list of tagged int64 offsets in which at most
    `(n-1)/3` carry the faulty tag, and whose *correct* offsets have magnitude below 2^62 (the
    faulty ones may be any int64, `MinInt64` included), `FaultTolerantMidpoint` of the values
    — in whatever order they are passed — lies between any lower and upper bound of the
    correct offsets, and equals the overflow-free midpoint of the two selected values. -/
theorem C02_ftm_between_good (l : List Tagged) (ds : List Int64) (hperm : ds.Perm (l.map Prod.fst))
    (hn : l ≠ [])
    (hbad : l.countP (fun e => e.2) ≤ (l.length - 1) / 3)
    (hsmall : ∀ e ∈ l, e.2 = false → Small e.1)
    (lo hi : Int)
    (hlo : ∀ e ∈ l, e.2 = false → lo ≤ e.1.toInt) (hhi : ∀ e ∈ l, e.2 = false → e.1.toInt ≤ hi) :
    ∃ v post, ftm ds = some (v, post) ∧ lo ≤ v.toInt ∧ v.toInt ≤ hi ∧ Small v := by
  rw [C02_ftm_perm ds _ hperm, ftm_of_ne_nil (mt List.map_eq_nil_iff.mp hn)]
  have := ftmSorted_between_good Prod.fst Prod.snd l hn hbad hsmall lo hi hlo hhi
  exact ⟨_, _, rfl, by omega, by omega, by unfold Small; omega⟩

/-- The hypotheses of `C02_ftm_between_good` are met by a concrete non-trivial instance:
    four offsets, one faulty at `MinInt64`, result inside the correct ones. -/
example : ∃ v post, ftm [30, Int64.minValue, 10, 20] = some (v, post) ∧ (10:Int) ≤ v.toInt ∧ v.toInt ≤ 30 :=
  ⟨15, [Int64.minValue, 10, 20, 30], by decide⟩

/-- median_between.  For every non-empty list of offsets of magnitude below 2^62 the median
    lies between two elements of the list — hence between its minimum and maximum. -/
theorem C02_median_between (ds : List Int64) (hn : ds ≠ []) (hsmall : ∀ v ∈ ds, Small v) :
    ∃ v post, median ds = some (v, post) ∧
      ∃ a ∈ ds, ∃ b ∈ ds, a.toInt ≤ v.toInt ∧ v.toInt ≤ b.toInt := by
  rw [median_of_ne_nil hn]
  refine ⟨_, _, rfl, ?_⟩
  have hp : (sort64 ds).Perm ds := sortBy_perm _ _
  have hpos : 0 < (sort64 ds).length := by rw [hp.length_eq]; exact List.length_pos_iff.mpr hn
  have hs : SortedBy Int64.toInt (sort64 ds) := sortBy_sorted _ _
  generalize sort64 ds = s at *
  have hi : s.length / 2 < s.length := by omega
  have hm : s[s.length / 2] ∈ ds := hp.mem_iff.mp (List.getElem_mem hi)
  unfold medianSorted
  simp only [getD_of_lt _ _ _ hi]
  split
  · -- odd: the element itself
    exact ⟨_, hm, _, hm, Int.le_refl _, Int.le_refl _⟩
  · -- even: midpoint of two neighbours
    have hi' : s.length / 2 - 1 < s.length := by omega
    have hm' : s[s.length / 2 - 1] ∈ ds := hp.mem_iff.mp (List.getElem_mem hi')
    rw [getD_of_lt _ _ _ hi']
    have hb := midpoint_between _ _ _ _ (Int.le_refl _) (sorted_le Int64.toInt hs (by omega) hi)
      (Int.le_refl _) (hsmall _ hm').1 (hsmall _ hm).2
    exact ⟨_, hm', _, hm, hb.1, hb.2⟩

/-- Corollary in the `min ≤ median ≤ max` form. -/
theorem C02_median_between_bounds (ds : List Int64) (hn : ds ≠ []) (hsmall : ∀ v ∈ ds, Small v)
    (lo hi : Int) (hlo : ∀ v ∈ ds, lo ≤ v.toInt) (hhi : ∀ v ∈ ds, v.toInt ≤ hi) :
    ∃ v post, median ds = some (v, post) ∧ lo ≤ v.toInt ∧ v.toInt ≤ hi := by
  obtain ⟨v, post, h, a, ha, b, hb, h1, h2⟩ := C02_median_between ds hn hsmall
  exact ⟨v, post, h, Int.le_trans (hlo a ha) h1, Int.le_trans h2 (hhi b hb)⟩

example : median [5, -3, 9, 1] = some (3, [-3, 1, 5, 9]) := by decide

/-- no_overflow.  If all offsets have magnitude below 2^62, `FaultTolerantMidpoint` and
    `Median` computed with wrapping int64 arithmetic equal the same algorithms over unbounded
    integers. -/
theorem C02_ftm_no_overflow (ds : List Int64) (hsmall : ∀ v ∈ ds, Small v) :
    (ftm ds).map (fun r => r.1.toInt) = ftmZ (ds.map Int64.toInt) := by
  cases ds with
  | nil => rfl
  | cons a t =>
    have hg : ∀ i, Small ((sort64 (a :: t)).getD i 0) :=
      sort64_getD_forall hsmall ⟨by decide, by decide⟩
    unfold ftmZ
    rw [ftm_of_ne_nil (List.cons_ne_nil a t), ← sort64_map_toInt]
    unfold ftmSorted ftmSortedZ
    simp only [List.length_map, getD_map_toInt]
    exact congrArg some (C02_midpoint_exact _ _ (hg _) (hg _))

theorem C02_median_no_overflow (ds : List Int64) (hsmall : ∀ v ∈ ds, Small v) :
    (median ds).map (fun r => r.1.toInt) = medianZ (ds.map Int64.toInt) := by
  cases ds with
  | nil => rfl
  | cons a t =>
    have hg : ∀ i, Small ((sort64 (a :: t)).getD i 0) :=
      sort64_getD_forall hsmall ⟨by decide, by decide⟩
    unfold medianZ
    rw [median_of_ne_nil (List.cons_ne_nil a t), ← sort64_map_toInt]
    unfold medianSorted medianSortedZ
    simp only [List.length_map, getD_map_toInt]
    split
    · rfl
    · exact congrArg some (C02_midpoint_exact _ _ (hg _) (hg _))

/-- Witness that the bound matters for the list functions too: `{MinInt64, MaxInt64}`. -/
theorem C02_ftm_overflow_witness :
    (ftm [Int64.maxValue, Int64.minValue]).map (fun r => r.1.toInt) = some (-9223372036854775808) ∧
    ftmZ ([Int64.maxValue, Int64.minValue].map Int64.toInt) = some (-1) ∧
    (median [Int64.maxValue, Int64.minValue]).map (fun r => r.1.toInt) = some (-9223372036854775808) ∧
    medianZ ([Int64.maxValue, Int64.minValue].map Int64.toInt) = some (-1) := by decide

open ScionTime.Measurements

/-! ### Timestamped measurements (core/measurements)

Go sorts with an unstable sort; the theorems hold for **every** permutation `post` of the input
that is sorted by offset (`SortedPerm ms post`), hence for the one Go's pdqsort leaves. -/

/-- The combined timestamp lies between the two timestamps it is computed from (for all
    timestamps: `Sub` saturates, so there is no overflow case). -/
theorem C02_meas_midTs_between (tx ty : Int) :
    min tx ty ≤ midTs tx ty ∧ midTs tx ty ≤ max tx ty := by
  have key : ∀ a b : Int, a ≤ b →
      0 ≤ (timeSub b a / 2).toInt ∧ (timeSub b a / 2).toInt ≤ b - a := by
    intro a b hab
    have h2 : (2 : Int64).toInt = 2 := by decide
    have hd := timeSub_bounds hab
    have hlt := Int64.toInt_lt (timeSub b a)
    rw [Int64.toInt_div, h2, Int.tdiv_eq_ediv_of_nonneg hd.1,
      Int.bmod_eq_of_le (by omega) (by omega)]
    omega
  unfold midTs timeAdd
  split
  · have := key tx ty (by omega); omega
  · have := key ty tx (by omega); omega

/-- Measurement variant of the fault-tolerant midpoint.  For every non-empty `ms` and every
    offset-sorted permutation `post` of it (whatever the sort did with equal offsets):
    the call succeeds; `Error` is nil; the offset is exactly `timemath.FaultTolerantMidpoint`
    of the offsets (so containment, permutation invariance and the overflow statement carry
    over); the timestamp lies between the timestamps of the two selected measurements
    `post[f]`, `post[n-1-f]`. -/
theorem C02_meas_ftm (ms post : List M) (hn : ms ≠ []) (h : SortedPerm ms post) :
    ∃ m, Measurements.ftm ms post = .ok m ∧ m.err = false ∧
      Timemath.ftm (ms.map M.offset) = some (m.offset, post.map M.offset) ∧
      let f := (post.length - 1) / 3
      min (post.getD f zeroM).ts (post.getD (post.length - 1 - f) zeroM).ts ≤ m.ts ∧
      m.ts ≤ max (post.getD f zeroM).ts (post.getD (post.length - 1 - f) zeroM).ts := by
  refine ⟨ftmSel post, ftm_of_sortedPerm hn h, rfl, ?_, C02_meas_midTs_between _ _⟩
  rw [ftm_of_ne_nil (mt List.map_eq_nil_iff.mp hn), ← offsets_sorted_perm h]
  unfold ftmSorted ftmSel midpointM
  simp only [List.length_map, getD_map_offset]

/-- Measurement variant of the median: offset is `timemath.Median` of the offsets, `Error`
    is nil; for odd `n` the timestamp is that of the middle measurement, for even `n` it lies
    between the timestamps of the two middle measurements. -/
theorem C02_meas_median (ms post : List M) (hn : ms ≠ []) (h : SortedPerm ms post) :
    ∃ m, Measurements.median ms post = .ok m ∧ m.err = false ∧
      Timemath.median (ms.map M.offset) = some (m.offset, post.map M.offset) ∧
      let i := post.length / 2
      (post.length % 2 ≠ 0 → m.ts = (post.getD i zeroM).ts) ∧
      (post.length % 2 = 0 →
        min (post.getD (i - 1) zeroM).ts (post.getD i zeroM).ts ≤ m.ts ∧
        m.ts ≤ max (post.getD (i - 1) zeroM).ts (post.getD i zeroM).ts) := by
  refine ⟨medianSel post, median_of_sortedPerm hn h, ?_, ?_, ?_, ?_⟩
  · unfold medianSel midpointM; simp only; split <;> rfl
  · rw [median_of_ne_nil (mt List.map_eq_nil_iff.mp hn), ← offsets_sorted_perm h]
    unfold medianSorted medianSel midpointM
    simp only [List.length_map, getD_map_offset]
    split <;> rfl
  · intro hodd
    unfold medianSel; simp only []; rw [if_pos hodd]
  · intro hev
    unfold medianSel
    simp only [if_neg (Decidable.not_not.mpr hev)]
    exact C02_meas_midTs_between _ _

/-- Permutation invariance for measurements: the combined offset does not depend on the order
    of the inputs nor on how the sort breaks ties (the timestamp may — see the example at the
    end of this file). -/
theorem C02_meas_offset_perm (ms₁ ms₂ post₁ post₂ : List M) (hn : ms₁ ≠ []) (hp : ms₁.Perm ms₂)
    (h₁ : SortedPerm ms₁ post₁) (h₂ : SortedPerm ms₂ post₂) :
    ∃ m₁ m₂, Measurements.ftm ms₁ post₁ = .ok m₁ ∧ Measurements.ftm ms₂ post₂ = .ok m₂ ∧
      m₁.offset = m₂.offset ∧
    ∃ k₁ k₂, Measurements.median ms₁ post₁ = .ok k₁ ∧ Measurements.median ms₂ post₂ = .ok k₂ ∧
      k₁.offset = k₂.offset := by
  have hn₂ : ms₂ ≠ [] := by
    intro h; rw [h] at hp; exact hn (List.length_eq_zero_iff.mp hp.length_eq)
  obtain ⟨m₁, e₁, _, o₁, _⟩ := C02_meas_ftm ms₁ post₁ hn h₁
  obtain ⟨m₂, e₂, _, o₂, _⟩ := C02_meas_ftm ms₂ post₂ hn₂ h₂
  obtain ⟨k₁, f₁, _, p₁, _⟩ := C02_meas_median ms₁ post₁ hn h₁
  obtain ⟨k₂, f₂, _, p₂, _⟩ := C02_meas_median ms₂ post₂ hn₂ h₂
  have hpo : (ms₁.map M.offset).Perm (ms₂.map M.offset) := hp.map _
  rw [C02_ftm_perm _ _ hpo, o₂] at o₁
  rw [C02_median_perm _ _ hpo, p₂] at p₁
  simp only [Option.some.injEq, Prod.mk.injEq] at o₁ p₁
  exact ⟨m₁, m₂, e₁, e₂, o₁.1.symm, k₁, k₂, f₁, f₂, p₁.1.symm⟩

/-- The model accepts exactly the sorted permutations (anything else the harness hands in as
    the post-call slice is answered `badSort`, which the implementation never prints). -/
theorem C02_meas_badSort_iff (ms post : List M) (hn : ms ≠ []) :
    (Measurements.ftm ms post = .badSort ↔ ¬ SortedPerm ms post) ∧
    (Measurements.median ms post = .badSort ↔ ¬ SortedPerm ms post) := by
  have hne : ms.isEmpty = false := by cases ms <;> simp_all
  unfold Measurements.ftm Measurements.median
  rw [hne, ← isSortedPerm_iff]
  cases isSortedPerm ms post <;> simp

/-- Containment for measurements: tagged measurements `(m, faulty?)`, at most `(n-1)/3`
    faulty, correct offsets of magnitude below 2^62 ⇒ the combined offset lies between the
    correct offsets, for every offset-sorted permutation the sort may have produced. -/
theorem C02_meas_ftm_between_good (l : List (M × Bool)) (post : List M) (hn : l ≠ [])
    (hsp : SortedPerm (l.map Prod.fst) post)
    (hbad : l.countP (fun e => e.2) ≤ (l.length - 1) / 3)
    (hsmall : ∀ e ∈ l, e.2 = false → Small e.1.offset)
    (lo hi : Int)
    (hlo : ∀ e ∈ l, e.2 = false → lo ≤ e.1.offset.toInt)
    (hhi : ∀ e ∈ l, e.2 = false → e.1.offset.toInt ≤ hi) :
    ∃ m, Measurements.ftm (l.map Prod.fst) post = .ok m ∧ m.err = false ∧
      lo ≤ m.offset.toInt ∧ m.offset.toInt ≤ hi := by
  have hn' : l.map Prod.fst ≠ [] := mt List.map_eq_nil_iff.mp hn
  obtain ⟨m, hm, he, hoff, _⟩ := C02_meas_ftm (l.map Prod.fst) post hn' hsp
  rw [ftm_of_ne_nil (mt List.map_eq_nil_iff.mp hn'), List.map_map] at hoff
  injection hoff with hoff
  injection hoff with hoff
  have := ftmSorted_between_good (M.offset ∘ Prod.fst) Prod.snd l hn hbad hsmall lo hi hlo hhi
  rw [hoff] at this
  exact ⟨m, hm, he, by omega, by omega⟩

/-- Non-trivial instance: two measurements with equal offsets and different timestamps; both
    orders are offset-sorted permutations and both are accepted (with different timestamps —
    the timestamp, unlike the offset, may depend on the sort's tie-breaking). -/
example :
    Measurements.ftm [⟨5, 100, false⟩, ⟨5, 200, true⟩, ⟨7, 0, false⟩, ⟨9, 50, false⟩]
      [⟨5, 200, true⟩, ⟨5, 100, false⟩, ⟨7, 0, false⟩, ⟨9, 50, false⟩] = .ok ⟨6, 50, false⟩ ∧
    Measurements.ftm [⟨5, 100, false⟩, ⟨5, 200, true⟩, ⟨7, 0, false⟩, ⟨9, 50, false⟩]
      [⟨5, 100, false⟩, ⟨5, 200, true⟩, ⟨7, 0, false⟩, ⟨9, 50, false⟩] = .ok ⟨6, 100, false⟩ := by
  decide

end ScionTime.C02
