/-
  C17 — offset filters implement their selection rule and reset cleanly.
  Property theorems; models: ScionTime/Model/Filters.lean (+ Model/F64.lean), helper lemmas:
  ScionTime/Proofs/C17.lean.
-/
import ScionTime.Model.Filters
import ScionTime.Proofs.C17
import ScionTime.Gen.Client
namespace ScionTime.C17
open ScionTime.Filters ScionTime.F64

/-- Pins: the float constants declared inside `(*NtimedFilter).Do` (regenerated from /repo on
    every run by harness/extract/x_c17.go) are the model's. -/
theorem C17_pin_filterAverage :
    c20 = ofConst Gen.Client.ntimedFilterAverage_num Gen.Client.ntimedFilterAverage_den.toNat := rfl
theorem C17_pin_filterThreshold :
    c3 = ofConst Gen.Client.ntimedFilterThreshold_num Gen.Client.ntimedFilterThreshold_den.toNat := rfl

/-! ## Lucky-packet filter: specification (independent of any sorting algorithm) -/

/-- `sel` are `min k |w|` samples of the window `w` of lowest round-trip delay:
    `sel` and `rest` split `w` (as multisets) and nothing in `sel` has a larger delay than
    anything in `rest`. -/
structure IsSelection (w : List Meas) (k : Nat) (sel rest : List Meas) : Prop where
  perm : (sel ++ rest).Perm w
  len : sel.length = min k w.length
  low : ∀ a ∈ sel, ∀ b ∈ rest, a.rtd ≤ b.rtd

/-- `v` is the median of `offs`: the middle element of the ascending arrangement, or
    `timemath.Midpoint` of the two middle elements. -/
def IsMedianOf (offs : List Int64) (v : Int64) : Prop :=
  ∃ s, s.Perm offs ∧ s.Pairwise (· ≤ ·) ∧ medianI64 s = some v

/-- The selection rule of the property. -/
def LuckySpec (w : List Meas) (k : Nat) (v : Int64) : Prop :=
  ∃ sel rest, IsSelection w k sel rest ∧ IsMedianOf (sel.map Meas.off) v

def DistinctDelays (w : List Meas) : Prop := w.Pairwise (fun a b => a.rtd ≠ b.rtd)

/-- The samples seen since the last reset, after running `ops` from a point where `h`
    had been seen. -/
def samplesSince (h : List Sample) : List LOp → List Sample
  | [] => h
  | .sample x :: ops => samplesSince (h ++ [x]) ops
  | .reset :: ops => samplesSince [] ops

/-- A filter as `NewLuckyPacketFilter(cap, pick)` returns it. -/
def luckyFresh (cap pick : Nat) : Lucky := { cap := cap, pick := min pick cap, state := [] }

/-- The constructor: panics exactly for `cap ≤ 0` or `pick ≤ 0`, otherwise stores
    `min pick cap`. -/
theorem C17_lucky_new (cap pick : Int) :
    (cap ≤ 0 → luckyNew cap pick = .error "cap must be greater than 0") ∧
    (0 < cap → pick ≤ 0 → luckyNew cap pick = .error "pick must be greater than 0") ∧
    (0 < cap → 0 < pick → luckyNew cap pick = .ok (luckyFresh cap.toNat pick.toNat)) := by
  unfold luckyNew luckyFresh
  refine ⟨fun h => by simp [h], fun h1 h2 => by simp [Int.not_le.mpr h1, h2], fun h1 h2 => ?_⟩
  rw [if_neg (by omega), if_neg (by omega)]
  congr 2
  omega

/-- Window invariant: after any history (with resets anywhere) the state is the last
    `cap` samples seen since the last reset; capacity and pick count never change. -/
theorem C17_lucky_window (f : Lucky) (h : List Sample) (hcap : 1 ≤ f.cap)
    (hst : f.state = lastN f.cap (h.map Sample.meas)) (ops : List LOp) :
    (luckyFinal f ops).state = lastN f.cap ((samplesSince h ops).map Sample.meas) ∧
    (luckyFinal f ops).cap = f.cap ∧ (luckyFinal f ops).pick = f.pick := by
  refine ⟨?_, luckyFinal_config f ops⟩
  induction ops generalizing f h with
  | nil => exact hst
  | cons op ops ih =>
    cases op with
    | sample x =>
      simp only [luckyFinal, samplesSince, luckyStep, luckyDo_state f x (by omega)]
      exact ih { f with state := luckyPush f x.meas } (h ++ [x]) hcap (luckyPush_window f hcap h hst x)
    | reset => exact ih { f with state := [] } [] hcap (by simp [lastN])

/-- One call of `Do` on a configured filter never panics and returns a value allowed by
    the selection rule for the updated window (for any delays, equal ones included). -/
theorem C17_lucky_do_meets_spec (f : Lucky) (x : Sample) (hcap : 1 ≤ f.cap) (hpick : 1 ≤ f.pick) :
    ∃ v, (luckyDo f x).2 = some v ∧ LuckySpec (luckyPush f x.meas) f.pick v := by
  have hw : 0 < (luckyPush f x.meas).length := by simp [luckyPush]
  have hlen : 0 < ((sortBy Meas.off (luckySelect f.pick (luckyPush f x.meas))).map Meas.off).length := by
    rw [List.length_map, sortBy_length, luckySelect_length]; omega
  obtain ⟨v, hv⟩ := medianI64_isSome _ hlen
  refine ⟨v, by rw [luckyDo_value f x (by omega), hv], ?_⟩
  refine ⟨luckySelect f.pick (luckyPush f x.meas), luckyRest f.pick (luckyPush f x.meas),
    ⟨luckySelect_perm _ _, luckySelect_length _ _, luckySelect_low _ _⟩, ?_⟩
  exact ⟨_, (sortBy_perm Meas.off _).map Meas.off, List.pairwise_map.mpr (sortBy_sorted Meas.off _), hv⟩

/-- For pairwise distinct delays the selection rule determines the value: any two
    selections of the `k` lowest-delay samples have the same median offset. -/
theorem C17_lucky_spec_unique (w : List Meas) (k : Nat) (v v' : Int64) (hd : DistinctDelays w)
    (h : LuckySpec w k v) (h' : LuckySpec w k v') : v = v' := by
  obtain ⟨sel, rest, hs, s, hp, hsorted, hm⟩ := h
  obtain ⟨sel', rest', hs', s', hp', hsorted', hm'⟩ := h'
  -- both selections are the same filter of `w`
  have h1 := selection_perm_filter w sel rest hs.perm hd hs.low
  have h2 := selection_perm_filter w sel' rest' hs'.perm hd hs'.low
  rw [hs.len] at h1
  rw [hs'.len] at h2
  have hsel : sel.Perm sel' := h1.trans h2.symm
  have : s = s' := List.Perm.eq_of_pairwise (fun _ _ _ _ h1 h2 => Int64.le_antisymm h1 h2)
    hsorted hsorted' ((hp.trans (hsel.map Meas.off)).trans hp'.symm)
  subst this
  rw [hm] at hm'
  exact Option.some.inj hm'

/-- **lucky_spec.** A filter made by `NewLuckyPacketFilter(cap, pick)`, after any history
    `ops` (samples and resets in any order), given one more sample `x`: if the round-trip
    delays in the window are pairwise distinct, `Do` returns `v` iff `v` is the median of the
    offsets of the `min pick cap` (capped at the window size) samples of smallest delay among
    the last `cap` samples seen since the last reset. -/
theorem C17_lucky_spec (cap pick : Nat) (hcap : 1 ≤ cap) (hpick : 1 ≤ pick)
    (ops : List LOp) (x : Sample)
    (hd : DistinctDelays (lastN cap ((samplesSince [] ops ++ [x]).map Sample.meas))) (v : Int64) :
    (luckyDo (luckyFinal (luckyFresh cap pick) ops) x).2 = some v ↔
      LuckySpec (lastN cap ((samplesSince [] ops ++ [x]).map Sample.meas)) (min pick cap) v := by
  -- the filter the history leaves is `⟨cap, min pick cap, window⟩`
  obtain ⟨hst, hc, hp⟩ :=
    C17_lucky_window (luckyFresh cap pick) [] hcap (by simp [luckyFresh, lastN]) ops
  generalize luckyFinal (luckyFresh cap pick) ops = f at hst hc hp ⊢
  obtain ⟨c, p, st⟩ := f
  simp only [luckyFresh] at hst hc hp
  subst hc hp
  have hpush := luckyPush_window ⟨c, min pick c, st⟩ hcap _ hst x
  obtain ⟨v0, hv0, hspec0⟩ :=
    C17_lucky_do_meets_spec ⟨c, min pick c, st⟩ x hcap (Nat.le_min.mpr ⟨hpick, hcap⟩)
  rw [hpush] at hspec0
  rw [hv0]
  exact ⟨fun hv => Option.some.inj hv ▸ hspec0,
    fun hspec => by rw [C17_lucky_spec_unique _ _ _ _ hd hspec0 hspec]⟩

/-- Non-vacuity: capacity 3, pick 2, a history with a reset after the first sample; with the
    new sample the window is (offset, delay) = (−3, 30), (0, 10), (−1, 16) — the sample of
    delay 20 has been shifted out —, the two luckiest have offsets 0 and −1, and the filter
    returns their midpoint −1 + (0 − (−1))/2 = −1. -/
def exOps : List LOp :=
  [.sample ⟨0, 19, 19, 40⟩, .reset, .sample ⟨0, 10, 10, 20⟩, .sample ⟨0, 12, 13, 31⟩,
   .sample ⟨0, 5, 6, 11⟩]
example : DistinctDelays
    (lastN 3 ((samplesSince [] exOps ++ [(⟨0, 7, 7, 16⟩ : Sample)]).map Sample.meas)) := by
  unfold DistinctDelays; decide +kernel
example : (luckyDo (luckyFinal (luckyFresh 3 2) exOps) ⟨0, 7, 7, 16⟩).2 = some (-1) := by
  decide +kernel

/-- The zero-value filter returns the raw offset `ntp.ClockOffset` of every sample, whatever
    came before (and `Reset` changes nothing). -/
theorem C17_lucky_zero_raw (ops : List LOp) (x : Sample) :
    luckyDo (luckyFinal Lucky.zero ops) x
      = (Lucky.zero, some (clockOffset x.cTx x.sRx x.sTx x.cRx)) := by
  have : luckyFinal Lucky.zero ops = Lucky.zero := by
    induction ops with
    | nil => rfl
    | cons op ops ih => cases op <;> simpa [luckyFinal, luckyStep, luckyDo, luckyReset, Lucky.zero] using ih
  rw [this]; rfl

/-- `Reset` forgets: after `Reset` every state behaves like a freshly constructed filter of
    the same configuration. -/
theorem C17_lucky_reset_forgets (f : Lucky) (ops : List LOp) :
    luckyRun f (.reset :: ops) = luckyRun { cap := f.cap, pick := f.pick, state := [] } ops := by
  simp [luckyRun, luckyStep, luckyReset]

/-- …at any position of a history: the outputs after a `Reset` are those of a new filter of
    the same configuration fed the rest of the history. -/
theorem C17_lucky_reset_anywhere (f : Lucky) (pre post : List LOp) :
    luckyRun f (pre ++ .reset :: post)
      = luckyRun f pre ++ luckyRun { cap := f.cap, pick := f.pick, state := [] } post := by
  rw [luckyRun_append, C17_lucky_reset_forgets]
  have h := luckyFinal_config f pre
  rw [h.1, h.2]

/-- No-overflow side condition: for offsets of magnitude below `2^62` the median is the
    integer one — an element of the list, or `a + ⌊(b-a)/2⌋` for the two middle elements
    `a ≤ b` (no wrap-around). -/
theorem C17_lucky_median_int (s : List Int64) (v : Int64) (hs : s.Pairwise (· ≤ ·))
    (hb : ∀ a ∈ s, -4611686018427387904 < a.toInt ∧ a.toInt < 4611686018427387904)
    (hm : medianI64 s = some v) :
    (s.length % 2 = 1 ∧ s[s.length / 2]? = some v) ∨
    (s.length % 2 = 0 ∧ ∃ a b, s[s.length / 2 - 1]? = some a ∧ s[s.length / 2]? = some b ∧
        a.toInt ≤ b.toInt ∧ v.toInt = a.toInt + (b.toInt - a.toInt) / 2) := by
  by_cases hodd : s.length % 2 ≠ 0
  · exact Or.inl ⟨by omega, by rwa [medianI64_odd s hodd] at hm⟩
  · have h0 : s.length ≠ 0 := fun h0 => by
      rw [List.length_eq_zero_iff.mp h0] at hm; cases hm
    have h1 : s.length / 2 - 1 < s.length := by omega
    have h2 : s.length / 2 < s.length := by omega
    rw [medianI64_even s (by omega) h0 (List.getElem?_eq_getElem h1) (List.getElem?_eq_getElem h2)] at hm
    have hle := Int64.le_iff_toInt_le.mp (List.pairwise_iff_getElem.mp hs _ _ h1 h2 (by omega))
    have ha := hb _ (List.getElem_mem h1)
    have hb' := hb _ (List.getElem_mem h2)
    refine Or.inr ⟨by omega, _, _, List.getElem?_eq_getElem h1, List.getElem?_eq_getElem h2, hle, ?_⟩
    rw [← Option.some.inj hm]
    exact midpoint64_toInt _ _ ha.1 hb'.2 hle

/-- …and the raw offset itself is the truncated integer half-sum when both legs
    `t1 - t0`, `t2 - t3` are below `2^62` in magnitude. -/
theorem C17_clockOffset_int (x : Sample)
    (ha1 : -4611686018427387904 < x.sRx - x.cTx) (ha2 : x.sRx - x.cTx < 4611686018427387904)
    (hb1 : -4611686018427387904 < x.sTx - x.cRx) (hb2 : x.sTx - x.cRx < 4611686018427387904) :
    (clockOffset x.cTx x.sRx x.sTx x.cRx).toInt = Int.tdiv ((x.sRx - x.cTx) + (x.sTx - x.cRx)) 2 :=
  clockOffset_toInt _ _ _ _ (by omega) (by omega) (by omega) (by omega)

/-! ## Ntimed filter: structure (exact; no floating-point reasoning needed) -/

/-- What the filter returns when it passes the sample through unfiltered:
    `Inv(Duration((lo + hi) / 2))` with `lo = cTx.Sub(sRx).Seconds()`,
    `hi = cRx.Sub(sTx).Seconds()`. -/
def ntimedRaw (x : Sample) : Int := inv64 (toDuration (ntimedMid x))

/-- The branch chain: exactly one of four branches; 1 and 4 leave `mid` untouched, so the
    output is `ntimedRaw`; 2 and 3 need `navg > 3.0` and exactly one violated limit. -/
theorem C17_ntimed_branches (e : Nat) (f : Ntimed) (x : Sample) :
    let r := ntimedDoFull e f x
    (r.branch = 1 ∧ r.failLo = true ∧ r.failHi = true ∧ r.out = ntimedRaw x) ∨
    (r.branch = 2 ∧ gt r.state.navg c3 = true ∧ r.failLo = true ∧ r.failHi = false) ∨
    (r.branch = 3 ∧ gt r.state.navg c3 = true ∧ r.failLo = false ∧ r.failHi = true) ∨
    (r.branch = 4 ∧ ¬ (r.failLo = true ∧ r.failHi = true) ∧
      (gt r.state.navg c3 = false ∨ (r.failLo = false ∧ r.failHi = false)) ∧ r.out = ntimedRaw x) := by
  intro r
  have hb := ntimedBranch_cases (ntimedEnter e f) r.state.navg (ntimedLo x) (ntimedHi x)
    (ntimedMid x) r.failLo r.failHi
  rw [ntimedDoFull_branch] at hb
  -- where the chain leaves `mid` alone, the output is the unfiltered one
  have hraw (h : r.mid = ntimedMid x) : r.out = ntimedRaw x := by
    rw [ntimedDoFull_out, h]; rfl
  rcases hb with ⟨h1, h2, h3, h4⟩ | ⟨h1, h2, h3, h4, _⟩ | ⟨h1, h2, h3, h4, _⟩ | ⟨h1, h2, h3, h4⟩
  · exact Or.inl ⟨h1, h2, h3, hraw h4⟩
  · exact Or.inr (Or.inl ⟨h1, h2, h3, h4⟩)
  · exact Or.inr (Or.inr (Or.inl ⟨h1, h2, h3, h4⟩))
  · exact Or.inr (Or.inr (Or.inr ⟨h1, h2, h3, hraw h4⟩))

/-- The limits are the learned ones: `failLo` is `lo < alo − 3·loNoise`, `failHi` is
    `hi > ahi + 3·hiNoise`, evaluated on the state the call works on (after the epoch check). -/
theorem C17_ntimed_limits (e : Nat) (f : Ntimed) (x : Sample) :
    let r := ntimedDoFull e f x
    let g := ntimedEnter e f
    let noise := ntimedNoise g r.state.navg
    r.failLo = lt (ntimedLo x) (sub g.alo (mul noise.1 c3)) ∧
    r.failHi = gt (ntimedHi x) (add g.ahi (mul noise.2 c3)) := ⟨rfl, rfl⟩

/-- **ntimed_raw_inbounds.** Whenever the sample violates neither learned limit, branch 4
    is taken and the output is the unfiltered value — for every state. (The same holds in
    branch 1, when both limits are violated, see `C17_ntimed_branches`.) -/
theorem C17_ntimed_raw_inbounds (e : Nat) (f : Ntimed) (x : Sample)
    (hlo : (ntimedDoFull e f x).failLo = false) (hhi : (ntimedDoFull e f x).failHi = false) :
    (ntimedDoFull e f x).branch = 4 ∧ (ntimedDo e f x).2 = ntimedRaw x := by
  rcases C17_ntimed_branches e f x with ⟨_, h2, _⟩ | ⟨_, _, h2, _⟩ | ⟨_, _, _, h2⟩ | ⟨h1, _, _, h4⟩
  · rw [hlo] at h2; cases h2
  · rw [hlo] at h2; cases h2
  · rw [hhi] at h2; cases h2
  · exact ⟨h1, h4⟩

/-- Non-vacuity: a filter that has seen five samples (so `navg > 3`) gets a sixth one inside
    its limits (branch 4); a sample with 40 ms extra upstream delay violates the lower limit
    only and is filtered (branch 2). -/
def exMs (a b c d : Int) : Sample := ⟨a * 1000000, b * 1000000, c * 1000000, d * 1000000⟩
def exN : List NOp :=
  [.sample 0 (exMs 0 10 10 20), .sample 0 (exMs 1000 1011 1011 1020),
   .sample 0 (exMs 2000 2009 2009 2020), .sample 0 (exMs 3000 3010 3010 3021),
   .sample 0 (exMs 4000 4011 4011 4020)]
example :
    let r := ntimedDoFull 0 (ntimedFinal Ntimed.fresh exN) (exMs 5000 5010 5010 5020)
    r.failLo = false ∧ r.failHi = false ∧ gt r.state.navg c3 = true := by decide +kernel
example : (ntimedDoFull 0 (ntimedFinal Ntimed.fresh exN) (exMs 5000 5050 5050 5060)).branch = 2 := by
  decide +kernel

/-- **ntimed_raw_early.** After a reset at clock epoch `e` (explicit `Reset`, or implied by
    `Do` noticing a new epoch — `C17_ntimed_epoch_change_is_reset`), while the epoch stays
    `e`, the first three samples (fewer than four seen, the current one included) take
    branch 1 or 4 and are returned unfiltered. -/
theorem C17_ntimed_raw_early (e : Nat) (s : Ntimed) (xs : List Sample) (x : Sample)
    (hlen : xs.length < 3) :
    let f := ntimedFinal (ntimedReset e s) (xs.map (NOp.sample e))
    ((ntimedDoFull e f x).branch = 1 ∨ (ntimedDoFull e f x).branch = 4) ∧
    (ntimedDo e f x).2 = ntimedRaw x := by
  intro f
  have hn := navg_after e xs (ntimedReset e s) 0 rfl rfl (by omega)
  have hle : gt (ntimedDoFull e f x).state.navg c3 = false := by
    rw [navg_step e f x xs.length hn.1 (by simpa using hn.2) (by omega)]
    exact navg_le3_table ⟨xs.length + 1, by omega⟩
  rcases C17_ntimed_branches e f x with ⟨h1, _, _, h4⟩ | ⟨_, h2, _⟩ | ⟨_, h2, _⟩ | ⟨h1, _, _, h4⟩
  · exact ⟨Or.inl h1, h4⟩
  · rw [hle] at h2; cases h2
  · rw [hle] at h2; cases h2
  · exact ⟨Or.inr h1, h4⟩

/-- **reset_forgets (explicit).** After `Reset` the outputs do not depend on the state the
    filter was in: any two states give the same run — in particular the one of a freshly
    constructed filter. -/
theorem C17_ntimed_reset_forgets (s s' : Ntimed) (e : Nat) (ops : List NOp) :
    ntimedRun s (.reset e :: ops) = ntimedRun s' (.reset e :: ops) := by
  simp only [ntimedRun, ntimedStep]
  rw [ntimedReset_const e s s']

/-- **reset_forgets (epoch change).** A `Do` that sees a clock epoch different from the
    stored one behaves, for this and all later outputs, exactly as if `Reset` had been called
    just before it. -/
theorem C17_ntimed_epoch_change_is_reset (s : Ntimed) (e : Nat) (x : Sample) (ops : List NOp)
    (h : s.epoch ≠ e) :
    ntimedRun s (.sample e x :: ops) = ntimedRun s (.reset e :: .sample e x :: ops) := by
  simp only [ntimedRun, ntimedStep, ntimedDo_reset e s x h]

/-- …so after an epoch change the outputs depend only on the samples seen since: any two
    states whose stored epoch differs from the clock's give the same run. -/
theorem C17_ntimed_epoch_change_forgets (s s' : Ntimed) (e : Nat) (x : Sample) (ops : List NOp)
    (h : s.epoch ≠ e) (h' : s'.epoch ≠ e) :
    ntimedRun s (.sample e x :: ops) = ntimedRun s' (.sample e x :: ops) := by
  rw [C17_ntimed_epoch_change_is_reset s e x ops h, C17_ntimed_epoch_change_is_reset s' e x ops h']
  exact C17_ntimed_reset_forgets s s' e _

/-- A freshly constructed filter (`NewNtimedFilter`, all fields zero) is in the reset state,
    whatever the clock's epoch is at its first call. -/
theorem C17_ntimed_fresh_is_reset (e : Nat) (x : Sample) (ops : List NOp) :
    ntimedRun Ntimed.fresh (.sample e x :: ops)
      = ntimedRun Ntimed.fresh (.reset e :: .sample e x :: ops) := by
  by_cases h : Ntimed.fresh.epoch = e
  · have : ntimedReset e Ntimed.fresh = Ntimed.fresh := by
      have h0 : e = 0 := h.symm
      subst h0; rfl
    simp only [ntimedRun, ntimedStep, this]
  · exact C17_ntimed_epoch_change_is_reset _ e x ops h

/-- **reset_forgets, all positions.** Wherever in a history a `Reset` occurs, or a `Do` that
    sees a clock epoch different from the stored one, the outputs from there on are those of
    a freshly constructed filter fed the rest of the history — they depend only on the
    samples seen since. -/
theorem C17_ntimed_reset_anywhere (s : Ntimed) (pre post : List NOp) (e : Nat) :
    ntimedRun s (pre ++ .reset e :: post)
      = ntimedRun s pre ++ ntimedRun Ntimed.fresh (.reset e :: post) := by
  rw [ntimedRun_append, C17_ntimed_reset_forgets (ntimedFinal s pre) Ntimed.fresh]

/-- The same for a sample that arrives under another epoch than the filter's. -/
theorem C17_ntimed_epoch_change_anywhere (s : Ntimed) (pre post : List NOp) (e : Nat) (x : Sample)
    (h : (ntimedFinal s pre).epoch ≠ e) :
    ntimedRun s (pre ++ .sample e x :: post)
      = ntimedRun s pre ++ ntimedRun Ntimed.fresh (.sample e x :: post) := by
  rw [ntimedRun_append, C17_ntimed_epoch_change_is_reset _ e x post h,
    C17_ntimed_reset_forgets (ntimedFinal s pre) Ntimed.fresh, ← C17_ntimed_fresh_is_reset]

/-- its hypothesis is met, e.g. by the history `exN` and epoch 7 -/
example : (ntimedFinal Ntimed.fresh exN).epoch ≠ 7 := by decide +kernel

end ScionTime.C17
