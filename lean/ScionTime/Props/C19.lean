/-
  Props/C19.lean — PLL clock discipline (core/sync/adjustments/pll.go, `Pll.Do`):
  bounded slew, no step once tracking, sane actuation, restart on a new clock epoch.

  Model: Model/Pll.lean (`step` = one `Do` call, `trace`/`run` = a history of calls).
  Helper lemmas: Proofs/C19.lean; rounding lemmas: Proofs/F64.lean.

  Conventions. `s` is the controller state before the update, `e`/`now` are what
  `l.clk.Epoch()`/`l.clk.Now()` return during it, `off`/`w` the arguments, `pw` the value
  `math.Pow(0.999, dt)` returned (an input of the model; assumption `0 ≤ pw ≤ 1`, written
  `Bd 1 pw`: finite, non-negative, at most 1).  The per-update theorems hold for EVERY
  state `s` (not only reachable ones) unless a hypothesis says otherwise, hence for every
  update of every history; the history theorems quantify over all lists of inputs.
-/
import ScionTime.Proofs.C19
import ScionTime.Gen.Adjustments
namespace ScionTime.Props.C19
open ScionTime.F64 ScionTime.Pll

/-- One update keeps the mode in 0..3 and does not reach the `default` branch. -/
theorem C19_mode_step (s : State) (e : Nat) (now off : Int) (w pw : F64) (h : s.mode ≤ 3) :
    ((step s e now off w pw).next s).mode ≤ 3 ∧ step s e now off w pw ≠ .panic .mode := by
  have hm3 := Nat.le_trans (syncEpoch_mode_le s e) h
  rcases step_spec s e now off w pw with ⟨_, hr⟩ | ⟨_, _, _, hr⟩ | ⟨_, _, _, hr⟩ | ⟨_, _, _, hr⟩ |
      ⟨_, _, _, hr⟩ | ⟨hm, _, _, hr⟩ | ⟨_, _, _, hr⟩ | ⟨_, _⟩
  · rw [hr]; simp [Outcome.next]
  · rw [hr]; simp [Outcome.next]
  · rw [hr]; simp [Outcome.next, hm3]
  · rw [hr]; simp [Outcome.next]
  · rw [hr]; simp [Outcome.next, hm3]
  · obtain ⟨s', acts, hr, hmode, _⟩ := track_ok hr
    rw [hr]; simp [Outcome.next, hmode, hm]
  · rw [hr]; simp [Outcome.next, h]
  · omega

/-- Mode invariant: in every history (any readings, any epochs, any floats) every update starts
    with `mode ∈ {0,1,2,3}`, so `panic("unexpected PLL mode")` is unreachable. -/
theorem C19_mode_invariant (xs : List Input) :
    (∀ τ ∈ trace init xs, τ.1.mode ≤ 3 ∧ τ.2.2 ≠ .panic .mode) ∧ (final init xs).mode ≤ 3 := by
  have h := trace_inv (P := fun s => s.mode ≤ 3) (xs := xs)
    (fun s x _ hs => (C19_mode_step s x.clkEpoch x.now x.offset x.weight x.pow hs).1)
    (s := init) (by decide)
  refine ⟨fun τ hτ => ⟨h.1 τ hτ, ?_⟩, h.2⟩
  rw [trace_step hτ]
  exact (C19_mode_step τ.1 _ _ _ _ _ (h.1 τ hτ)).2

/-- The transitions: within an epoch the mode never decreases and rises by at most one per
    update; 1→2 needs more than 2 s since the start of the epoch and weight > 3; 2→3 needs
    more than 6 s since the step phase ended; 3 stays 3. -/
theorem C19_mode_transitions {s s' : State} {e : Nat} {now off : Int} {w pw : F64}
    {acts : List Action} (he : e = s.epoch) (h : step s e now off w pw = .ok s' acts) :
    s'.epoch = e ∧
    (s.mode = 0 → s'.mode = 1 ∧ s'.t0 = now) ∧
    (s.mode = 1 → (s'.mode = 2 ∧ s'.t0 = now ∧ timeSub now s.t0 > 2000000000 ∧ gt w (ofInt 3) = true)
                  ∨ (s'.mode = 1 ∧ s'.t0 = s.t0 ∧ ¬ (timeSub now s.t0 > 2000000000 ∧ gt w (ofInt 3) = true))) ∧
    (s.mode = 2 → (s'.mode = 3 ∧ s'.t0 = now ∧ timeSub now s.t0 > 6000000000)
                  ∨ (s'.mode = 2 ∧ s'.t0 = s.t0 ∧ ¬ timeSub now s.t0 > 6000000000)) ∧
    (s.mode = 3 → s'.mode = 3 ∧ s'.t0 = s.t0) := by
  have hspec := step_spec s e now off w pw
  rw [syncEpoch_same he, h] at hspec
  rw [show ofInt 3 = wStep by decide +kernel]
  rcases hspec with ⟨hm, ⟨⟩⟩ | ⟨hm, _, hc, ⟨⟩⟩ | ⟨hm, _, hc, ⟨⟩⟩ | ⟨hm, _, hc, ⟨⟩⟩ | ⟨hm, _, hc, ⟨⟩⟩ |
      ⟨hm, _, _, hr⟩ | ⟨_, _, _, ⟨⟩⟩ | ⟨_, ⟨⟩⟩
  · simp [hm, he]
  · simp [hm, he]; exact hc
  · simp [hm, he]; exact fun h1 => Bool.eq_false_iff.mpr fun h2 => hc ⟨h1, h2⟩
  · simp [hm, he]; exact hc
  · simp [hm, he]; exact Int.not_lt.mp hc
  · obtain ⟨s'', acts', ⟨⟩, hmode, hepo, ht0, _⟩ := track_ok hr
    simp [hm, hmode, hepo, ht0, he]

/-- For all histories whose clock readings do not decrease between consecutive updates of the
    same clock epoch: no update panics. -/
theorem C19_no_panic_nondecreasing_in_epoch (xs : List Input) (h : NonDecreasingInEpoch xs) :
    ∀ o ∈ run init xs, ∃ s' acts, o = .ok s' acts := by
  intro o ho
  rw [run_eq_trace, List.mem_map] at ho
  obtain ⟨τ, hτ, rfl⟩ := ho
  exact (trace_linked inv_init (fun _ _ => .inl rfl) h (Consec.trivial xs) τ hτ).2.1

/-- The same for globally non-decreasing readings (the quantifier of the property). -/
theorem C19_no_panic_nondecreasing (xs : List Input) (h : NonDecreasing xs) :
    ∀ o ∈ run init xs, ∃ s' acts, o = .ok s' acts :=
  C19_no_panic_nondecreasing_in_epoch xs h.inEpoch

/-- The hypothesis is needed: a reading one nanosecond before the previous one panics. -/
example : run init [⟨0, 5, 0, fzero, fzero⟩, ⟨0, 4, 0, fzero, fzero⟩]
    = [.ok { init with mode := 1, t0 := 5, t := 5 } [], .panic .clock] := by decide +kernel

/-- A `Step` is made only in mode 1 of the current epoch, more than 2 s after the epoch's first
    update (`s.t0`), with weight > 3 and |offset| > 1 ms; it is the only call of that update,
    moves the controller to mode 2, and its argument is the measured offset — except for
    `MinInt64`, which `Inv∘Inv` turns into `MinInt64 + 1`. -/
theorem C19_step_only_when {s s' : State} {e : Nat} {now off : Int} {w pw : F64}
    {acts : List Action} {x : Int} (hoff : minI64 ≤ off ∧ off ≤ maxI64)
    (h : step s e now off w pw = .ok s' acts) (hx : Action.step x ∈ acts) :
    e = s.epoch ∧ s.mode = 1 ∧ timeSub now s.t0 > 2000000000 ∧ gt w (ofInt 3) = true ∧
    (off > 1000000 ∨ off < -1000000) ∧
    x = (if off = minI64 then minI64 + 1 else off) ∧ s'.mode = 2 ∧ acts = [.step x] := by
  rcases step_acts h with rfl | ⟨hm, hc, ha, hm', rfl⟩ | ⟨_, _, hr⟩
  · cases hx
  · obtain ⟨hs, he⟩ := syncEpoch_of_mode_ne_zero (by omega : (syncEpoch s e).mode ≠ 0)
    rw [List.mem_singleton] at hx
    injection hx with hx
    rw [hs] at hm hc
    exact ⟨he, hm, hc.1, (show ofInt 3 = wStep by decide +kernel) ▸ hc.2, (durAbs_inv hoff).mp ha,
      by rw [hx, inv_inv hoff], hm', by rw [hx]⟩
  · obtain ⟨_, _, ⟨⟩, _, _, _, _, hns⟩ := track_ok hr
    exact absurd hx (hns x)

/-- For every offset but `MinInt64` the clock is stepped by exactly the measured offset. -/
theorem C19_step_exact {s s' : State} {e : Nat} {now off : Int} {w pw : F64}
    {acts : List Action} {x : Int} (hoff : minI64 < off ∧ off ≤ maxI64)
    (h : step s e now off w pw = .ok s' acts) (hx : Action.step x ∈ acts) : x = off := by
  have := (C19_step_only_when ⟨by omega, hoff.2⟩ h hx).2.2.2.2.2.1
  rw [this, if_neg (by omega)]

/-- A non-trivial instance, and the `MinInt64` corner stated exactly: 2 s + 1 ns after the
    epoch start, weight 4: the clock is stepped by `MinInt64 + 1`. -/
example : step { init with mode := 1, t0 := 0, t := 0 } 0 2000000001 minI64 (ofInt 4) fzero
    = .ok { init with mode := 2, t0 := 2000000001, t := 2000000001 } [.step (minI64 + 1)] := by
  decide +kernel

/-- At exactly 2 s, or with weight exactly 3, or offset exactly 1 ms: no step. -/
example : step { init with mode := 1, t0 := 0, t := 0 } 0 2000000000 5000000 (ofInt 4) fzero
    = .ok { init with mode := 1, t0 := 0, t := 2000000000 } [] := by decide +kernel
example : step { init with mode := 1, t0 := 0, t := 0 } 0 2000000001 5000000 (ofInt 3) fzero
    = .ok { init with mode := 1, t0 := 0, t := 2000000001 } [] := by decide +kernel
example : step { init with mode := 1, t0 := 0, t := 0 } 0 2000000001 1000000 (ofInt 4) fzero
    = .ok { init with mode := 2, t0 := 2000000001, t := 2000000001 } [] := by decide +kernel

/-- After the step phase (mode 2 or 3) no update of the same epoch steps the clock, and the
    mode does not go back: at most one `Step` per clock epoch. -/
theorem C19_no_step_after_step_phase {s : State} {e : Nat} {now off : Int} {w pw : F64}
    (he : e = s.epoch) (hm : 2 ≤ s.mode) :
    match step s e now off w pw with
    | .ok s' acts => s.mode ≤ s'.mode ∧ ∀ x, Action.step x ∉ acts
    | .panic _ => True := by
  have hspec := step_spec s e now off w pw
  rw [syncEpoch_same he] at hspec
  rcases hspec with ⟨h0, _⟩ | ⟨h0, _⟩ | ⟨h0, _⟩ | ⟨h2, _, _, hr⟩ | ⟨_, _, _, hr⟩ | ⟨h3, _, _, hr⟩ |
      ⟨_, _, _, hr⟩ | ⟨_, hr⟩
  · omega
  · omega
  · omega
  · rw [hr]; simp [h2]
  · rw [hr]; simp
  · obtain ⟨s', acts, hr, hmode, _, _, _, hns⟩ := track_ok hr
    rw [hr]; exact ⟨by omega, hns⟩
  · rw [hr]; trivial
  · rw [hr]; trivial

/-- Tracking (mode 3) never steps and stays in mode 3 while the clock epoch is unchanged. -/
theorem C19_tracking_no_step {s : State} {e : Nat} {now off : Int} {w pw : F64}
    (he : e = s.epoch) (hm : s.mode = 3) :
    match step s e now off w pw with
    | .ok s' acts => s'.mode = 3 ∧ s'.epoch = s.epoch ∧ ∀ x, Action.step x ∉ acts
    | .panic _ => True := by
  have h1 := C19_no_step_after_step_phase (now := now) (off := off) (w := w) (pw := pw) he (by omega)
  cases hst : step s e now off w pw with
  | panic k => trivial
  | ok s' acts =>
    rw [hst] at h1
    have ht := C19_mode_transitions he hst
    exact ⟨(ht.2.2.2.2 hm).1, ht.1.trans he, h1.2⟩

/-- History form: once mode 3 is reached it persists, without any `Step`, for as long as the
    clock epoch does not change (for any readings, any weights, any offsets, any floats). -/
theorem C19_tracking_stays (s : State) (xs : List Input) (hm : s.mode = 3)
    (he : ∀ x ∈ xs, x.clkEpoch = s.epoch) :
    ∀ τ ∈ trace s xs, τ.1.mode = 3 ∧ ∀ s' acts, τ.2.2 = .ok s' acts → ∀ x, Action.step x ∉ acts := by
  have hstep : ∀ s' : State, ∀ x ∈ xs, s'.mode = 3 ∧ s'.epoch = s.epoch →
      ((stepIn s' x).next s').mode = 3 ∧ ((stepIn s' x).next s').epoch = s.epoch := by
    intro s' x hx hs'
    have h := C19_tracking_no_step (now := x.now) (off := x.offset) (w := x.weight) (pw := x.pow)
      ((he x hx).trans hs'.2.symm) hs'.1
    simp only [stepIn]
    cases hst : step s' x.clkEpoch x.now x.offset x.weight x.pow with
    | panic k => exact hs'
    | ok s'' acts => rw [hst] at h; exact ⟨h.1, h.2.1.trans hs'.2⟩
  have hinv := (trace_inv hstep ⟨hm, rfl⟩).1
  intro τ hτ
  refine ⟨(hinv τ hτ).1, fun s' acts ho => ?_⟩
  have h := C19_tracking_no_step (now := τ.2.1.now) (off := τ.2.1.offset) (w := τ.2.1.weight) (pw := τ.2.1.pow)
    ((he _ (trace_input_mem hτ)).trans (hinv τ hτ).2.symm) (hinv τ hτ).1
  rw [trace_step hτ, stepIn] at ho
  rw [ho] at h; exact h.2.2

/-- Whatever the state, an update that sees a new clock epoch makes no call on the clock and
    leaves the controller in mode 1 with the epoch's start time `t0 = now`: exactly where the
    first update of a fresh controller leaves it (the gains and the integrator are kept).
    From there `C19_mode_transitions` / `C19_step_only_when` give the sequence again: a step
    needs > 2 s from this `now`, tracking a further > 6 s. -/
theorem C19_epoch_restarts (s : State) {e : Nat} (now off : Int) (w pw : F64) (he : e ≠ s.epoch) :
    step s e now off w pw = .ok { s with epoch := e, mode := 1, t0 := now, t := now } [] := by
  rw [step_start (by rw [syncEpoch_new he]), syncEpoch_new he]

/-- The first update of a fresh controller does the same (`NewPLL` starts in mode 0). -/
theorem C19_first_update (e : Nat) (now off : Int) (w pw : F64) :
    step init e now off w pw = .ok { init with epoch := e, mode := 1, t0 := now, t := now } [] := by
  by_cases he : e = init.epoch
  · rw [step_start (by rw [syncEpoch_same he]; rfl), syncEpoch_same he, he]
  · exact C19_epoch_restarts init now off w pw he

/-- An `Adjust` is made only in mode 3 of the current epoch, it is the only call of that update,
    its frequency argument is the integrator `l.i` after the update, and `d = ⌈dt⌉ > 0`
    (as doubles). -/
theorem C19_adjust_only_tracking {s s' : State} {e : Nat} {now off : Int} {w pw : F64}
    {acts : List Action} {o d : Int} {f : F64}
    (h : step s e now off w pw = .ok s' acts) (ha : Action.adjust o d f ∈ acts) :
    e = s.epoch ∧ s.mode = 3 ∧ s'.mode = 3 ∧ acts = [.adjust o d f] ∧ f = s'.i ∧
    gt (ceil (durationSeconds (timeSub now s.t))) fzero = true := by
  obtain ⟨h1, h2, h3, h4, h5, h6, _⟩ := step_adjust h ha
  exact ⟨h1, h2, h3, h4, h5, h6⟩

/-- `adjust_sane`, duration: with a reading not before the previous one and less than
    9 223 372 036 s (≈ 292 years, where `Time.Sub` saturates) after it, the duration handed to
    `Adjust` is `Duration(⌈dt⌉)` for an integer `D = ⌈dt⌉` with
    `1 ≤ D ≤ ⌊gap/10⁹⌋ + 1`, and it is at least one second (in particular > 0, no int64
    overflow). -/
theorem C19_adjust_duration_pos {s s' : State} {e : Nat} {now off : Int} {w pw : F64}
    {acts : List Action} {o d : Int} {f : F64}
    (hmono : s.t ≤ now) (hgap : now - s.t ≤ 9223372035999999999)
    (h : step s e now off w pw = .ok s' acts) (ha : Action.adjust o d f ∈ acts) :
    ∃ D : Int, D = (toRat (durationSeconds (timeSub now s.t))).ceil ∧ 1 ≤ D ∧
      D ≤ (now - s.t) / 1000000000 + 1 ∧ d = toDuration (.fin (D : Rat)) ∧
      1000000000 ≤ d ∧ d ≤ 9223372036854774784 := by
  obtain ⟨_, _, _, _, _, hgt, hd, _⟩ := step_adjust h ha
  obtain ⟨D, hDc, hD1, hD2, hc⟩ := ceil_gap hmono hgap hgt
  have hdur := toDuration_ceil hD1 (by omega : D ≤ 9223372036)
  rw [hc] at hd
  exact ⟨D, hDc, hD1, hD2, hd, by rw [hd]; exact hdur.1, by rw [hd]; exact hdur.2⟩

/-- The range is needed: in the last second before `Time.Sub` saturates `⌈dt⌉·10⁹` no longer
    fits an int64 and the conversion yields `MinInt64` (a negative duration). -/
example : toDuration (ceil (durationSeconds 9223372036000000001)) = 9223372036000000000 := by
  decide +kernel
example : toDuration (ceil (durationSeconds maxI64)) = minI64 := by decide +kernel

/-- `slew_bound`: for gains in their range (`Gain s`: `l.a ∈ [0, 0.33]`, `l.b ∈ [0, 0.33/60]`,
    an invariant of every history, see `C19_gain_invariant`), `0 ≤ pow ≤ 1`, an int64 offset,
    a reading not before the previous one and at most 7 999 999 999 s (≈ 253 years) after it:
    the slew handed to `Adjust` satisfies `|slew| ≤ 500 000 ns · D`, `D = ⌈dt⌉` — 500 ppm of
    the elapsed whole seconds — whatever the offset and weight. -/
theorem C19_slew_bound {s s' : State} {e : Nat} {now off : Int} {w pw : F64}
    {acts : List Action} {o d : Int} {f : F64}
    (hg : Gain s) (hpw : Bd 1 pw) (hoff : minI64 ≤ off ∧ off ≤ maxI64)
    (hmono : s.t ≤ now) (hgap : now - s.t ≤ 7999999999000000000)
    (h : step s e now off w pw = .ok s' acts) (ha : Action.adjust o d f ∈ acts) :
    ∃ D : Int, D = (toRat (durationSeconds (timeSub now s.t))).ceil ∧ 1 ≤ D ∧
      D ≤ (now - s.t) / 1000000000 + 1 ∧
      -(500000 * D) ≤ o ∧ o ≤ 500000 * D ∧ d = toDuration (.fin (D : Rat)) := by
  obtain ⟨_, _, _, _, _, hgt, hd, ho⟩ := step_adjust h ha
  obtain ⟨D, hDc, hD1, hD2, hc⟩ := ceil_gap hmono (by omega) hgt
  have hga := (gains_bd hg hpw (timeSub now s.t0) w).2.1
  have hp : mul (durationSeconds (inv (inv off))) (gains s (timeSub now s.t0) w pw).2.1 ≠ .nan :=
    mul_ne_nan (durationSeconds_finite (inv_range (inv_range hoff))) hga.1
  have hsl := slew_clamp_bound hp hD1 (by omega)
  rw [hc] at ho hd
  rw [← ho] at hsl
  exact ⟨D, hDc, hD1, hD2, hsl.1, hsl.2, hd⟩

/-- The clamp really is reached (so the bound is tight), e.g. a 1 s offset after 16 s. -/
example : toDuration (clamp (mul (durationSeconds 1000000000) aLow) (ofInt 16)) = 8000000 := by
  decide +kernel

/-- The range of `D` cannot be extended to all gaps: at `D = 9 007 199 268` (≈ 285 years; the
    product `D·fl(500e-6)·10⁹` reaches 2⁵², where doubles are 1 apart) the clamp limit itself
    converts to `500 000·D + 1`. An exhaustive run of the Go expression over all
    `D ≤ 9 223 372 037` finds this to be the first such `D`. -/
example : toDuration (mul (ofInt 9007199268) slewPos) = 500000 * 9007199268 + 1 := by
  decide +kernel

/-- The gains stay in their range in every history in which `math.Pow` returned values in
    `[0, 1]` — the hypothesis `Gain s` of `C19_slew_bound` holds at every update. -/
theorem C19_gain_invariant (xs : List Input) (hpw : ∀ x ∈ xs, Bd 1 x.pow) :
    ∀ τ ∈ trace init xs, Gain τ.1 :=
  (trace_inv (fun _ x hx hs => step_gain hs (hpw x hx)) gain_init).1

/-- `adjust_sane`, frequency: the integrator grows by at most `2²⁵` per update
    (`|p·b| ≤ |offset|·0.33·(0.33/60) ≤ 9 223 372 038 · 0.33 · 0.0055 < 2²⁵`), so in every
    history of fewer than 2⁵³ updates (int64 offsets, `math.Pow` results in [0,1]) every
    frequency handed to `Adjust` is a finite double, of magnitude at most `2²⁵ ·` (number of
    updates). The integrator has not overflowed — and cannot within 2⁵³ updates. -/
theorem C19_adjust_frequency_finite (xs : List Input) (hpw : ∀ x ∈ xs, Bd 1 x.pow)
    (hoff : ∀ x ∈ xs, minI64 ≤ x.offset ∧ x.offset ≤ maxI64) (hlen : xs.length < 2 ^ 53) :
    ∀ τ ∈ trace init xs, ∀ s' acts o d f, τ.2.2 = .ok s' acts → Action.adjust o d f ∈ acts →
      isFinite f = true ∧ (toRat f).abs ≤ (xs.length : Rat) * 33554432 := by
  intro τ hτ s' acts o d f hok ha
  have hi0 : IntegBd 0 init := ⟨rfl, by decide +kernel⟩
  have h := trace_integ (n := 0) gain_init hi0 hpw hoff (by omega) τ hτ
  rw [hok] at h
  simp only [Outcome.next, Nat.zero_add] at h
  have hst := trace_step hτ
  rw [hok] at hst
  have hf := (step_adjust hst.symm ha).2.2.2.2.1
  rw [hf]; exact h

/-- One update of the integrator, for any state: `|l.i'| ≤ |l.i| bound + 2²⁵`. -/
theorem C19_integrator_growth {s : State} {e : Nat} {now off : Int} {w pw : F64} {n : Nat}
    (hg : Gain s) (hpw : Bd 1 pw) (hoff : minI64 ≤ off ∧ off ≤ maxI64) (hn : n + 1 < 2 ^ 53)
    (hi : isFinite s.i = true ∧ (toRat s.i).abs ≤ (n : Rat) * 33554432) :
    isFinite ((step s e now off w pw).next s).i = true ∧
      (toRat ((step s e now off w pw).next s).i).abs ≤ ((n + 1 : Nat) : Rat) * 33554432 :=
  step_integ hg hpw hoff hn hi

/-- For every history of updates at non-decreasing clock readings — consecutive readings at most
    7 999 999 999 s apart, int64 offsets, arbitrary weights (NaN and infinities included),
    arbitrary clock epochs changing at any point, `math.Pow` results in [0,1], fewer than 2⁵³
    updates — every update completes without panic, and
    * a `Step` is made only in mode 1 of the current epoch, more than 2 s after the epoch's first
      update, with weight > 3 and |offset| > 1 ms, by the measured offset (`MinInt64 + 1` for
      `MinInt64`);
    * an `Adjust` is made only in mode 3, with a duration of at least one second, a finite
      frequency, and a slew of at most 500 000 ns per whole second `D = ⌈dt⌉`, where
      `D ≤ ⌊gap/10⁹⌋ + 1` for the gap to the previous reading. -/
theorem C19_history (xs : List Input) (hmono : NonDecreasing xs)
    (hgap : Consec (fun x y => y.now - x.now ≤ 7999999999000000000) xs)
    (hpw : ∀ x ∈ xs, Bd 1 x.pow) (hoff : ∀ x ∈ xs, minI64 ≤ x.offset ∧ x.offset ≤ maxI64)
    (hlen : xs.length < 2 ^ 53) :
    ∀ τ ∈ trace init xs, ∃ s' acts, τ.2.2 = .ok s' acts ∧
      (∀ x, Action.step x ∈ acts →
        τ.1.mode = 1 ∧ τ.2.1.clkEpoch = τ.1.epoch ∧ timeSub τ.2.1.now τ.1.t0 > 2000000000 ∧
        gt τ.2.1.weight (ofInt 3) = true ∧ (τ.2.1.offset > 1000000 ∨ τ.2.1.offset < -1000000) ∧
        x = (if τ.2.1.offset = minI64 then minI64 + 1 else τ.2.1.offset)) ∧
      (∀ o d f, Action.adjust o d f ∈ acts →
        τ.1.mode = 3 ∧ τ.2.1.clkEpoch = τ.1.epoch ∧ 1000000000 ≤ d ∧ isFinite f = true ∧
        ∃ D : Int, 1 ≤ D ∧ D ≤ (τ.2.1.now - τ.1.t) / 1000000000 + 1 ∧
          -(500000 * D) ≤ o ∧ o ≤ 500000 * D ∧ d = toDuration (.fin (D : Rat))) := by
  intro τ hτ
  have hin := trace_input_mem hτ
  obtain ⟨_, ⟨s', acts, hok⟩, hlink⟩ :=
    trace_linked (R := fun x y => y.now - x.now ≤ 7999999999000000000) inv_init (fun _ _ => .inl rfl)
      hmono.inEpoch hgap τ hτ
  have hst := (trace_step hτ).symm
  rw [hok] at hst
  simp only [stepIn] at hst
  refine ⟨s', acts, hok, ?_, ?_⟩
  · intro x hx
    have h := C19_step_only_when (hoff _ hin) hst hx
    exact ⟨h.2.1, h.1, h.2.2.1, h.2.2.2.1, h.2.2.2.2.1, h.2.2.2.2.2.1⟩
  · intro o d f ha
    have hA := C19_adjust_only_tracking hst ha
    have hg := C19_gain_invariant xs hpw τ hτ
    have hf := C19_adjust_frequency_finite xs hpw hoff hlen τ hτ s' acts o d f hok ha
    rcases hlink with h0 | ⟨p, hR, ht, hle⟩
    · rw [hA.2.1] at h0; exact absurd h0 (by decide)
    · have hmono' : τ.1.t ≤ τ.2.1.now := by rw [ht]; exact hle hA.1
      have hgap' : τ.2.1.now - τ.1.t ≤ 7999999999000000000 := by rw [ht]; exact hR
      obtain ⟨D, _, hD1, hD2, hlo, hhi, hd⟩ :=
        C19_slew_bound hg (hpw _ hin) (hoff _ hin) hmono' hgap' hst ha
      obtain ⟨_, _, _, _, _, hdpos, _⟩ :=
        C19_adjust_duration_pos hmono' (by omega) hst ha
      exact ⟨hA.2.1, hA.1, hdpos, hf.1, D, hD1, hD2, hlo, hhi, hd⟩

/-- A history meeting every hypothesis of `C19_history` in which all of it happens: start-up,
    a step by the measured 5 ms, tracking, a clamped slew (1 s offset after 16 s: 8 ms over
    16 s), and a restart on a new epoch. -/
def demo : List Input :=
  [⟨7, 0, 5000000, ofInt 1000, ofInt 1⟩, ⟨7, 2000000001, 5000000, ofInt 1000, ofInt 1⟩,
   ⟨7, 9000000000, 100, ofInt 1000, ofInt 1⟩, ⟨7, 25000000000, 1000000000, ofInt 1000, ofInt 1⟩,
   ⟨8, 26000000000, 1000000000, ofInt 1000, ofInt 1⟩]

example : NonDecreasing demo ∧ Consec (fun x y => y.now - x.now ≤ 7999999999000000000) demo
    ∧ (∀ x ∈ demo, Bd 1 x.pow) ∧ (∀ x ∈ demo, minI64 ≤ x.offset ∧ x.offset ≤ maxI64) := by
  refine ⟨by simp [demo, NonDecreasing], by simp [demo, Consec], ?_, ?_⟩
  · intro x hx; simp [demo] at hx
    rcases hx with rfl | rfl | rfl | rfl | rfl <;> exact ⟨by decide +kernel, by decide +kernel, by decide +kernel⟩
  · intro x hx; simp [demo] at hx
    rcases hx with rfl | rfl | rfl | rfl | rfl <;> decide

example : (run init demo).map (fun o => match o with
      | .ok s acts => (s.mode, acts.map (fun (a : Action) => match a with
          | .step x => [x] | .adjust o d _ => [o, d]))
      | .panic _ => (99, []))
    = [(1, []), (2, [[5000000]]), (3, []), (3, [[8000000, 16000000000]]), (1, [])] := by
  decide +kernel

/-! The constants of `Pll.Do`, regenerated from the source on every run. -/

open ScionTime.Gen.Adjustments in
theorem C19_pin_thresholds :
    pll_stepWait = stepWait ∧ pll_stepWait_op = ">" ∧
    pll_pllWait = pllWait ∧ pll_pllWait_op = ">" ∧
    pll_stepThreshold = stepThreshold ∧ pll_stepThreshold_op = ">" ∧
    pll_captureTime = captureTime ∧
    ofInt pll_stepWeight = wStep ∧ pll_stepWeight_op = ">" ∧
    ofInt pll_wLow = wLow ∧ pll_wLow_op = "<" ∧
    ofInt pll_wHigh = wHigh ∧ pll_wHigh_op = "<" ∧
    pll_modeCount = 4 ∧ pll_stepCallsInCase1 = 1 ∧
    pll_adjustGuard = 0 ∧ pll_adjustGuard_op = ">" ∧
    pll_clockCheck1 = 0 ∧ pll_clockCheck1_op = "<" ∧ pll_clockCheck2 = 0 ∧ pll_clockCheck2_op = "<" ∧
    pll_clockCheck3 = 0 ∧ pll_clockCheck3_op = "<" ∧ pll_clockCheck3dt = 0 ∧ pll_clockCheck3dt_op = "<" := by
  decide +kernel

open ScionTime.Gen.Adjustments in
/-- The float literals: the model's constant is the literal rounded once (`ofConst`), and that
    is the double the Go compiler stores (`_f64num/_f64den`, computed by the extractor with
    `big.Rat.Float64`). In particular `500e-6` is `1152921504606847 / 2^61`. -/
theorem C19_pin_gains :
    ofConst pll_pInit_num pll_pInit_den.toNat = pInit ∧
      pInit = .fin ((pll_pInit_f64num : Rat) / (pll_pInit_f64den : Rat)) ∧
    ofInt pll_iInit = iInit ∧
    ofConst pll_pLimit_num pll_pLimit_den.toNat = pLimit ∧
      pLimit = .fin ((pll_pLimit_f64num : Rat) / (pll_pLimit_f64den : Rat)) ∧
    ofConst pll_pLimitCmp_num pll_pLimitCmp_den.toNat = pLimit ∧ pll_pLimitCmp_op = ">" ∧
    ofConst pll_aLow_num pll_aLow_den.toNat = aLow ∧
      aLow = .fin ((pll_aLow_f64num : Rat) / (pll_aLow_f64den : Rat)) ∧
    ofConst pll_bLow_num pll_bLow_den.toNat = bLow ∧
      bLow = .fin ((pll_bLow_f64num : Rat) / (pll_bLow_f64den : Rat)) ∧
    ofConst pll_aMid_num pll_aMid_den.toNat = aMid ∧
      aMid = .fin ((pll_aMid_f64num : Rat) / (pll_aMid_f64den : Rat)) ∧
    ofConst pll_bMid_num pll_bMid_den.toNat = bMid ∧
      bMid = .fin ((pll_bMid_f64num : Rat) / (pll_bMid_f64den : Rat)) := by
  decide +kernel

open ScionTime.Gen.Adjustments in
theorem C19_pin_slew :
    ofConst pll_slewPos_num pll_slewPos_den.toNat = slewPos ∧ pll_slewPos_op = ">" ∧
      slewPos = .fin ((pll_slewPos_f64num : Rat) / (pll_slewPos_f64den : Rat)) ∧
    ofConst pll_slewNeg_num pll_slewNeg_den.toNat = slewNeg ∧ pll_slewNeg_op = "<" ∧
      slewNeg = .fin ((pll_slewNeg_f64num : Rat) / (pll_slewNeg_f64den : Rat)) ∧
    slewPos = .fin slewC ∧ slewNeg = .fin (-slewC) ∧
    -- the model's literal rationals are the source's
    ((pll_slewPos_num : Rat) / (pll_slewPos_den : Rat) = 500 / 1000000) := by
  decide +kernel

end ScionTime.Props.C19
