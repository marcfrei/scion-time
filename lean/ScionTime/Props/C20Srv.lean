/-
  C20Srv — the NTS-KE server handlers (TLS and QUIC) as functions of the *segmented* request
  stream: clause "an NTS-KE record stream decodes to the same data however the transport
  segments the byte stream into reads" (C14) at the server, and the server half of C20
  ("server message: next protocol, algorithm, server, port, 8 cookies, end"; "on success
  client and server hold identical keys, the client's cookie pool is exactly the cookies
  issued").
  Model: ScionTime/Model/NtskeSrv.lean (handlers), Model/Ntske.lean (ReadData, pack, client
  fetcher), Model/Cookies.lean (cookie sealing over an abstract AEAD).
  TLS itself (handshake, that both ends export equal values) is a parameter: the two exporter
  outputs appear as `c2s`/`s2c` on both sides of the composition theorem.
-/
import ScionTime.Proofs.NtskeSrv
import ScionTime.Props.C20
import ScionTime.Props.C10
import ScionTime.Proofs.CookieCodec
import ScionTime.Gen.Ntske
import ScionTime.Gen.Server
namespace ScionTime.C20Srv
open ScionTime.Ntske ScionTime.NtskeSrv ScionTime.C20

theorem C20Srv_pin_error_codes :
    Gen.Ntske.ErrorCodeBadRequest = errBadRequest ∧ Gen.Ntske.ErrorCodeInternalServer = errInternalServer := by
  decide

/-- Structural facts regenerated from core/server/ntske_ip.go, ntske_scion.go and ntske.go on
    every run (harness/extract/x_c14c20srv.go): each handler hands a `bufio.Reader` made directly on
    the connection / the accepted stream to `ntske.ReadData` (no intermediate copy, no single
    `Read`), answers a read failure with the bad-request code and nothing else, closes by
    `defer`, and `newNTSKEMsg` makes `numCookies` attempts. -/
theorem C20Srv_pin_handlers :
    Gen.Server.ntskeTLSReaderArg = "bufio.NewReader(conn)" ∧
    Gen.Server.ntskeQUICReaderArg = "bufio.NewReader(stream)" ∧
    Gen.Server.ntskeTLSConnReads = 0 ∧ Gen.Server.ntskeQUICStreamReads = 0 ∧
    Gen.Server.ntskeTLSReadErrCode = "ntske.ErrorCodeBadRequest" ∧
    Gen.Server.ntskeQUICReadErrCode = "ntske.ErrorCodeBadRequest" ∧
    Gen.Server.ntskeTLSDefer = "conn.Close()" ∧ Gen.Server.ntskeQUICDefer = "stream.Close()" ∧
    Gen.Server.ntskeCookieAttempts = (numCookies : Int) :=
  ⟨rfl, rfl, rfl, rfl, rfl, rfl, rfl, rfl, rfl⟩

/-- the two error messages, byte for byte -/
theorem C20Srv_error_messages :
    errorMsg errBadRequest = [128, 2, 0, 2, 0, 1] ∧ errorMsg errInternalServer = [128, 2, 0, 2, 0, 2] := by
  decide

/-- The request stream is *valid*: well-formed accepted records (recognised kind other than
    error, or unrecognised without the critical bit) followed by an end-of-message header;
    what follows is not looked at. This is a property of the byte string alone. -/
def ValidRequest (bs : List Byte) : Prop := ∃ items, Accepts bs items

/-- `ReadData` succeeds on a delivery exactly when the bytes delivered are a valid request
    stream — whatever the segmentation. -/
theorem C20Srv_valid_iff_readData_ok (chunks : List (List Byte)) :
    (∃ d, readData chunks {} = (d, none)) ↔ ValidRequest chunks.flatten := by
  simp only [readData_eq_readFlat, readFlat_ok_iff]
  exact ⟨fun ⟨_, items, hacc, _⟩ => ⟨items, hacc⟩, fun ⟨items, hacc⟩ => ⟨_, items, hacc, rfl⟩⟩

/-- a stream on which the reader fails (delivered in one piece) is not valid -/
theorem C20Srv_error_not_valid (bs : List Byte) (h : (readData [bs] {}).2 ≠ none) : ¬ ValidRequest bs := by
  intro hv
  obtain ⟨d, hd⟩ := (C20Srv_valid_iff_readData_ok [bs]).mpr (by simpa using hv)
  rw [hd] at h
  exact h rfl

/-- **Segmentation independence of the handler's decision and response**, for every stream —
    valid or not — and every way of cutting it into reads (empty reads included), over TLS and
    over QUIC: two deliveries of the same bytes get the same verdict and the same bytes back. -/
theorem C20Srv_segmentation_independent (c : Conn) (r' : List (List Byte))
    (h : r'.flatten = c.request.flatten) :
    verdict { c with request := r' } = verdict c ∧ handle { c with request := r' } = handle c := by
  have hv : verdict { c with request := r' } = verdict c := by
    unfold verdict
    simp only [readData_eq_readFlat, h]
  exact ⟨hv, by unfold handle; rw [hv]⟩

/-- non-vacuity: the client's request cut after 5 bytes and delivered whole are such a pair -/
example : ([[128, 1, 0, 2, 0], [0, 128, 4, 0, 2, 0, 15, 128, 0, 0, 0]] : List (List Byte)).flatten
    = ([packMsg clientMsg] : List (List Byte)).flatten := by decide

/-- A handler that looks at the result of a single `Read` only is *not* independent of the
    segmentation: the client's request in one TLS record is served, the same bytes in two
    records get the bad-request error (this is the shape of a realistic "bound the request
    size" edit; the theorem above excludes it for the code as modelled, the pin
    `C20Srv_pin_handlers` and the live streams of harness c20srv tie the model to the code). -/
theorem C20Srv_single_read_depends_on_segmentation :
    let c1 : Conn := { request := [packMsg clientMsg], c2s := [1], s2c := [2], localIP := [49],
                       localPort := 123, cookies := [some [7]] }
    let c2 : Conn := { c1 with request := [[128, 1, 0, 2, 0], [0, 128, 4, 0, 2, 0, 15, 128, 0, 0, 0]] }
    handleSingleRead 1024 c1 = handle c1 ∧ handle c2 = handle c1 ∧
    handleSingleRead 1024 c2 = .wrote (errorMsg errBadRequest) ∧
    handle c1 ≠ .wrote (errorMsg errBadRequest) := by
  decide

/-- Exact characterisation of the verdict (TLS, or QUIC with a stream): bad request iff the
    byte stream is not valid; internal error iff it is valid and the exporter failed or not one
    cookie could be sealed; otherwise the response message. -/
theorem C20Srv_verdict_iff (c : Conn) (hs : c.quic = false ∨ c.streamOk = true) :
    ((∃ e, verdict c = .badRequest e) ↔ ¬ ValidRequest c.request.flatten) ∧
    (verdict c = .exportFailed ↔ ValidRequest c.request.flatten ∧ c.exportOk = false) ∧
    (verdict c = .noCookie ↔ ValidRequest c.request.flatten ∧ c.exportOk = true ∧
        c.cookies.filterMap id = []) ∧
    (∀ msg, verdict c = .respond msg ↔ ValidRequest c.request.flatten ∧ c.exportOk = true ∧
        c.cookies.filterMap id ≠ [] ∧
        msg = [.nextProto ntpv4, .algorithm [aesSivCmac256], .server c.localIP false,
               .port (c.localPort % 65536) false] ++ (c.cookies.filterMap id).map .cookie ++ [.end_]) := by
  have h := verdict_spec c
  simp only [← C20Srv_valid_iff_readData_ok]
  generalize verdict c = v at h ⊢
  cases h with
  | noStream hq ho => rcases hs with hs | hs <;> simp_all
  | badRequest hr => simp [hr]
  | exportFailed hr hx => simp [hr, hx]
  | noCookie hr hx hck => simp [hr, hx, hck]
  | respond hr hx hck => simp [hr, hx, hck, eq_comm]

/-- Totality (no panic, no hang on a finite stream, nothing but the three kinds of answer):
    the handler returns silently (QUIC without a stream only), or writes exactly one message —
    the bad-request error record, the internal-error record, or a response message — and
    closes. The read loop ends within one iteration per four request bytes
    (`C08Ntske_readData_total`: the model's fuel never runs out). -/
theorem C20Srv_outcomes (c : Conn) :
    (handle c = .silent ∧ c.quic = true ∧ c.streamOk = false) ∨
    (handle c = .wrote (errorMsg errBadRequest) ∧ ¬ ValidRequest c.request.flatten ∧
      ∃ e, verdict c = .badRequest e ∧ e ≠ .fuel) ∨
    (handle c = .wrote (errorMsg errInternalServer) ∧ ValidRequest c.request.flatten) ∨
    (∃ msg, handle c = .wrote (packMsg msg) ∧ verdict c = .respond msg ∧ ValidRequest c.request.flatten) := by
  have h := verdict_spec c
  simp only [handle, ← C20Srv_valid_iff_readData_ok]
  generalize verdict c = v at h ⊢
  cases h with
  | noStream hq ho => exact .inl ⟨rfl, hq, ho⟩
  | @badRequest d e hr =>
    refine .inr (.inl ⟨rfl, by simp [hr], e, rfl, ?_⟩)
    rintro rfl
    exact readData_ne_fuel c.request {} (by rw [hr])
  | exportFailed hr => exact .inr (.inr (.inl ⟨rfl, _, hr⟩))
  | noCookie hr => exact .inr (.inr (.inl ⟨rfl, _, hr⟩))
  | respond hr => exact .inr (.inr (.inr ⟨_, rfl, rfl, _, hr⟩))

/-- **Every malformed stream gets the bad-request error record** (TLS, or QUIC with a
    stream), whatever its segmentation: truncated at any byte, an error record, an
    unrecognised critical record, garbage. -/
theorem C20Srv_malformed_gets_bad_request (c : Conn) (hs : c.quic = false ∨ c.streamOk = true)
    (h : ¬ ValidRequest c.request.flatten) : handle c = .wrote [128, 2, 0, 2, 0, 1] := by
  obtain ⟨e, he⟩ := (C20Srv_verdict_iff c hs).1.mpr h
  rw [← C20Srv_error_messages.1]
  simp [handle, he, Verdict.out]

/-- non-vacuity: a request cut off inside its last header, and an unknown critical record -/
example : ¬ ValidRequest ([128, 1, 0, 2, 0, 0, 128, 4, 0, 2, 0, 15, 128, 0, 0] : List Byte) ∧
    ¬ ValidRequest ([128, 9, 0, 0, 128, 0, 0, 0] : List Byte) :=
  ⟨C20Srv_error_not_valid _ (by decide), C20Srv_error_not_valid _ (by decide)⟩

/-- **Shape of every response**: next protocol NTPv4, the single algorithm AES-SIV-CMAC-256,
    the local address, the configured NTP port (16 bits), then the cookies that could be sealed —
    at least one, at most as many as there were attempts — then end of message; and the handler
    wrote exactly that message in one piece. -/
theorem C20Srv_response_shape (c : Conn) (msg : List Rec) (h : verdict c = .respond msg) :
    let cs := c.cookies.filterMap id
    msg = [.nextProto ntpv4, .algorithm [aesSivCmac256], .server c.localIP false,
           .port (c.localPort % 65536) false] ++ cs.map .cookie ++ [.end_] ∧
    1 ≤ cs.length ∧ cs.length ≤ c.cookies.length ∧ handle c = .wrote (packMsg msg) := by
  have hv := verdict_spec c
  rw [h] at hv
  cases hv with
  | respond _ _ hne =>
    exact ⟨rfl, List.length_pos_iff.mpr hne, List.length_filterMap_le _ _, by simp [handle, h, Verdict.out]⟩

/-- The response does not depend on what the request offered — only on its being a valid
    record stream. (Observation about the code, not endorsed: RFC 8915 §4.1.2 / §4.1.5 would have
    a server refuse a request without the NTPv4 next-protocol record or without an AEAD
    algorithm it supports; this server answers an empty request — a lone end-of-message
    record — with a full response naming AES-SIV-CMAC-256.) -/
theorem C20Srv_request_content_ignored (c : Conn) (r' : List (List Byte))
    (h1 : ValidRequest c.request.flatten) (h2 : ValidRequest r'.flatten) :
    handle { c with request := r' } = handle c := by
  obtain ⟨d1, hd1⟩ := (C20Srv_valid_iff_readData_ok c.request).mpr h1
  obtain ⟨d2, hd2⟩ := (C20Srv_valid_iff_readData_ok r').mpr h2
  unfold handle verdict
  simp only [hd1, hd2]

/-- the empty request: a lone end-of-message record is served in full -/
example :
    handle { request := [[128, 0, 0, 0]], c2s := [1], s2c := [2], localIP := [49], localPort := 123,
             cookies := [some [7], none, some [9]] } =
      .wrote (packMsg [.nextProto 0, .algorithm [15], .server [49] false, .port 123 false,
                       .cookie [7], .cookie [9], .end_]) := by decide

/-- Over QUIC the handler does the same as over TLS once a stream has been accepted. -/
theorem C20Srv_quic_same_as_tls (c : Conn) (h : c.streamOk = true) :
    handle { c with quic := true } = handle { c with quic := false } := by
  simp [handle, verdict, h]

/-- **Every delivery of the client's request is served.** The request the production client
    sends (next protocol, algorithm, end), cut into reads in any way, followed by anything,
    with unrecognised non-critical records in front: the server (exporter available, at least
    one cookie sealed) writes the response message. -/
theorem C20Srv_client_request_served (c : Conn) (hs : c.quic = false ∨ c.streamOk = true)
    (pre : List Item) (hpre : ∀ it ∈ pre, it.wf ∧ it.ignorable) (tail : List Byte)
    (hreq : c.request.flatten = pre.flatMap Item.enc ++ packMsg clientMsg ++ tail)
    (hx : c.exportOk = true) (hck : c.cookies.filterMap id ≠ []) :
    ∃ msg, serverMsg c.localIP c.localPort (c.cookies.filterMap id) = some msg ∧
      verdict c = .respond msg ∧ handle c = .wrote (packMsg msg) := by
  have hv : ValidRequest c.request.flatten := by
    rw [← C20Srv_valid_iff_readData_ok, readData_eq_readFlat, hreq, List.append_assoc,
      readFlat_items pre _ _ fun it h => ⟨(hpre it h).1, .inr (hpre it h).2.2⟩]
    exact ⟨_, readFlat_packed _ fits_clientMsg tail _⟩
  have hvd := ((C20Srv_verdict_iff c hs).2.2.2 _).mpr ⟨hv, hx, hck, rfl⟩
  refine ⟨_, ?_, hvd, by simp [handle, hvd, Verdict.out]⟩
  unfold serverMsg
  rw [if_neg (by simpa using hck)]

/-- **End to end, every segmentation in both directions.** Server side: connection `c` on
    which the client's request arrives cut into reads in any way (`hreq`), exporter available,
    cookies `cs` sealed. Client side: exchange `e` whose stream is what the server wrote, cut
    into reads in any way (`hresp`), same transport, `ntske/1` negotiated, and — the one thing
    taken from TLS — both ends of the session export the same two values (`hk`). Then the
    client's key exchange succeeds and leaves exactly: the session keys the server sealed into
    the cookies, the server's address and NTP port, algorithm 15, and a cookie pool that is
    the cookies issued, in order; `FetchData` hands that out and keeps all but the first. -/
theorem C20Srv_end_to_end (c : Conn) (hs : c.quic = false ∨ c.streamOk = true)
    (tail : List Byte) (hreq : c.request.flatten = packMsg clientMsg ++ tail)
    (hx : c.exportOk = true) (hck : c.cookies.filterMap id ≠ [])
    (hip : c.localIP.length < 65536) (hlen : ∀ k ∈ c.cookies.filterMap id, k.length < 65536)
    (e : Exchange) (hd : e.dialOk = true) (ha : e.quic = true ∨ e.alpn = alpnProto) (hex : e.exportOk = true)
    (hk : e.c2s = c.c2s ∧ e.s2c = c.s2c)
    (hresp : handle c = .wrote e.stream.flatten) (cached : Data) (hempty : cached.cookies = []) :
    let d : Data := { c2s := c.c2s, s2c := c.s2c, server := c.localIP, port := c.localPort % 65536,
                      cookies := c.cookies.filterMap id, algo := aesSivCmac256 }
    exchangeKeys cached e = (d, none) ∧
    (fetchData cached e).out = .ok d ∧
    (fetchData cached e).cached.cookies = (c.cookies.filterMap id).drop 1 := by
  obtain ⟨msg, hm, _, hw⟩ := C20Srv_client_request_served c hs [] (by simp) tail (by simpa using hreq) hx hck
  have hex' := C20_server_message_accepted c.localIP c.localPort (c.cookies.filterMap id) msg hm hip hlen
    e hd ha hex (Out.wrote.inj (hw ▸ hresp)).symm cached
  rw [hk.1, hk.2] at hex'
  exact ⟨hex', (C20_pool_is_issued cached e _ hempty hex').2⟩

/-- a concrete instance of every hypothesis: request in three reads, response in two -/
example :
    let c : Conn := { request := [[128, 1, 0], [2, 0, 0, 128, 4, 0, 2, 0, 15, 128], [0, 0, 0]], c2s := [1], s2c := [2],
                      localIP := [49], localPort := 123, cookies := [some [7], some [9]] }
    let e : Exchange := { dialOk := true, host := [50], alpn := "ntske/1", c2s := [1], s2c := [2],
                          stream := [[128, 1, 0, 2, 0, 0, 128, 4, 0, 2, 0, 15, 0, 6, 0, 1, 49, 0, 7, 0],
                                     [2, 0, 123, 0, 5, 0, 1, 7, 0, 5, 0, 1, 9, 128, 0, 0, 0]] }
    handle c = .wrote e.stream.flatten ∧
    exchangeKeys {} e = ({ c2s := [1], s2c := [2], server := [49], port := 123, cookies := [[7], [9]], algo := 15 }, none) := by
  decide

open ScionTime.Nts in
/-- **The cookies carry the session keys under the provider's current key.** For every AEAD
    with the round-trip law and the 16-byte tag, a current key of valid size, nonce draws that
    succeeded (16 bytes each), exporter values of the exported length: every one of the eight
    attempts yields a cookie; it decodes as an encrypted cookie naming the current key's id
    (16 bits), and opens under that key to exactly (AES-SIV-CMAC-256, S2C, C2S) of this
    session. Together with `C20Srv_end_to_end`: the keys the client holds after the exchange
    are the keys inside every cookie in its pool. -/
theorem C20Srv_cookies_open_to_session_keys (A : AEAD) (hl : A.Lawful) (hsz : A.Sized)
    (key : Bytes) (keyid : Nat) (c2s s2c : Bytes) (nonces : List (Option Bytes))
    (hk : keyOk key = true) (hn : ∀ n ∈ nonces, ∃ b, n = some b ∧ b.length = 16)
    (h1 : c2s.length < 32700) (h2 : s2c.length < 32700) :
    ∀ k ∈ sealCookies A key keyid c2s s2c nonces,
      ∃ b ec, k = some b ∧ ecDecode b = .ok ec ∧ ec.num = keyid % 65536 ∧
        decryptCookie A ec key = .ok ⟨aesSivCmac256, s2c, c2s⟩ := by
  intro k hkm
  unfold sealCookies at hkm
  obtain ⟨n, hnm, rfl⟩ := List.mem_map.mp hkm
  obtain ⟨nonce, rfl, hlen⟩ := hn n hnm
  -- what the bound 32700 is for: 14 bytes of TLV framing + both keys + the 16-byte tag fit the 16-bit length field
  have hct : (A.sealF key nonce (scEncode ⟨aesSivCmac256, s2c, c2s⟩) none).length < 65536 := by
    rw [hsz, scEncode, encodeTLV_length]
    simp only
    omega
  obtain ⟨ec, henc, hdec, hopen⟩ := ScionTime.C10.C10_cookie_roundtrip A hl ⟨aesSivCmac256, s2c, c2s⟩ key nonce keyid hk hlen
    (by show (15 : Nat) < 65536; omega) (by simp only; omega) (by simp only; omega) hct
  refine ⟨ecEncode ec, ec, ?_, hdec, ?_, hopen⟩
  · simp [sealOne, henc]
  · simp only [encryptCookie, hk, Bool.not_true, Bool.false_eq_true, if_false, sealC, hlen, ne_eq,
      not_true_eq_false, bind, Res.bind] at henc
    cases henc
    rfl

open ScionTime.Nts in
/-- the hypotheses are met (toy AEAD of Props/C10, 32-byte keys, two draws) -/
example : ∀ k ∈ sealCookies ScionTime.C10.toyAEAD (zeros 32) 7 (zeros 32) (zeros 32) [some (zeros 16), some (zeros 16)],
    ∃ b, k = some b ∧ b.length = 124 := by decide

end ScionTime.C20Srv
