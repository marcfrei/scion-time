/-
  Props/C01Cfg.lean — C01, configuration side: `sync.Run`'s configuration is what
  timeservice.go's `syncConfig(cfg)` makes of the TOML values, and the drift behind the caps is
  `clockDrift(cfg)`.

  Model: Model/MainCfg.lean (`syncConfig`, `clockDrift`, `dscp`), start-up conditions of `Run`:
  Model/Sync.lean (`startup`, `admissible`). Tied to the real functions on every run by
  harness/cmd/cmain (part sync): the repository's binary built with -tags verif answers the ops.
-/
import ScionTime.Model.MainCfg
import ScionTime.Proofs.C01
import ScionTime.Props.C01
import ScionTime.Gen.Sync
import ScionTime.Props.F64P_C18Float
import ScionTime.Props.LeafC18

namespace ScionTime.Props.C01Cfg
open ScionTime.MainCfg ScionTime.Sync ScionTime.F64

/-! ### pins: constants and source shapes of timeservice.go regenerated on every run
    (harness/extract/x_cmain.go) -/

/-- the five defaults inside `syncConfig` -/
theorem C01Cfg_pin_defaults :
    ofConst Gen.Sync.main_defaultReferenceClockImpact_num Gen.Sync.main_defaultReferenceClockImpact_den.toNat
      = defaultReferenceClockImpact ∧
    ofConst Gen.Sync.main_defaultPeerClockImpact_num Gen.Sync.main_defaultPeerClockImpact_den.toNat
      = defaultPeerClockImpact ∧
    Gen.Sync.main_defaultPeerClockCutoff = defaultPeerClockCutoff ∧
    Gen.Sync.main_defaultSyncTimeout = defaultSyncTimeout ∧
    Gen.Sync.main_defaultSyncInterval = defaultSyncInterval := by decide +kernel

/-- which `svcConfig` field reaches which `sync.Config` field, and through which conversion -/
theorem C01Cfg_pin_wiring : Gen.Sync.main_syncConfig_literal =
    "ReferenceClockImpact:cfg.ReferenceClockImpact | PeerClockImpact:cfg.PeerClockImpact | PeerClockCutoff:timemath.Duration(cfg.PeerClockCutoff) | SyncTimeout:timemath.Duration(cfg.SyncTimeout) | SyncInterval:timemath.Duration(cfg.SyncInterval)" := by
  rfl

/-- a field that is zero after the conversion gets its own default -/
theorem C01Cfg_pin_default_rules : Gen.Sync.main_syncConfig_defaults =
    "syncCfg.ReferenceClockImpact == 0 -> syncCfg.ReferenceClockImpact = defaultReferenceClockImpact | syncCfg.PeerClockImpact == 0 -> syncCfg.PeerClockImpact = defaultPeerClockImpact | syncCfg.PeerClockCutoff == 0 -> syncCfg.PeerClockCutoff = defaultPeerClockCutoff | syncCfg.SyncTimeout == 0 -> syncCfg.SyncTimeout = defaultSyncTimeout | syncCfg.SyncInterval == 0 -> syncCfg.SyncInterval = defaultSyncInterval" := by
  rfl

/-- the TOML keys of the fields involved are the model's keys -/
theorem C01Cfg_pin_keys : Gen.Sync.main_svcConfig_keys =
    "DSCP:uint8:dscp ClockDrift:float64:clock_drift ReferenceClockImpact:float64:reference_clock_impact PeerClockImpact:float64:peer_clock_impact PeerClockCutoff:float64:peer_clock_cutoff SyncTimeout:float64:sync_timeout SyncInterval:float64:sync_interval" ∧
    keyDSCP = "dscp" ∧ keyClockDrift = "clock_drift" ∧ keyReferenceClockImpact = "reference_clock_impact" ∧
    keyPeerClockImpact = "peer_clock_impact" ∧ keyPeerClockCutoff = "peer_clock_cutoff" ∧
    keySyncTimeout = "sync_timeout" ∧ keySyncInterval = "sync_interval" :=
  ⟨rfl, rfl, rfl, rfl, rfl, rfl, rfl, rfl⟩

/-- guards and results of `clockDrift` and `dscp` -/
theorem C01Cfg_pin_drift_dscp :
    Gen.Sync.main_clockDrift_body = "if cfg.ClockDrift < 0 fatal ;; return timemath.Duration(cfg.ClockDrift)" ∧
    Gen.Sync.main_dscp_body = "if cfg.DSCP > 63 fatal ;; return cfg.DSCP" := ⟨rfl, rfl⟩

/-- `clockDrift`: refused iff the configured value is below zero; otherwise seconds → ns.
    Absent (0) gives 0 = `clocks.UnknownDrift`. -/
theorem C01Cfg_clockDrift (v : F64) :
    (F64.lt v (.zero false) = true → clockDrift v = .fatal "invalid clock drift value specified in config") ∧
    (F64.lt v (.zero false) = false → clockDrift v = .ok (toDuration v)) ∧
    clockDrift (.zero false) = .ok 0 := by
  refine ⟨?_, ?_, by decide +kernel⟩ <;> intro h <;> simp [clockDrift, h]

/-- `dscp`: exactly the values 0..63 are accepted, unchanged -/
theorem C01Cfg_dscp (v : Nat) : (v ≤ 63 → dscp v = .ok v) ∧ (63 < v → ∃ m, dscp v = .fatal m) := by
  constructor
  · intro h; simp [dscp]; omega
  · intro h; exact ⟨"invalid differentiated services codepoint value specified in config", by simp [dscp, h]⟩

/-- an empty configuration file gives exactly the five defaults -/
theorem C01Cfg_absent_is_default :
    let c := syncConfig {}
    c.referenceClockImpact = defaultReferenceClockImpact ∧ c.peerClockImpact = defaultPeerClockImpact ∧
    c.peerClockCutoff = 50000 ∧ c.syncTimeout = 500000000 ∧ c.syncInterval = 1000000000 := by
  decide +kernel

/-- the defaults as doubles: 1.25 and 2.5 exactly -/
theorem C01Cfg_default_factors :
    defaultReferenceClockImpact = .fin (5 / 4) ∧ defaultPeerClockImpact = .fin (5 / 2) := by
  decide +kernel

/-- every field of the result depends on the value of ITS key only: two configurations that
    agree on a key agree on the field it is wired to, whatever the other keys say -/
theorem C01Cfg_fields_independent (s t : SvcSync) :
    (s.referenceClockImpact = t.referenceClockImpact →
      (syncConfig s).referenceClockImpact = (syncConfig t).referenceClockImpact) ∧
    (s.peerClockImpact = t.peerClockImpact →
      (syncConfig s).peerClockImpact = (syncConfig t).peerClockImpact) ∧
    (s.peerClockCutoff = t.peerClockCutoff → (syncConfig s).peerClockCutoff = (syncConfig t).peerClockCutoff) ∧
    (s.syncTimeout = t.syncTimeout → (syncConfig s).syncTimeout = (syncConfig t).syncTimeout) ∧
    (s.syncInterval = t.syncInterval → (syncConfig s).syncInterval = (syncConfig t).syncInterval) := by
  refine ⟨?_, ?_, ?_, ?_, ?_⟩ <;> intro h <;> simp only [syncConfig, h]

/-- a configured factor that is not zero is handed to `Run` unchanged (NaN included: `NaN == 0`
    is false); a configured duration is `timemath.Duration(seconds)` unless that is 0 ns -/
theorem C01Cfg_configured_value (s : SvcSync) :
    (isZeroF s.referenceClockImpact = false → (syncConfig s).referenceClockImpact = s.referenceClockImpact) ∧
    (isZeroF s.peerClockImpact = false → (syncConfig s).peerClockImpact = s.peerClockImpact) ∧
    (toDuration s.peerClockCutoff ≠ 0 → (syncConfig s).peerClockCutoff = toDuration s.peerClockCutoff) ∧
    (toDuration s.syncTimeout ≠ 0 → (syncConfig s).syncTimeout = toDuration s.syncTimeout) ∧
    (toDuration s.syncInterval ≠ 0 → (syncConfig s).syncInterval = toDuration s.syncInterval) := by
  refine ⟨?_, ?_, ?_, ?_, ?_⟩ <;> intro h <;> simp [syncConfig, h]

/-- … and a value that is zero (absent key, `0.0`, `-0.0`) or converts to 0 ns (less than a
    nanosecond) is replaced by the default -/
theorem C01Cfg_zero_is_default (s : SvcSync) :
    (isZeroF s.referenceClockImpact = true → (syncConfig s).referenceClockImpact = defaultReferenceClockImpact) ∧
    (isZeroF s.peerClockImpact = true → (syncConfig s).peerClockImpact = defaultPeerClockImpact) ∧
    (toDuration s.peerClockCutoff = 0 → (syncConfig s).peerClockCutoff = defaultPeerClockCutoff) ∧
    (toDuration s.syncTimeout = 0 → (syncConfig s).syncTimeout = defaultSyncTimeout) ∧
    (toDuration s.syncInterval = 0 → (syncConfig s).syncInterval = defaultSyncInterval) := by
  refine ⟨?_, ?_, ?_, ?_, ?_⟩ <;> intro h <;> simp [syncConfig, h]

/-- instances: −0.0 and 0.1 ns are "absent"; 0.29 s is 290 000 000 ns, 8.03 s is 8 029 999 999 ns
    (the product with 1e9 is rounded, then truncated) -/
example : isZeroF (.zero true) = true ∧ toDuration (ofConst 1 10000000000) = 0 ∧
    toDuration (ofConst 29 100) = 290000000 ∧ toDuration (ofConst 803 100) = 8029999999 := by
  decide +kernel

/-- a cap `factor × float64(drift)` with a factor in [1, 4] and a positive int64 drift is a
    positive finite double -/
theorem C01Cfg_cap_positive_finite {f : Rat} (hf1 : 1 ≤ f) (hf2 : f ≤ 4)
    (d : Int64) (hd : 0 < d.toInt) :
    F64.gt (F64.mul (.fin f) (f64OfDur d)) fzero = true ∧ F64.mul (.fin f) (f64OfDur d) ≠ .inf false := by
  have hr := Int64.toInt_lt d
  have hn : d.toInt.natAbs ≤ 2 ^ 63 := by omega
  -- `float64(drift)` lies in [1, 2^63], the product in [1, 2^65]
  have h1 : 1 ≤ rnd (d.toInt : Rat) :=
    le_rnd_of_rep_le rep_one (by exact_mod_cast (show (1 : Int) ≤ d.toInt by omega))
  have h2 : (rnd (d.toInt : Rat)).abs ≤ pow2 63 :=
    rnd_abs_le_of_rep (rep_pow2 (by decide))
      (by rw [show pow2 63 = ((2 ^ 63 : Nat) : Rat) from pow2_natCast 63]; exact intCast_abs_le hn)
  unfold f64OfDur
  obtain ⟨fin, val⟩ := toRat_mul (a := .fin f) (b := ofInt d.toInt) rfl (isFinite_ofInt hn)
    (by
      rw [toRat_fin, toRat_ofInt hn]
      refine Rat.le_trans (abs_mul_le (A := 4) (abs_le_iff.2 ⟨by grind, hf2⟩) h2) ?_
      rw [show (4 : Rat) = pow2 2 by decide, ← pow2_add]
      exact pow2_le_maxFin (by decide))
  rw [toRat_fin, toRat_ofInt hn] at val
  have hq : 1 ≤ f * rnd (d.toInt : Rat) := by
    have := Rat.mul_le_mul_of_nonneg_left h1 (show (0 : Rat) ≤ f by grind)
    grind
  have := le_rnd_of_rep_le rep_one hq
  refine ⟨(gt_iff_of_finite fin rfl).2 ?_, fun h => by rw [h] at fin; exact Bool.noConfusion fin⟩
  rw [val]
  show (0 : Rat) < _
  grind

/-- **The default configuration is admissible**: with no key of the five in the file,
    `sync.Run` starts for every system clock whose drift bound over the interval is positive
    (whatever `clock_drift` says, `UnknownDrift` = `MaxInt64` included) and every number of
    reference clocks and peers: factor 1.25 > 1, peer factor 2.5 > 1, 2.5 − 1 > 1.25, interval
    1 s > 0, timeout 0.5 s within [0, interval/2], caps positive and finite. -/
theorem C01Cfg_defaults_admissible (drift : Int64) (hd : 0 < drift.toInt) (nRef nPeer : Nat) :
    admissible (toRunCfg (syncConfig {}) drift nRef nPeer) = true := by
  rw [ScionTime.Sync.admissible_iff_literal]
  have hc : syncConfig {} = ⟨.fin (5 / 4), .fin (5 / 2), 50000, 500000000, 1000000000⟩ := by
    decide +kernel
  rw [hc]
  simp only [toRunCfg, refCap, peerCap]
  obtain ⟨r1, r2⟩ := C01Cfg_cap_positive_finite (f := 5 / 4) (by decide +kernel) (by decide +kernel) drift hd
  obtain ⟨p1, p2⟩ := C01Cfg_cap_positive_finite (f := 5 / 2) (by decide +kernel) (by decide +kernel) drift hd
  exact ⟨by decide +kernel, by decide +kernel, by decide +kernel, by decide, by decide, r1, r2, p1, p2⟩

/-- non-vacuity / the case of an absent `clock_drift`: drift 0 is `clocks.UnknownDrift`,
    `Drift(interval)` is then `math.MaxInt64` -/
example : admissible (toRunCfg (syncConfig {}) Int64.maxValue 1 0) = true :=
  C01Cfg_defaults_admissible _ (by decide) 1 0

/-- The defaults are NOT independent of each other: a file that sets only `sync_interval`
    below 1 s keeps the default timeout of 0.5 s, which then exceeds interval/2 — `Run` refuses
    to start ("invalid sync timeout"). Decided instance: `sync_interval = 0.5`. -/
theorem C01Cfg_interval_only_needs_timeout :
    startup (toRunCfg (syncConfig { syncInterval := ofConst 1 2 }) 10000 1 0) = some .timeout ∧
    admissible (toRunCfg (syncConfig { syncInterval := ofConst 1 2, syncTimeout := ofConst 1 4 }) 10000 1 0) = true := by
  decide +kernel

/-- a NaN factor in the file is not replaced by the default (`NaN == 0` is false) and is then
    refused by `Run` (F14 as repaired) -/
theorem C01Cfg_nan_reaches_run_and_is_refused (s : SvcSync) (drift : Int64) (nRef nPeer : Nat)
    (h : s.referenceClockImpact = .nan ∨ s.peerClockImpact = .nan) :
    admissible (toRunCfg (syncConfig s) drift nRef nPeer) = false := by
  apply ScionTime.Props.C01.C01_nan_refused
  rcases h with h | h
  · left; simp [toRunCfg, syncConfig, h, isZeroF, F64.beq]
  · right; simp [toRunCfg, syncConfig, h, isZeroF, F64.beq]

/-! ### The whole chain from the configuration file to `Run`

What reaches `sync.Run` from timeservice.go (`runServer`, `runClient`): `syncCfg` (five fields,
above), the clock `lclk`, of which `Run` uses `Drift(cfg.SyncInterval)` and `Sleep(cfg.SyncInterval)`
only, the discipline `adj` (C19), and the two lists of clocks (only their lengths matter for the
bound). The clock's drift comes from the sixth configuration value, `clock_drift`. -/

/-- both call sites: `sync.Run(log, syncConfig(cfg), clocks.NewSystemClock(log, clockDrift(cfg)),
    adj, refClocks, peerClocks)`, each argument assigned exactly once -/
theorem C01Cfg_pin_run_sites : Gen.Sync.main_syncRun_sites =
    ["runServer: sync.Run(log, syncCfg, lclk, adj, refClocks, peerClocks) | log := slog.Default() | syncCfg := syncConfig(cfg) | lclk := clocks.NewSystemClock(log, clockDrift(cfg)) | adj := &adjustments.PIController{ KP: adjustments.PIControllerDefaultPRatio, KI: adjustments.PIControllerDefaultIRatio, StepThreshold: adjustments.PIControllerDefaultStepThreshold, } | refClocks, peerClocks := createClocks(cfg, localAddr, log) | refClocks, peerClocks := createClocks(cfg, localAddr, log)",
     "runClient: sync.Run(log, syncCfg, lclk, adj, refClocks, peerClocks) | log := slog.Default() | syncCfg := syncConfig(cfg) | lclk := clocks.NewSystemClock(log, clockDrift(cfg)) | adj := &adjustments.PIController{ KP: adjustments.PIControllerDefaultPRatio, KI: adjustments.PIControllerDefaultIRatio, StepThreshold: adjustments.PIControllerDefaultStepThreshold, } | refClocks, peerClocks := createClocks(cfg, localAddr, log) | refClocks, peerClocks := createClocks(cfg, localAddr, log)"] := by
  rfl

/-- the clock: `drift: drift.Seconds()`; and `Run` touches it through `Drift(cfg.SyncInterval)` and
    `Sleep(cfg.SyncInterval)` only (never passes it on) -/
theorem C01Cfg_pin_run_clock :
    Gen.Sync.clocks_NewSystemClock_body = ["return &SystemClock{ log: log, drift: drift.Seconds(), }"] ∧
    Gen.Sync.sync_Run_clkCalls = ["clk.Drift(cfg.SyncInterval)", "clk.Sleep(cfg.SyncInterval)"] :=
  ⟨rfl, rfl⟩

/-- `runDrift` IS the regenerated `(*SystemClock).Drift` (leaf translator) on the clock that
    `NewSystemClock` builds, for every configured drift and every interval -/
theorem C01Cfg_runDrift_leaf (d iv : Int64) (e : UInt64) :
    (Gen.Leaf.clocks_SystemClock_Drift { drift := F64.durationSeconds d.toInt, epoch := e, adjustment := none } iv).toInt =
      runDrift d.toInt iv.toInt :=
  LeafTieC18.C18_leaf_Drift _ _

/-- the two float models of `Drift` (Model/FreqDrift.lean, Model/F64P_UnixutilFloat.lean) unfold to the
    same expression -/
theorem runDrift_eq (d iv : Int) : runDrift d iv = F64P_UnixutilFloat.driftOfDuration d iv := rfl

/-- an absent `clock_drift` (0 = `clocks.UnknownDrift`): the allowance is `MaxInt64`, whatever the
    interval -/
theorem C01Cfg_runDrift_unknown (iv : Int) : runDrift 0 iv = 9223372036854775807 := by
  have h0 : FreqDrift.clockDrift 0 = .zero false := by decide +kernel
  unfold runDrift FreqDrift.drift
  rw [h0]; rfl

/-- a configured drift of 1 ns/s … 0.4 s/s whose exact allowance over the interval,
    `d·iv/10⁹` ns, is at least 2 ns: `Drift(interval)` is positive — `Run`'s caps are then positive
    and finite — and within `1 + 10⁻¹⁴·exact` of the exact allowance (it never inflates the cap).
    `10⁻¹⁴` bounds the relative `2⁻⁴⁹` of `F64.drift_product_seconds`; 0.4 s/s keeps the exact
    allowance below that lemma's `4·10¹⁸` ns for every int64 interval. -/
theorem C01Cfg_runDrift_positive (d iv : Int) (hd1 : 1 ≤ d) (hd2 : d ≤ 400000000) (hiv : 0 < iv)
    (hiv2 : iv ≤ 9223372036854775807) (h2 : 2000000000 ≤ d * iv) :
    0 < runDrift d iv ∧
    ((runDrift d iv : Int) : Rat) ≤ (d : Rat) * (iv : Rat) / 1000000000 * (1 + 1 / 100000000000000) + 1 := by
  have hD1 : (1 : Rat) ≤ (d : Rat) := by simpa using Rat.intCast_le_intCast.mpr hd1
  have hD2 : (d : Rat) ≤ 400000000 := by simpa using Rat.intCast_le_intCast.mpr hd2
  have hI0 : (0 : Rat) ≤ (iv : Rat) := Rat.intCast_nonneg.2 (by omega)
  have hI2 : (iv : Rat) ≤ 9223372036854775807 := by simpa using Rat.intCast_le_intCast.mpr hiv2
  have hP : (2000000000 : Rat) ≤ (d : Rat) * (iv : Rat) := by
    have := Rat.intCast_le_intCast.mpr h2
    simpa [Rat.intCast_mul] using this
  have hE : (d : Rat) / 1000000000 * (iv : Rat) ≤ 2 / 5 * 9223372036854775807 :=
    Rat.le_trans (Rat.mul_le_mul_of_nonneg_left hI2 (by grind))
      (Rat.mul_le_mul_of_nonneg_right (by grind) (by grind))
  obtain ⟨hb, R, hR, e⟩ := F64.drift_product_seconds hd1 (by omega) (Int.le_of_lt hiv) (by omega)
    (Rat.le_trans hE (by grind))
  rw [runDrift_eq]
  unfold F64P_UnixutilFloat.driftOfDuration F64P_UnixutilFloat.drift
  rw [hb, if_neg (by decide), hR,
    show (d : Rat) * (iv : Rat) / 1000000000 = (d : Rat) / 1000000000 * (iv : Rat) by grind]
  have hP' : 2 ≤ (d : Rat) / 1000000000 * (iv : Rat) := by grind
  generalize (d : Rat) / 1000000000 * (iv : Rat) = E at *
  rw [abs_le_iff] at e
  obtain ⟨_, t1, t2⟩ := F64.trunc_of_nonneg (q := R) (by grind)
  constructor
  · have : ((0 : Int) : Rat) < ((F64.trunc R : Int) : Rat) := by rw [Rat.intCast_zero]; grind
    exact Rat.intCast_lt_intCast.1 this
  · grind

/-- … and the smallest configurable drift, 1 ns/s, over the default interval: 1 ns -/
example : runDrift 1 1000000000 = 1 ∧ runDrift 10000 1000000000 = 10000 ∧ runDrift 15 1000000000 = 14 ∧
    runDrift 1 500000000 = 0 := by decide +kernel

/-- `startCfg`: the file is refused iff `clock_drift < 0` (NaN passes the guard and converts to
    `MinInt64`); otherwise `Run` starts on `syncConfig`'s five values and `Drift(SyncInterval)` of
    the configured clock. -/
theorem C01Cfg_start_cases (s : SvcSync) (v : F64) (nRef nPeer : Nat) :
    (F64.lt v (.zero false) = true →
      startCfg s v nRef nPeer = .fatal "invalid clock drift value specified in config") ∧
    (F64.lt v (.zero false) = false →
      startCfg s v nRef nPeer = .ok (toRunCfg (syncConfig s)
        (Int64.ofInt (runDrift (toDuration v) (syncConfig s).syncInterval)) nRef nPeer)) := by
  constructor <;> intro h <;> simp [startCfg, clockDrift, h]

/-- **Start-up from the configuration file with the five sync keys absent**: for every value of
    `clock_drift` that is absent / zero / below 1 ns/s (→ unknown drift) or between 2 ns/s and
    0.4 s/s, and any numbers of reference clocks and peers, the binary hands `Run` a configuration
    `Run` accepts. -/
theorem C01Cfg_start_defaults (v : F64) (hv : F64.lt v (.zero false) = false) (nRef nPeer : Nat)
    (hd : toDuration v = 0 ∨ (2 ≤ toDuration v ∧ toDuration v ≤ 400000000)) :
    ∃ c, startCfg {} v nRef nPeer = .ok c ∧ admissible c = true := by
  refine ⟨_, (C01Cfg_start_cases {} v nRef nPeer).2 hv, ?_⟩
  have hi : (syncConfig {}).syncInterval = 1000000000 := by decide +kernel
  rw [hi]
  apply C01Cfg_defaults_admissible
  rcases hd with h0 | ⟨h2, h4⟩
  · rw [h0, C01Cfg_runDrift_unknown]; decide
  · have hp := (C01Cfg_runDrift_positive (toDuration v) 1000000000 (by omega) h4 (by decide) (by decide) (by omega)).1
    have hr : runDrift (toDuration v) 1000000000 ≤ 9223372036854775807 := by
      unfold runDrift FreqDrift.drift FreqDrift.duration toDuration
      split
      · decide
      · exact (ScionTime.GoLemmas.toInt64_range _).2
    rw [Int64.toInt_ofInt_of_le (by omega) (by omega)]
    exact hp

/-- `r` is `.ok c` with `p c` -/
def _root_.ScionTime.MainCfg.Res.okAnd {α : Type} (r : Res α) (p : α → Bool) : Bool :=
  match r with
  | .ok c => p c
  | _ => false

/-- instances: `clock_drift = 0.00001` (10 µs/s, a typical value), absent, and 1e-10 (< 1 ns/s:
    treated as unknown) start; a negative one is refused by `clockDrift` before `Run` is reached -/
example :
    (startCfg {} (ofConst 1 100000) 2 1).okAnd (fun c => c.drift == 10000 && admissible c) = true ∧
    (startCfg {} (.zero false) 2 1).okAnd (fun c => c.drift == Int64.maxValue && admissible c) = true ∧
    (startCfg {} (ofConst 1 10000000000) 2 1).okAnd (fun c => c.drift == Int64.maxValue) = true ∧
    (startCfg {} (ofConst (-1) 100000) 2 1).okAnd (fun _ => true) = false := by
  decide +kernel

end ScionTime.Props.C01Cfg
