/-
  Kernel-checked tie (C05): ntp.ValidateResponseMetadata as regenerated from /repo's Go
  source (Gen/Leaf.lean) is the negation of the client model's `validMetadata`, for every
  packet: the accessors' shifts and masks are the model's `leap`, `version`, `mode`, and the
  two cascades test the same conditions in the same order.
-/
import ScionTime.Gen.Leaf
import ScionTime.Proofs.NtpMath
namespace ScionTime.LeafTieC05
open ScionTime.Gen.Leaf ScionTime.NtpMath

theorem C05_leaf_ValidateResponseMetadata (p : S_Packet) :
    ntp_ValidateResponseMetadata p = !NtpMath.validMetadata p.LVM.toNat p.Stratum.toNat := by
  unfold ntp_ValidateResponseMetadata ntp_Packet_LeapIndicator ntp_Packet_Version ntp_Packet_Mode
    validMetadata
  rw [leap_toNat, version_toNat, mode_toNat]
  simp only [← UInt8.toNat_inj, UInt8.lt_iff_toNat_lt, UInt8.toNat_ofNat, bne_iff_ne, beq_iff_eq,
    ne_eq, gt_iff_lt, Bool.and_eq_true, Bool.or_eq_true, decide_eq_true_eq, apply_ite Bool.not,
    Bool.not_false, Bool.not_true]

end ScionTime.LeafTieC05
