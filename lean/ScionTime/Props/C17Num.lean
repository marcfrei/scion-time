/-
  C17 (numeric part) — the unfiltered Ntimed output is the raw NTP offset up to float
  rounding.  Built on the `fl` lemmas of Proofs/F64.lean (relative error 2⁻⁵³ + 2⁻¹⁰⁷⁵ per
  rounding, exact small integers, truncation of `int64(·)`); the analysis is in
  Proofs/C17Num.lean.  The structural theorems (which branch, which expression, resets) are
  in Props/C17.lean and do not depend on this file.

  Bound certified (DESIGN §8 named `1 ns + 2⁻⁵⁰·|raw|` as a target; that is not true —
  the error is relative to the two legs, not to their half-sum, which may cancel):
      |out − raw| ≤ 1 ns + 2⁻⁵⁰ · (|cTx − sRx| + |cRx − sTx|)
  i.e. one nanosecond for legs up to 13 days, on the domain where neither `Time.Sub`
  saturates nor `ClockOffset` wraps (both legs below 2^62 ns ≈ 146 years).
-/
import ScionTime.Props.C17
import ScionTime.Proofs.C17Num
namespace ScionTime.C17
open ScionTime.Filters ScionTime.F64

/-- The no-saturation domain: both legs `cTx − sRx`, `cRx − sTx` below `2^62` ns. -/
def InDomain (x : Sample) : Prop :=
  -4611686018427387904 < x.cTx - x.sRx ∧ x.cTx - x.sRx < 4611686018427387904 ∧
  -4611686018427387904 < x.cRx - x.sTx ∧ x.cRx - x.sTx < 4611686018427387904

/-- `|cTx − sRx| + |cRx − sTx|` in nanoseconds. -/
def legs (x : Sample) : Int := ((x.cTx - x.sRx).natAbs : Int) + ((x.cRx - x.sTx).natAbs : Int)

/-- The raw offset `ntp.ClockOffset(cTx, sRx, sTx, cRx)` in nanoseconds. -/
def rawOffset (x : Sample) : Int := (clockOffset x.cTx x.sRx x.sTx x.cRx).toInt

/-- `|v − w| ≤ 1 + 2⁻⁵⁰·legs`, multiplied out. -/
def Close (x : Sample) (v w : Int) : Prop :=
  -(1125899906842624 + legs x) ≤ 1125899906842624 * (v - w) ∧
  1125899906842624 * (v - w) ≤ 1125899906842624 + legs x

/-- The unfiltered value `Inv(Duration((lo+hi)/2))` is the raw offset — sign convention
    included — within `1 ns + 2⁻⁵⁰·(|cTx−sRx| + |cRx−sTx|)`. -/
theorem C17_ntimed_raw_close (x : Sample) (hd : InDomain x) :
    Close x (ntimedRaw x) (rawOffset x) :=
  ntimed_num x hd.1 hd.2.1 hd.2.2.1 hd.2.2.2

/-- **ntimed_raw_early, numeric clause.** -/
theorem C17_ntimed_early_close (e : Nat) (s : Ntimed) (xs : List Sample) (x : Sample)
    (hlen : xs.length < 3) (hd : InDomain x) :
    Close x (ntimedDo e (ntimedFinal (ntimedReset e s) (xs.map (NOp.sample e))) x).2 (rawOffset x) := by
  rw [(C17_ntimed_raw_early e s xs x hlen).2]
  exact C17_ntimed_raw_close x hd

/-- **ntimed_raw_inbounds, numeric clause.** -/
theorem C17_ntimed_inbounds_close (e : Nat) (f : Ntimed) (x : Sample)
    (hlo : (ntimedDoFull e f x).failLo = false) (hhi : (ntimedDoFull e f x).failHi = false)
    (hd : InDomain x) :
    Close x (ntimedDo e f x).2 (rawOffset x) := by
  rw [(C17_ntimed_raw_inbounds e f x hlo hhi).2]
  exact C17_ntimed_raw_close x hd

/-- Correct sign: whenever the raw offset exceeds the error bound in magnitude, the
    unfiltered output has the same sign (it is `ClockOffset`, not Ntimed's negated `mid`). -/
theorem C17_ntimed_raw_sign (x : Sample) (hd : InDomain x) :
    (1125899906842624 + legs x < 1125899906842624 * rawOffset x → 0 < ntimedRaw x) ∧
    (1125899906842624 * rawOffset x < -(1125899906842624 + legs x) → ntimedRaw x < 0) := by
  have h := C17_ntimed_raw_close x hd
  unfold Close at h
  omega

/-- The bound cannot be relative to `|raw|` (DESIGN's target): legs of 10^18 ns that cancel to
    a half-sum of 3 ns give output 0, i.e. an error of 3 ns > 1 + 2⁻⁵⁰·3. -/
example : ntimedRaw ⟨0, -1000000000000000001, 1000000000000000000, 6⟩ = 0 ∧
    rawOffset ⟨0, -1000000000000000001, 1000000000000000000, 6⟩ = -3 := by decide +kernel

/-- Non-vacuity: a present-day exchange (10 ms each way, 1 ms offset) is in the domain, and
    there the bound is one nanosecond. -/
example : InDomain ⟨1700000000000000000, 1700000000011000000, 1700000000011050000, 1700000000020050000⟩ := by
  unfold InDomain; simp only; omega
example (x : Sample) (v w : Int) (h : Close x v w) (hl : legs x < 1125899906842624) :
    -1 ≤ v - w ∧ v - w ≤ 1 := by
  unfold Close at h; omega

end ScionTime.C17
