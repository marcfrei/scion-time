/-
  Kernel-checked ties (C03, C05): ntp.ClockOffset, ntp.RoundTripDelay and
  ntp.ValidateResponseTimestamps as regenerated from /repo's Go source on every run
  (Gen/Leaf.lean; time.Time values and panics) are the hand-written
  models the offset-bound and acceptance theorems are about — for all inputs, no range
  hypothesis (`Time.Sub` saturates in both).
-/
import ScionTime.Gen.Leaf
import ScionTime.Model.NtpMath
namespace ScionTime.LeafTieC03
open ScionTime ScionTime.Gen.Leaf

theorem C03_leaf_ClockOffset (t0 t1 t2 t3 : Int) :
    ntp_ClockOffset t0 t1 t2 t3 = NtpMath.clockOffset64 t0 t1 t2 t3 := rfl

theorem C03_leaf_RoundTripDelay (t0 t1 t2 t3 : Int) :
    ntp_RoundTripDelay t0 t1 t2 t3 = NtpMath.roundTripDelay64 t0 t1 t2 t3 := rfl

/-- the generated function returns `none` for a panic, `some true` for the error and
    `some false` for nil -/
def verdict : Option Bool → NtpMath.TsVerdict
  | none => .panic
  | some true => .errResponse
  | some false => .ok

theorem C03_leaf_ValidateResponseTimestamps (t0 t1 t2 t3 : Int) :
    verdict (ntp_ValidateResponseTimestamps t0 t1 t2 t3) = NtpMath.validateTimestamps t0 t1 t2 t3 := by
  unfold ntp_ValidateResponseTimestamps NtpMath.validateTimestamps
  have e : ∀ a b, Go.Time.sub a b = NtpMath.sub64 a b := fun _ _ => rfl
  simp only [e, decide_eq_true_eq]
  split
  · rfl
  · split <;> rfl

/-- all three outcomes occur -/
example : ntp_ValidateResponseTimestamps 10 0 0 5 = none ∧
    ntp_ValidateResponseTimestamps 0 7 6 5 = some true ∧
    ntp_ValidateResponseTimestamps 0 1 2 5 = some false := by decide

end ScionTime.LeafTieC03
