/-
  C09 — servers answer exactly the valid client requests, and never a reply.
  Model: Model/ServerReply.lean (decision sequence of runIPServer /
  runSCIONServer, reply header of handleRequest) over Model/NtpPacket.lean.
  Addressing of the reply over SCION (reversed path) is C13's; the reply's timestamps are
  C06's; the NTS branch is abstracted per datagram (`ntsOk` / `NtsView`; its content is C10/C11),
  what it could carry from one datagram to the next is modelled (`runLoopN`).
-/
import ScionTime.Proofs.C14Codec
import ScionTime.Model.ServerReply
import ScionTime.Gen.Ntp
import ScionTime.Gen.Server
namespace ScionTime.C09
open ScionTime.Wire ScionTime.NtpPacket ScionTime.ServerReply

/-! The constants of /repo the model uses agree with the extracted ones (Gen is regenerated on
    every run). -/
theorem C09_pin_PacketLen : Gen.Ntp.PacketLen = (packetLen : Int) := rfl
theorem C09_pin_VersionMin : Gen.Ntp.VersionMin = (versionMin : Int) := rfl
theorem C09_pin_VersionMax : Gen.Ntp.VersionMax = (versionMax : Int) := rfl
theorem C09_pin_ModeReserved0 : Gen.Ntp.ModeReserved0 = (modeReserved0 : Int) := rfl
theorem C09_pin_ModeClient : Gen.Ntp.ModeClient = (modeClient : Int) := rfl
theorem C09_pin_ModeServer : Gen.Ntp.ModeServer = (modeServer : Int) := rfl
theorem C09_pin_LeapNoWarning : Gen.Ntp.LeapIndicatorNoWarning = (leapIndicatorNoWarning : Int) := rfl
theorem C09_pin_LeapUnknown : Gen.Ntp.LeapIndicatorUnknown = (leapIndicatorUnknown : Int) := rfl
theorem C09_pin_serverRefID : Gen.Server.serverRefID = (serverRefID : Int) := rfl
theorem C09_pin_replyStratum : Gen.Server.replyStratum = (replyStratum : Int) := rfl
theorem C09_pin_replyPrecision : Gen.Server.replyPrecision = replyPrecision := rfl
theorem C09_pin_replyVersion : Gen.Server.replyVersionConst = "VersionMax" := rfl
theorem C09_pin_replyMode : Gen.Server.replyModeConst = "ModeServer" := rfl
theorem C09_pin_ipServerBufLen : Gen.Server.ipServerBufLen = (ipServerBufLen : Int) := rfl

/-- The property's characterisation of a well-formed request header byte: leap indicator 0 or 3;
    version 2–4 with mode 3, or version 1 with mode 0. -/
def WellFormedLvm (x : Nat) : Prop :=
  (x / 64 = 0 ∨ x / 64 = 3) ∧
  ((2 ≤ x / 8 % 8 ∧ x / 8 % 8 ≤ 4 ∧ x % 8 = 3) ∨ (x / 8 % 8 = 1 ∧ x % 8 = 0))

instance (x : Nat) : Decidable (WellFormedLvm x) := by unfold WellFormedLvm; infer_instance

/-- `ValidateRequest` accepts exactly the well-formed header bytes (complete table). -/
theorem C09_validateRequest_iff : ∀ x < 256, (validateRequest x = true ↔ WellFormedLvm x) := by
  decide +kernel

theorem C09_validateRequest_count :
    ((List.range 256).filter validateRequest) = [8, 19, 27, 35, 200, 211, 219, 227] := by decide +kernel

/-- The decision sequence with the decoder eliminated (`DecodePacket` fails exactly below 48
    bytes and yields the first byte as LVM). -/
theorem C09_serve_eq (x : Nat) (t : List Nat) (ntsOk : Bool) :
    serve (x :: t) ntsOk =
      if (x :: t).length > 2048 then .dropTruncated
      else if (x :: t).length < 48 then .dropDecode
      else if (x :: t).length > 48 ∧ ntsOk = false then .dropNts
      else if validateRequest x = false then .dropValidate
      else .reply := by
  unfold serve
  simp only [ipServerBufLen, packetLen]
  rcases C14.ntp_decode_total (x :: t) with ⟨hl, he⟩ | ⟨hl, p, hp⟩
  · simp only [he, if_pos hl]
  · have hlvm := C14.ntp_decode_lvm x t p hp
    simp only [hp, hlvm, if_neg (show ¬ (x :: t).length < 48 by omega)]

/-- **shouldReply_iff.** A listener replies to a datagram iff it fits the receive buffer, has
    at least 48 bytes, its first byte is a well-formed client request header and, if anything
    follows the 48-byte header, the NTS branch succeeded. -/
theorem C09_shouldReply_iff (x : Nat) (t : List Nat) (ntsOk : Bool) (hx : x < 256) :
    shouldReply (x :: t) ntsOk = true ↔
      (48 ≤ (x :: t).length ∧ (x :: t).length ≤ 2048 ∧ WellFormedLvm x ∧
        ((x :: t).length > 48 → ntsOk = true)) := by
  unfold shouldReply
  rw [C09_serve_eq, decide_eq_true_iff, ← C09_validateRequest_iff x hx]
  generalize (x :: t).length = n
  by_cases h1 : n > 2048
  · rw [if_pos h1]
    exact ⟨nofun, fun h => absurd h.2.1 (by omega)⟩
  rw [if_neg h1]
  by_cases h2 : n < 48
  · rw [if_pos h2]
    exact ⟨nofun, fun h => absurd h.1 (by omega)⟩
  rw [if_neg h2]
  by_cases h3 : n > 48 ∧ ntsOk = false
  · rw [if_pos h3]
    exact ⟨nofun, fun h => absurd (h.2.2.2 h3.1) (by rw [h3.2]; nofun)⟩
  rw [if_neg h3]
  by_cases h4 : validateRequest x = false
  · rw [if_pos h4]
    exact ⟨nofun, fun h => absurd h.2.2.1 (by rw [h4]; nofun)⟩
  rw [if_neg h4]
  refine ⟨fun _ => ⟨by omega, by omega, Bool.of_not_eq_false h4, fun hgt => ?_⟩, fun _ => rfl⟩
  cases ntsOk
  · exact absurd ⟨hgt, rfl⟩ h3
  · rfl

/-- **History independence.** Whatever datagrams a listener socket has seen before (rejected
    short ones, truncated ones, served ones) and whatever length they left the receive buffer
    with, each datagram is decided as if it were the first: the loop's decisions on a sequence
    are the per-datagram decisions.  (This is what "for *each* payload that is a well-formed
    client request" needs beyond the per-datagram characterisation.) -/
theorem C09_history_independent (bl : Nat) (ds : List (List Nat × Bool)) :
    runLoop true bl ds = ds.map (fun d => serve d.1 d.2) := by
  induction ds generalizing bl with
  | nil => rfl
  | cons d ds ih =>
    simp only [runLoop, List.map_cons, ih]
    congr 1

/-- The restore at the top of the loop is what this rests on: a loop that restores the buffer
    only after a served request drops a valid request that follows a rejected 1-byte datagram
    (the buffer is still 1 byte long, the request arrives truncated). -/
example : runLoop false 2048 [([0], false), (0x23 :: List.replicate 47 0, false)] =
    [.dropDecode, .dropTruncated] := by decide +kernel
example : runLoop true 2048 [([0], false), (0x23 :: List.replicate 47 0, false)] =
    [.dropDecode, .reply] := by decide +kernel

/-- The structural fact the model relies on, re-read from /repo on every run: the first
    statements of `runIPServer`'s loop body restore `buf` and `oob` to full capacity. -/
theorem C09_pin_restoreAtLoopTop : Gen.Server.ipServerRestoresBufAtLoopTop = true := rfl

/-- The same fact for the SCION listener: the first statements of the receive loop body of
    `runSCIONServer` are `buf = buf[:cap(buf)]`, `oob = oob[:cap(oob)]` and the read (every
    rejection path leaves the body with `continue`; a restore anywhere else would be skipped). -/
theorem C09_pin_scionRestoreAtLoopTop : Gen.Server.scionServerRestoresBufAtLoopTop = true := rfl

/-- `loopIterN` with a fresh request struct per datagram is `loopIter` fed with the branch's
    outcome on the datagram alone. -/
theorem C09_loopIterN_fresh (restoreAtTop : Bool) (st : Nat × List Nat) (d : List Nat × NtsView) :
    (loopIterN restoreAtTop true st d).2 = (loopIter restoreAtTop st.1 (d.1, ntsAlone d.2)).2 ∧
    (loopIterN restoreAtTop true st d).1.1 = (loopIter restoreAtTop st.1 (d.1, ntsAlone d.2)).1 := by
  simp [loopIterN, ntsAlone]

/-- **History independence including the NTS branch.** The receive loop with *all* the state
    an iteration could leave behind — the length of `buf` and the cookie list of the NTS request
    struct — decides every datagram of any sequence on one listener socket exactly like `serve`
    decides it alone with the NTS branch run on a zero-valued request struct: a valid NTS request
    of one association is answered whatever associations, junk cookies or malformed datagrams the
    socket saw before. It rests on two structural facts of the loop body, both re-read from /repo
    on every run: the buffer restore at the top (`C09_pin_restoreAtLoopTop`) and the request
    structs being declared inside the body (`C09_pin_requestStateInLoop`). -/
theorem C09_nts_history_independent (st : Nat × List Nat) (ds : List (List Nat × NtsView)) :
    runLoopN true true st ds = ds.map (fun d => serve d.1 (ntsAlone d.2)) := by
  induction ds generalizing st with
  | nil => rfl
  | cons d ds ih =>
    simp only [runLoopN, List.map_cons, ih]
    congr 1

theorem C09_nts_loop_eq (st : Nat × List Nat) (ds : List (List Nat × NtsView)) :
    runLoopN true true st ds = runLoop true st.1 (ds.map fun d => (d.1, ntsAlone d.2)) := by
  rw [C09_nts_history_independent, C09_history_independent]
  simp [List.map_map, Function.comp_def]

/-- a 49-byte-or-longer datagram with a well-formed first byte, standing for an NTS request -/
def ntsDatagram : List Nat := 0x23 :: List.replicate 99 0
/-- a valid request of association `a` (its cookie is the id `a`): authenticates exactly under its own cookie -/
def assocReq (a : Nat) : List Nat × NtsView := (ntsDatagram, ⟨[a], true, fun c => c == a⟩)
/-- a datagram holding a cookie field `j` that no key opens and nothing else (`nts.DecodePacket` fails after appending it) -/
def junkCookie (j : Nat) : List Nat × NtsView := (ntsDatagram, ⟨[j], false, fun _ => false⟩)
/-- a plain 48-byte request -/
def plainReq : List Nat × NtsView := (0x23 :: List.replicate 47 0, ⟨[], false, fun _ => false⟩)

/-- The declaration inside the loop body is what this rests on. A loop whose request struct is
    declared once outside (`freshNts = false`) answers association 1, then drops every valid request
    of association 2 (it authenticates them under association 1's cookie) while still serving plain
    requests and association 1; and after one junk-cookie datagram it drops *every* later NTS
    request. The loop as it is answers them all. -/
example : runLoopN true false (2048, []) [assocReq 1, assocReq 1, plainReq, assocReq 2, assocReq 1, assocReq 2] =
    [.reply, .reply, .reply, .dropNts, .reply, .dropNts] := by decide +kernel
example : runLoopN true true (2048, []) [assocReq 1, assocReq 1, plainReq, assocReq 2, assocReq 1, assocReq 2] =
    [.reply, .reply, .reply, .reply, .reply, .reply] := by decide +kernel
example : runLoopN true false (2048, []) [junkCookie 9, assocReq 1, plainReq, assocReq 2] =
    [.dropNts, .dropNts, .reply, .dropNts] := by decide +kernel
example : runLoopN true true (2048, []) [junkCookie 9, assocReq 1, plainReq, assocReq 2] =
    [.dropNts, .reply, .reply, .reply] := by decide +kernel

/-- The structural fact, re-read from /repo on every run (`harness/extract/x_c09.go`): in
    `runIPServer` and in `runSCIONServer` the structs filled by `ntp.DecodePacket`,
    `nts.DecodePacket` / `nts.ProcessRequest` and the server cookie assigned from `Decrypt` are
    declared (`var X T`, zero value) inside the body of the receive loop, before their use. -/
theorem C09_pin_requestStateInLoop :
    Gen.Server.ipServerRequestStateInLoop = true ∧ Gen.Server.scionServerRequestStateInLoop = true := ⟨rfl, rfl⟩

/-- `runIPServer`: `authenticated`, `ntpreq`, `ntsreq`, `serverCookie` are declared (`var X T` /
    `X := …`) lexically inside the body of the receive loop and nowhere else in the function:
    none of them outlives an iteration (an `authenticated` left `true` by one datagram would
    authenticate the next; `nts.DecodePacket` appends into the `ntsreq` it is handed). -/
theorem C09_pin_ipDeclaresPerIteration :
    Gen.Server.ipServerDeclaresPerIteration =
      ["authenticated", "ntpreq", "ntsreq", "serverCookie"] := rfl

/-- `runSCIONServer`: the same for `authenticated` (SPAO), `ntsAuthenticated`, `ntpreq`, `ntsreq`,
    `serverCookie`: declared inside the receive loop body (in the `else` branch of the
    destination-port check), not in the function outside the loop, so reset per datagram. -/
theorem C09_pin_scionDeclaresPerIteration :
    Gen.Server.scionServerDeclaresPerIteration =
      ["authenticated", "ntpreq", "ntsAuthenticated", "ntsreq", "serverCookie"] := rfl

/-- Nothing shorter than 48 bytes (in particular the empty datagram) is answered. -/
theorem C09_short_never_answered (b : List Nat) (ntsOk : Bool) (h : b.length < 48) :
    shouldReply b ntsOk = false := by
  unfold shouldReply serve
  rw [C14.ntp_decode_eq, if_pos h]
  split <;> simp

/-- The decision never crashes the listener (given a total NTS branch — C08's obligation). -/
theorem C09_serve_no_crash (b : List Nat) (ntsOk : Bool) : ∀ c, serve b ntsOk ≠ .crash c := by
  intro c
  unfold serve
  rcases C14.ntp_decode_total b with ⟨_, he⟩ | ⟨_, p, hp⟩
  · rw [he]; split <;> simp
  · rw [hp]; split <;> (try simp) ; split <;> (try simp); split <;> simp

/-- **reply_shape.** Every reply's first byte is 0x24: leap indicator 0, version 4, mode 4
    (server); with stratum 1 it passes the clients' `ValidateResponseMetadata`. -/
theorem C09_reply_shape :
    replyLvm = .ok 0x24 ∧ leapIndicator 0x24 = 0 ∧ version 0x24 = 4 ∧ mode 0x24 = modeServer ∧
    replyStratum = 1 ∧ validateResponseMetadata 0x24 replyStratum = true := by decide

theorem C09_reply_header (req : Packet) (r o x t : Time64) :
    let h := replyHeader req 0x24 r o x t
    h.stratum = 1 ∧ version h.lvm = 4 ∧ mode h.lvm = 4 ∧ leapIndicator h.lvm = 0 ∧
    h.poll = req.poll ∧ h.precision = -32 ∧ h.referenceID = 0x58535453 := by
  simp only [replyHeader]
  decide

/-- **no_reflection.** No listener answers a packet that a listener sent: whatever the rest of
    a reply is (timestamps, NTS extension fields, any length) and whatever the NTS branch says,
    a datagram whose first byte is the reply header byte is not answered.  Hence two servers
    cannot be made to answer each other. -/
theorem C09_no_reflection (rest : List Nat) (ntsOk : Bool) :
    shouldReply (0x24 :: rest) ntsOk = false :=
  Bool.eq_false_iff.mpr fun hs =>
    absurd ((C09_shouldReply_iff 0x24 rest ntsOk (by decide)).mp hs).2.2.1 (by decide)

/-- The SCION listener applies the same decision to the UDP payload of a parsed SCION packet
    (no 2048-byte receive buffer there): same characterisation without the upper bound. -/
theorem C09_scion_payload_iff (x : Nat) (t : List Nat) (ntsOk : Bool) (hx : x < 256) :
    shouldReplyPayload (x :: t) ntsOk = true ↔
      (48 ≤ (x :: t).length ∧ WellFormedLvm x ∧ ((x :: t).length > 48 → ntsOk = true)) := by
  have hv := C09_validateRequest_iff x hx
  unfold shouldReplyPayload
  rcases C14.ntp_decode_total (x :: t) with ⟨hl, he⟩ | ⟨hl, p, hp⟩
  · simp only [he]; constructor
    · intro h; cases h
    · intro h; omega
  · have hlvm := C14.ntp_decode_lvm x t p hp
    simp only [hp, hlvm, packetLen]
    rw [← hv]
    simp only [List.length_cons] at hl ⊢
    cases ntsOk <;> cases validateRequest x <;> simp <;> omega

theorem C09_scion_no_reflection (rest : List Nat) (ntsOk : Bool) :
    shouldReplyPayload (0x24 :: rest) ntsOk = false :=
  Bool.eq_false_iff.mpr fun hs =>
    absurd ((C09_scion_payload_iff 0x24 rest ntsOk (by decide)).mp hs).2.1 (by decide)

/-- More generally: no packet in server mode, or of a version above 4, or with version 0, is
    answered, for every one of the 256 first bytes. -/
theorem C09_no_reply_to_non_requests : ∀ x < 256,
    (mode x ≠ modeClient ∧ ¬(version x = 1 ∧ mode x = 0)) ∨ version x = 0 ∨ 4 < version x ∨
      leapIndicator x = 1 ∨ leapIndicator x = 2 → validateRequest x = false := by
  decide +kernel

/-- Instances: a plain NTPv4 client request of 48 bytes is answered; the same bytes followed by
    garbage are not (NTS branch fails); 47 bytes are not. -/
example : shouldReply (0x23 :: List.replicate 47 0) false = true := by decide +kernel
example : shouldReply (0x23 :: List.replicate 48 0) false = false := by decide +kernel
example : shouldReply (0x23 :: List.replicate 48 0) true = true := by decide +kernel
example : shouldReply (0x23 :: List.replicate 46 0) true = false := by decide +kernel
example : shouldReply (0x08 :: List.replicate 47 0) false = true := by decide +kernel  -- NTPv1, mode 0

end ScionTime.C09
