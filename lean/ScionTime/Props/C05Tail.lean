/-
  C03 / C05 / C11 / C13 / C15 — the clients' behaviour around the per-datagram decision
  (Model/ClientTail.lean):

  (h) `Histogram.RecordValue` fails AFTER `c.prev` was overwritten and `Filter.Do` absorbed the
      sample. The invariant "an exchange that reports an error leaves the client's state unchanged"
      (second half of `C05_never_offset_otherwise_ip/_scion`, stated there for the part of the code
      up to the prev update) does NOT hold for the whole function when a histogram is configured;
      what does hold, for every histogram, filter, state and delivered sequence:
        * the state after the call is the state of the model without a histogram — a call that
          ends in the histogram error is, for everything that follows, an ACCEPTED exchange
          (so the pairing theorems of Props/C03 about threads of `prev` apply verbatim);
        * an error with changed state is the histogram error, it needs a histogram, and it comes
          with an accepted response whose round-trip delay the histogram refuses;
        * an offset is reported only for an accepted response (C05's "never an offset" is untouched);
        * the next interleaved response evaluated against that state combines three stamps of the
          call that reported the error — of ONE exchange (C03's clause holds; the exchange it
          belongs to is one whose own call failed);
        * a negative round-trip delay of a microsecond or more passes `ValidateResponseTimestamps`
          and is refused by every histogram; the benchmark histogram refuses ≥ 262.144 ms.
      The record-first variant restores "error ⇒ state unchanged".
  (r) the outgoing SCION header and the hosts named in the client's DRKey request.
  (p) the cookie pool when an authenticated datagram fails the origin check.
  (w) number of exchanges per attempt loop.
-/
import ScionTime.Model.ClientTail
import ScionTime.Model.ScionSrv
import ScionTime.Proofs.ClientNtp
import ScionTime.Proofs.ClientTail
import ScionTime.Proofs.ClientWrap
import ScionTime.Gen.Client
namespace ScionTime.Props.C05Tail
open ScionTime.Time64 ScionTime.NtpMath ScionTime.ClientNtp ScionTime.ClientFlow ScionTime.ClientTail

/-! ### regenerated facts (harness/extract/x_c03c05c11c13tail.go) -/

/-- the order `tail` is written in: prev update, filter, histogram — in both clients -/
theorem C05T_pin_tail_order :
    Gen.Client.clientTailOrderIP = "prev,filter,histogram" ∧ Gen.Client.clientTailOrderSCION = "prev,filter,histogram" ∧
    Gen.Client.clientHistogramArgIP = "rtd.Microseconds()" ∧ Gen.Client.clientHistogramArgSCION = "rtd.Microseconds()" :=
  ⟨rfl, rfl, rfl, rfl⟩

/-- `poolLoop` stores before it looks at the origin: `nts.ProcessResponse` precedes the origin check -/
theorem C11T_pin_nts_before_origin :
    Gen.Client.clientNtsBeforeOriginIP = true ∧ Gen.Client.clientNtsBeforeOriginSCION = true := by
  decide

/-- No `RecyclePaths()` in core/client: a received SCION header is decoded with
    `path.NewPath(type)` under strict decoding, an unregistered path type is a decoding error
    (`.skip .layers`), and the four registered types (empty, SCION, one-hop, EPIC) are the four
    `spao.ComputeAuthCMAC` serialises — so the `panic(err)` behind the client's MAC computation
    over a received packet is not reachable from network input (`C05_scion_panic_only_from_timestamps`
    rests on this; the listener's F4e was a `RecyclePaths()` call). Harness c03 (`c05spao`) sends
    authenticated-looking packets under every path type 0..255. -/
theorem C08T_pin_no_recycle_paths : Gen.Client.clientRecyclePathsCalls = 0 := by decide

/-- the statements `mkScionRequestHeader` mirrors, in source order -/
theorem C05T_pin_header_sets :
    Gen.Client.clientScionHeaderSets =
      "scionLayer.TrafficClass=c.DSCP << 2 | scionLayer.SrcIA=localAddr.IA | scionLayer.SetSrcAddr(addr.HostIP(srcAddrIP.Unmap())) | scionLayer.DstIA=remoteAddr.IA | scionLayer.SetDstAddr(addr.HostIP(dstAddrIP.Unmap())) | path.Dataplane().SetPath(&scionLayer) | scionLayer.NextHdr=slayers.L4UDP | udpLayer.SrcPort=uint16(localPort) | udpLayer.DstPort=uint16(remoteAddr.Host.Port) | scionLayer.NextHdr=slayers.End2EndClass" := rfl

theorem tail_absorbed (cfg : Cfg) (hist : Option Hist) (filter : Option (Int → Int → Int → Int → Int64))
    (prev : Prev) (reference : String) (cTx1 : Int) (a : Accepted) :
    (tail cfg hist filter prev reference cTx1 a).absorbed = filter.map fun _ => (a.t0, a.t1, a.t2, a.t3) := by
  rcases tail_cases cfg hist filter prev reference cTx1 a with h | h <;> rw [h.1]

theorem finish_prev (cfg : Cfg) (hist : Option Hist) (filter : Option (Int → Int → Int → Int → Int64))
    (prev : Prev) (reference : String) (cTx1 : Int) (out : Outcome) :
    (finish cfg hist filter prev reference cTx1 out).prev =
      (match out with
       | .accepted a _ => updatePrev cfg prev reference cTx1 a
       | _ => prev) := by
  cases out with
  | accepted a n => exact tail_prev cfg hist filter prev reference cTx1 a
  | _ => rfl

/-- **State as without a histogram** (IP): whatever the histogram says, the client's state after
    the call is that of `ClientNtp.exchangeIP`. -/
theorem C05T_state_as_without_histogram_ip (cfg : Cfg) (hist : Option Hist)
    (filter : Option (Int → Int → Int → Int → Int64)) (server : Nat) (prev : Prev) (reference : String)
    (now cTx1 : Int) (evs : List (Event IpDgram)) :
    (exchangeIPH cfg hist filter server prev reference now cTx1 evs).prev =
      (exchangeIP cfg server prev reference now cTx1 evs).2 :=
  finish_prev cfg hist filter prev reference cTx1 _

/-- the same for the SCION client -/
theorem C05T_state_as_without_histogram_scion (cfg : Cfg) (hist : Option Hist)
    (filter : Option (Int → Int → Int → Int → Int64)) (sc : ScionCtx) (prev : Prev) (reference : String)
    (now cTx1 : Int) (evs : List (Event ScionDgram)) :
    (exchangeSCIONH cfg hist filter sc prev reference now cTx1 evs).prev =
      (exchangeSCION cfg sc prev reference now cTx1 evs).2 :=
  finish_prev cfg hist filter prev reference cTx1 _

/-- **Never an offset otherwise, with the histogram** (IP): an offset is reported only for a
    response the loop accepted (→ `C05_never_offset_otherwise_ip`: a datagram of the delivered
    sequence meeting every condition); the state invariant that does hold: a call that reports no
    offset leaves `prev` and the filter alone UNLESS it ends in the histogram error — and then the
    state is the accepted exchange's and the filter has absorbed its tuple. -/
theorem C05T_never_offset_otherwise_ip (cfg : Cfg) (hist : Option Hist)
    (filter : Option (Int → Int → Int → Int → Int64)) (server : Nat) (prev : Prev) (reference : String)
    (now cTx1 : Int) (evs : List (Event IpDgram)) :
    let r := exchangeIPH cfg hist filter server prev reference now cTx1 evs
    let out := (exchangeIP cfg server prev reference now cTx1 evs).1
    (∀ ts off, r.result = .ok ts off → ∃ a n, out = .accepted a n ∧ ts = a.cRx ∧ off = returnedOffset filter a) ∧
    (r.result = .errHist → hist ≠ none ∧ ∃ a n, out = .accepted a n ∧
        r.prev = updatePrev cfg prev reference cTx1 a ∧ r.absorbed = filter.map fun _ => (a.t0, a.t1, a.t2, a.t3)) ∧
    (r.result.isOk = false → r.result ≠ .errHist → r.prev = prev ∧ r.absorbed = none) ∧
    (hist = none → r.result ≠ .errHist) :=
  finish_never_offset cfg hist filter prev reference cTx1 _

/-- the same for the SCION client -/
theorem C05T_never_offset_otherwise_scion (cfg : Cfg) (hist : Option Hist)
    (filter : Option (Int → Int → Int → Int → Int64)) (sc : ScionCtx) (prev : Prev) (reference : String)
    (now cTx1 : Int) (evs : List (Event ScionDgram)) :
    let r := exchangeSCIONH cfg hist filter sc prev reference now cTx1 evs
    let out := (exchangeSCION cfg sc prev reference now cTx1 evs).1
    (∀ ts off, r.result = .ok ts off → ∃ a n, out = .accepted a n ∧ ts = a.cRx ∧ off = returnedOffset filter a) ∧
    (r.result = .errHist → hist ≠ none ∧ ∃ a n, out = .accepted a n ∧
        r.prev = updatePrev cfg prev reference cTx1 a ∧ r.absorbed = filter.map fun _ => (a.t0, a.t1, a.t2, a.t3)) ∧
    (r.result.isOk = false → r.result ≠ .errHist → r.prev = prev ∧ r.absorbed = none) ∧
    (hist = none → r.result ≠ .errHist) :=
  finish_never_offset cfg hist filter prev reference cTx1 _

/-- **"Error ⇒ state unchanged", refuted for the whole function**: interleaved mode, a filter, the
    benchmark histogram, one genuine basic response whose server claims 10 µs of processing for
    an exchange the client saw last 5 µs (round-trip delay −5 µs: it passes
    `ValidateResponseTimestamps`): the call reports the histogram error, `prev` is overwritten
    and the filter has absorbed the sample. -/
theorem C05T_error_with_state_change_counterexample :
    let cfg : Cfg := ⟨.ip, true, false, true⟩
    let now : Int := 1700000000000000000
    let pkt : NtpPkt := ⟨36, 1, ofTime now, ofTime (now + 1000), ofTime (now + 11000)⟩
    let r := exchangeIPH cfg (some benchmarkHist) (some fun _ _ _ _ => 0) 7 Prev.init "S" now now
      [.dgram ⟨7, ⟨48, pkt, false, false, false⟩⟩ (now + 5000) true]
    r.result = .errHist ∧ r.prev ≠ Prev.init ∧ r.prev.reference = "S" ∧ r.absorbed.isSome = true := by
  decide

/-- the record-first variant keeps "error ⇒ state unchanged" -/
theorem C05T_record_first_keeps_state (cfg : Cfg) (hist : Option Hist)
    (filter : Option (Int → Int → Int → Int → Int64)) (prev : Prev) (reference : String) (cTx1 : Int)
    (a : Accepted) (h : (tailRecordFirst cfg hist filter prev reference cTx1 a).result.isOk = false) :
    (tailRecordFirst cfg hist filter prev reference cTx1 a).prev = prev ∧
    (tailRecordFirst cfg hist filter prev reference cTx1 a).absorbed = none := by
  cases hist with
  | none => simp [tailRecordFirst, tail, Result.isOk] at h
  | some h0 =>
    cases hr : h0.recordOk a.rtd
    · simp [tailRecordFirst, hr]
    · simp [tailRecordFirst, tail, hr, Result.isOk] at h

/-- and agrees with the code whenever the histogram accepts (or there is none) -/
theorem C05T_record_first_same_when_recorded (cfg : Cfg) (hist : Option Hist)
    (filter : Option (Int → Int → Int → Int → Int64)) (prev : Prev) (reference : String) (cTx1 : Int)
    (a : Accepted) (h : ∀ h0, hist = some h0 → h0.recordOk a.rtd = true) :
    tailRecordFirst cfg hist filter prev reference cTx1 a = tail cfg hist filter prev reference cTx1 a := by
  cases hist with
  | none => rfl
  | some h0 =>
    have := h h0 rfl
    simp [tailRecordFirst, tail, this]

/-- a round-trip delay of −1 µs or less is refused by EVERY histogram -/
theorem C05T_negative_rtd_refused (h : Hist) (rtd : Int64) (hneg : rtd.toInt ≤ -1000) :
    h.recordOk rtd = false := by
  have : microseconds rtd < 0 := by
    unfold microseconds
    have h1 : rtd.toInt = -((-rtd.toInt)) := by omega
    rw [h1, Int.neg_tdiv]
    have h2 : 0 ≤ -rtd.toInt := by omega
    rw [Int.tdiv_eq_ediv_of_nonneg h2]
    omega
  simp only [Hist.recordOk, Bool.and_eq_false_imp, decide_eq_true_eq]
  intro h0; omega

/-- such a delay passes `ValidateResponseTimestamps` (the server's stamps are in order, the
    client's are in order: only their difference is negative) -/
example : validateTimestamps 0 1000 11000 5000 = .ok ∧ (roundTripDelay64 0 1000 11000 5000).toInt = -5000 := by
  decide

/-- the benchmark histogram: 262.143999 ms is recorded (the value is taken in whole microseconds), 262.144 ms is refused -/
theorem C05T_benchmark_hist_boundary :
    benchmarkHist.recordOk (Int64.ofInt 262143999) = true ∧
    benchmarkHist.recordOk (Int64.ofInt 262144000) = false ∧
    benchmarkHist.recordOk 0 = true ∧ benchmarkHist.recordOk (Int64.ofInt (-999)) = true ∧
    benchmarkHist.recordOk (Int64.ofInt (-1000)) = false := by
  decide

/-- **The exchange evaluated after a histogram error is still one exchange.** Whatever state
    `prev'` a call left behind (in particular: the state of a call that ended in the histogram
    error), an interleaved response accepted by the next call combines `prev'.cTx`, `prev'.sRx`
    and `prev'.cRx` — three stamps written together by that one call — with the response's
    transmit stamp. (That the server's transmit stamp belongs to the same exchange is the server's
    contract, Props/C03 `Conformant`.) -/
theorem C05T_interleaved_tuple_from_one_call (cfg : Cfg) (prev' : Prev) (req : Req) (cTx1 cRx : Int)
    (p : Payload) (a : Accepted) (h : ntpStage cfg prev' req cTx1 cRx p = .accept a) (hil : a.il = true) :
    a.t0 = toTime prev'.cTx req.cTx0 ∧ a.t1 = toTime prev'.sRx req.cTx0 ∧
    a.t3 = toTime prev'.cRx req.cTx0 ∧ a.t2 = toTime p.pkt.tx req.cTx0 := by
  obtain ⟨_, _, _, _, ha, _, _⟩ := ntpStage_accept cfg prev' req cTx1 cRx p a h
  subst ha
  simp only [tupleOf] at hil
  simp [tupleOf, hil]

/-- a local address the entry check admits and a remote address of 4 or 16 bytes with a path
    that can be set always give a header — no panic -/
theorem C05T_header_total (dscp lia ria lport rport : Nat) (lip rip : List Nat) (auth : Bool)
    (hdscp : dscp ≤ 63) (hl : localAddrOk lip.length = true) (hr : rip.length = 4 ∨ rip.length = 16) :
    ∃ h, mkScionRequestHeader dscp lia lip ria rip lport rport true auth = .hdr h := by
  have hl' : lip.length = 4 ∨ lip.length = 16 := by
    simpa [localAddrOk] using hl
  obtain ⟨a, ha, _⟩ := unmapIP_len lip hl'
  obtain ⟨c, hc, hcl⟩ := unmapIP_len rip hr
  have hheld : held rip = c := by simp [held, hc]
  obtain ⟨c', hc', _⟩ := unmapIP_len c hcl
  have hd : ¬ dscp > 63 := by omega
  simp only [mkScionRequestHeader, hostOfIP, ha, hheld, hc', Option.map_some, Bool.not_true,
    Bool.false_eq_true, if_false, hd]
  exact ⟨_, rfl⟩

/-- the remaining explicit panic: a caller-supplied remote address of another length (not
    reachable from network input: the NTS path returns `errUnexpectedAddrType` for a name that is no
    IP literal and `net.ParseIP` yields 16 bytes otherwise; `timeservice.go` parses its peers with
    `snet.ParseUDPAddr`) -/
theorem C05T_header_remote_panic :
    mkScionRequestHeader 0 1 [127, 0, 0, 1] 2 [1, 2, 3] 1000 123 true false = .panicAddr ∧
    mkScionRequestHeader 0 1 [127, 0, 0, 1] 2 [] 1000 123 true false = .panicAddr ∧
    mkScionRequestHeader 0 1 [127, 0, 0, 1] 2 [10, 0, 0, 2] 1000 123 false false = .panicSetPath ∧
    mkScionRequestHeader 0 1 [1, 2, 3] 2 [10, 0, 0, 2] 1000 123 true false = .errAddr ∧
    mkScionRequestHeader 64 1 [127, 0, 0, 1] 2 [10, 0, 0, 2] 1000 123 true false = .panicDSCP := by
  decide

/-- **The header names the hosts the client's key request names.** For every local and remote
    address that yields a header: the source host written into the header, read as the listener
    reads it (`ScionSrv.keyOf`: the raw bytes), is the host of the client's DRKey request
    (`DstHost: localAddr.Host.IP.String()`), and likewise for the destination / `SrcHost` — in
    particular for an IPv4-mapped IPv6 local address, which both sides reduce to the IPv4 address.
    The header never carries an IPv4-mapped address. -/
theorem C05T_header_hosts_are_key_hosts (dscp lia ria lport rport : Nat) (lip rip : List Nat) (sp auth : Bool)
    (h : ReqHdr) (hh : mkScionRequestHeader dscp lia lip ria rip lport rport sp auth = .hdr h) :
    listenerHostOf h.src = drkeyHostOfIP lip ∧ listenerHostOf h.dst = drkeyHostOfIP (held rip) ∧
    h.srcIA = lia ∧ h.dstIA = ria ∧ h.trafficClass = dscp * 4 ∧ dscp ≤ 63 := by
  unfold mkScionRequestHeader at hh
  cases hs : hostOfIP lip with
  | none => simp [hs] at hh
  | some s =>
    cases hd : hostOfIP (held rip) with
    | none =>
      simp only [hs, hd] at hh
      split at hh <;> cases hh
    | some d =>
      simp only [hs, hd] at hh
      split at hh
      · cases hh
      rename_i hdscp
      split at hh
      · cases hh
      · simp only [HdrResult.hdr.injEq] at hh
        subst hh
        have h63 : dscp ≤ 63 := by omega
        have htc : dscp * 4 % 256 = dscp * 4 := by omega
        simp only [and_self, and_true, htc, h63]
        exact ⟨listenerHostOf_hostOfIP hs, listenerHostOf_hostOfIP hd⟩

/-- IPv4-mapped local address: the header carries the 4-byte address with type `T4Ip` -/
example :
    mkScionRequestHeader 46 1 (v4mappedPrefix ++ [10, 0, 0, 4]) 2 (v4mappedPrefix ++ [10, 0, 0, 2]) 40000 123 true true =
      .hdr ⟨184, 1, 2, ⟨t4Ip, [10, 0, 0, 4]⟩, ⟨t4Ip, [10, 0, 0, 2]⟩, 40000, 123, end2EndClass⟩ := by
  decide

/-- the listener keys the request on exactly these hosts (`ScionSrv.keyOf` reads the raw bytes) -/
theorem C05T_listener_key_of_request (h : ReqHdr) (p : ScionSrv.Pkt)
    (hs : p.srcAddr = h.src.raw) (hd : p.dstAddr = h.dst.raw) (hsi : p.srcIA = h.srcIA) (hdi : p.dstIA = h.dstIA) :
    ScionSrv.keyOf p = ⟨h.dstIA, h.dst.raw, h.srcIA, h.src.raw⟩ := by
  simp [ScionSrv.keyOf, hs, hd, hsi, hdi]

/-- with `b` rounds left in the retry budget the loop stores at most `b` times -/
theorem poolLoop_length (canRetry : Bool) (k : Nat) (ds : List PDgram) (hk : ∀ d ∈ ds, d.cookies.length ≤ k) :
    ∀ (r b : Nat) (pool : List Nat), r + b = maxNumRetries + 1 → 0 < b →
      (poolLoop canRetry r pool ds).1.length ≤ pool.length + b * k := by
  induction ds with
  | nil => intro r b pool _ _; simp [poolLoop]
  | cons d rest ih =>
    intro r b pool hrb hb
    have hd := hk d List.mem_cons_self
    obtain ⟨c, rfl⟩ : ∃ c, b = c + 1 := ⟨b - 1, by omega⟩
    rw [Nat.add_one_mul]
    have retry : ∀ pool' : List Nat, pool'.length ≤ pool.length + k →
        (r != maxNumRetries && canRetry) = true →
        (poolLoop canRetry (r + 1) pool' rest).1.length ≤ pool.length + (c * k + k) := by
      intro pool' hp hret
      simp only [maxNumRetries, bne_iff_ne, ne_eq, Bool.and_eq_true] at hret hrb
      have := ih (fun x hx => hk x (List.mem_cons_of_mem _ hx)) (r + 1) c pool'
        (by simp only [maxNumRetries]; omega) (by omega)
      omega
    have hlen : (d.cookies.foldl NtsPool.storeCookie pool).length = pool.length + d.cookies.length := by
      rw [NtsPool.storeCookies_foldl]; simp
    simp only [poolLoop]
    split
    · split
      · exact retry pool (by omega) (by assumption)
      · simp only; omega
    · split
      · split
        · exact retry _ (by omega) (by assumption)
        · simp only; omega
      · simp only; omega

/-- **Pool bound of one call, whatever the datagrams.** From a pool of `l ≥ 1` cookies, with every
    datagram carrying at most `k` cookies, the pool after the call holds at most `l − 1 + 2k`:
    two `StoreCookie` rounds are possible in ONE exchange (an authenticated datagram that fails
    the origin check, a retry left, a second authenticated datagram). -/
theorem C11T_pool_bound_two_rounds (canRetry : Bool) (pool : List Nat) (ds : List PDgram) (k : Nat)
    (hne : pool ≠ []) (hk : ∀ d ∈ ds, d.cookies.length ≤ k) :
    (poolExchange canRetry pool ds).1.length ≤ pool.length - 1 + 2 * k := by
  cases pool with
  | nil => exact absurd rfl hne
  | cons c rest =>
    simp only [poolExchange, NtsPool.fetchData, List.length_cons, Nat.add_sub_cancel]
    exact poolLoop_length canRetry k ds hk 0 2 rest rfl (by decide)

/-- **…and the bound is attained: the pool can exceed eight.** Full pool (8), the request asks for
    one cookie; an authenticated datagram with one fresh cookie and a stale origin, then the
    genuine reply with one fresh cookie: nine cookies. (Only a server that answers ONE request
    twice under its unique identifier with a wrong origin can do this — not this project's
    listener, whose origin is a function of the request; see `C11T_conformant_one_round`.) -/
theorem C11T_pool_exceeds_eight_counterexample :
    poolExchange true [1, 2, 3, 4, 5, 6, 7, 8] [⟨true, [9], false⟩, ⟨true, [10], true⟩] =
      ([2, 3, 4, 5, 6, 7, 8, 9, 10], true) ∧
    poolLoopOriginFirst true 0 [2, 3, 4, 5, 6, 7, 8] [⟨true, [9], false⟩, ⟨true, [10], true⟩] =
      ([2, 3, 4, 5, 6, 7, 8, 10], true) := by
  decide

/-- **A conformant server gives one round.** When every authenticated datagram echoes the request
    (the origin of this project's listener is a function of the request, and only the server can
    authenticate under the request's unique identifier), the pool grows by the cookies of at most
    ONE datagram — the exchange's `stored` of `ClientFlow.flowStep`. -/
theorem C11T_conformant_one_round (canRetry : Bool) (ds : List PDgram)
    (hc : ∀ d ∈ ds, d.authOk = true → d.originOk = true) :
    ∀ (r : Nat) (pool : List Nat),
      ((poolLoop canRetry r pool ds).2 = false ∧ (poolLoop canRetry r pool ds).1 = pool) ∨
      (∃ d ∈ ds, d.authOk = true ∧ poolLoop canRetry r pool ds = (pool ++ d.cookies, true)) := by
  induction ds with
  | nil => intro r pool; left; simp [poolLoop]
  | cons d rest ih =>
    intro r pool
    have hrest : ∀ x ∈ rest, x.authOk = true → x.originOk = true := fun x hx => hc x (List.mem_cons_of_mem _ hx)
    cases ha : d.authOk with
    | false =>
      simp only [poolLoop, ha, Bool.not_false, if_true]
      split
      · exact (ih hrest (r + 1) pool).imp_right fun ⟨x, hx, h⟩ => ⟨x, List.mem_cons_of_mem _ hx, h⟩
      · exact .inl ⟨rfl, rfl⟩
    | true =>
      have ho := hc d List.mem_cons_self ha
      exact .inr ⟨d, List.mem_cons_self, ha, by simp [poolLoop, ha, ho, NtsPool.storeCookies_foldl]⟩

/-- the origin-first variant never stores two rounds -/
theorem C11T_origin_first_one_round (canRetry : Bool) (ds : List PDgram) :
    ∀ (r : Nat) (pool : List Nat),
      ((poolLoopOriginFirst canRetry r pool ds).1 = pool) ∨
      (∃ d ∈ ds, (poolLoopOriginFirst canRetry r pool ds).1 = pool ++ d.cookies) := by
  induction ds with
  | nil => intro r pool; left; simp [poolLoopOriginFirst]
  | cons d rest ih =>
    intro r pool
    simp only [poolLoopOriginFirst]
    split
    · split
      · exact (ih (r + 1) pool).imp_right fun ⟨x, hx, h⟩ => ⟨x, List.mem_cons_of_mem _ hx, h⟩
      · exact .inl rfl
    · exact .inr ⟨d, List.mem_cons_self, by simp [NtsPool.storeCookies_foldl]⟩

/-- **Exchanges per round and client** (the IP wrapper and the per-path goroutine of
    `MeasureClockOffsetSCION` alike): between 1 and `attempts il` (1, or 1..3 in interleaved mode);
    exactly `k + 1` when attempt `k` is the first to succeed and leave the client in interleaved
    mode (the `break`), all of them otherwise; the value reported is the last successful one's
    (`C05W_result`). -/
theorem C15T_exchanges_per_round (il : Bool) (ins : List AttemptIn) (hlen : attempts il ≤ ins.length) :
    let n := (wrapCtx false il ins).2
    1 ≤ n ∧ n ≤ attempts il ∧ n ≤ 3 ∧
    (match firstIL ((ins.take (attempts il)).map attemptResult) with
     | some k => n = k + 1
     | none => n = attempts il) :=
  wrapCtx_exchanges il ins hlen

/-- the `break` in action: basic success, interleaved success → two exchanges, the second's value -/
example :
    wrapCtx false true [⟨.live, .ok 17 4 false⟩, ⟨.live, .ok 18 5 true⟩, ⟨.live, .ok 19 6 true⟩] =
      (⟨18, 5, none, 0⟩, 2) := by
  decide

/-- a client that never reaches interleaved mode within the round makes all three -/
example :
    (wrapCtx false true [⟨.live, .ok 17 4 false⟩, ⟨.live, .err .read⟩, ⟨.live, .ok 19 6 false⟩]).2 = 3 := by
  decide

end ScionTime.Props.C05Tail
