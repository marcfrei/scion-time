/-
  C08 — the CSPTP client's receive loop (core/client/client_csptp_ip.go, MeasureClockOffset) as a
  state machine over response histories; model: Model/CsptpCliLoop.lean (on top of
  Model/CsptpClient.lean); lemmas: Proofs/CsptpCliLoop.lean.

  For every history of datagrams and read errors, every source, every sequence id, every state
  of the retry counter:
  * no iteration panics; an iteration either fails the measurement with an error, goes on, or
    completes the pair;
  * **soundness**: when the loop completes, the Sync it kept IS a datagram of the history that
    came from the queried server's port 319, was 44 bytes long and carried the outstanding
    sequence id, and the Follow_Up + TLV it kept IS a datagram of the history from the server's
    port 320 with the outstanding sequence id, a response TLV of the right kind and exactly the
    length its flag field declares; the reported offset is `CsptpClient.evaluate` of exactly
    these and of that Sync's receive timestamp.  Nothing else can contribute: datagrams with
    another sequence id (older exchanges), from other hosts or ports, request-typed TLVs,
    partially decoded TLVs;
  * **progress**: in any loop state a genuine pair (either order) completes the measurement, and
    the Sync kept is the genuine one;
  * **retry rule**: a failure is survived only with a deadline, before the deadline, and not in
    the fourth iteration; every surviving iteration adds one to the counter.
  `PortIdentity` (clock id, port number) of a response is NOT checked by the client; the pair is
  matched by sequence id and UDP source only — recorded as an observation in notes/C08.md.
-/
import ScionTime.Proofs.CsptpCliLoop
import ScionTime.Model.CsptpSkeleton
import ScionTime.Props.C08Csptp
import ScionTime.Props.C18Client
import ScionTime.Gen.Client
namespace ScionTime.C08CsptpCli
open ScionTime.Wire ScionTime.Csptp ScionTime.CsptpClient ScionTime.CsptpCliLoop

/-! ### code shape, re-read from /repo on every run -/

/-- the receive loop is, condition for condition, what `iter` transcribes -/
theorem C08_pin_csptpcli_loop : Gen.Client.csptpcli_loop = CsptpSkeleton.clientLoop := rfl

theorem C08_pin_csptpcli_constants :
    Gen.Client.csptpcli_maxNumRetries = "3" ∧ maxNumRetries = 3 ∧
    Gen.Client.csptpcli_bufLen = "csptp.MaxMessageLength" ∧ Gen.Csptp.MaxMessageLength = maxMessageLength :=
  ⟨rfl, rfl, rfl, by decide⟩

/-- a datagram from the queried server's event port that is a Sync answering request `seq` -/
def GoodSync (seq : Nat) (e : Ev) (m : Message) : Prop :=
  ∃ wire rxt before, e = .dgram wire 0 .event rxt before ∧ wire.length = minMessageLength ∧
    decodeMessage wire = .ok m ∧ m.sequenceID = seq ∧ m.sdoIDMessageType = messageTypeSync ∧
    m.messageLength = minMessageLength

/-- a datagram from the queried server's general port that is a Follow_Up answering request `seq`
    with a response TLV at its declared length -/
def GoodFollowUp (seq : Nat) (e : Ev) (m : Message) (t : ResponseTLV) : Prop :=
  ∃ wire rxt before, e = .dgram wire 0 .general rxt before ∧ wire.length ≤ maxMessageLength ∧
    decodeMessage (wire.take minMessageLength) = .ok m ∧ m.sequenceID = seq ∧
    m.sdoIDMessageType = messageTypeFollowUp ∧ m.messageLength = wire.length ∧
    decodeResponseTLV (wire.drop minMessageLength) = .ok t ∧ isResponseKind t = true ∧
    wire.length = minMessageLength + encodedTLVLength t.flagField

theorem C08_csptpcli_classify_sync {seq : Nat} {tlv0 : ResponseTLV} {wire : List Nat} {f : Nat} {src : Src} {m : Message}
    (h : classify seq tlv0 wire f src = .sync m) (rxt : Int) (before : Bool) :
    GoodSync seq (.dgram wire f src rxt before) m := by
  obtain ⟨hf, hsrc, hc⟩ : (Cls.sync m).Checked seq wire f src := h ▸ classify_spec seq tlv0 wire f src
  subst hf hsrc
  exact ⟨wire, rxt, before, rfl, hc⟩

theorem C08_csptpcli_classify_followUp {seq : Nat} {tlv0 : ResponseTLV} {wire : List Nat} {f : Nat} {src : Src} {m : Message}
    {t : ResponseTLV} (h : classify seq tlv0 wire f src = .followUp m t) (rxt : Int) (before : Bool) :
    GoodFollowUp seq (.dgram wire f src rxt before) m t := by
  obtain ⟨hf, hsrc, hc⟩ : (Cls.followUp m t).Checked seq wire f src := h ▸ classify_spec seq tlv0 wire f src
  subst hf hsrc
  exact ⟨wire, rxt, before, rfl, hc⟩

/-- the TLV variable is only written on the Follow_Up path, after `respmsg1Ok` was cleared -/
theorem C08_csptpcli_classify_failed_tlv {seq : Nat} {tlv0 : ResponseTLV} {wire : List Nat} {f : Nat} {src : Src}
    {err log : String} {r0 r1 : Bool} {t : ResponseTLV}
    (h : classify seq tlv0 wire f src = .failed err log r0 r1 (some t)) : r1 = true := by
  have hc : (Cls.failed err log r0 r1 (some t)).Checked seq wire f src := h ▸ classify_spec seq tlv0 wire f src
  exact hc.resolve_left nofun

/-- a genuine Sync is classified as such, whatever came before -/
theorem C08_csptpcli_classify_of_goodSync {seq : Nat} {e : Ev} {m : Message} (h : GoodSync seq e m) (tlv0 : ResponseTLV) :
    ∃ wire rxt before, e = .dgram wire 0 .event rxt before ∧ classify seq tlv0 wire 0 .event = .sync m := by
  obtain ⟨wire, rxt, before, he, hl, hd, hs, hty, hml⟩ := h
  refine ⟨wire, rxt, before, he, ?_⟩
  unfold classify
  have hfl : CsptpSrv.recvFlags wire.length 0 = 0 := CsptpSrv.recvFlags_zero_iff.mpr ⟨by rw [hl]; decide, rfl⟩
  rw [if_neg (by omega), if_neg (by omega), List.take_of_length_le (by omega), hd]
  simp only
  rw [if_neg (by omega), if_neg (by omega), if_pos hty, if_neg (by simp), if_neg (by omega)]

/-- a genuine Follow_Up is classified as such, whatever `resptlv` held -/
theorem C08_csptpcli_classify_of_goodFollowUp {seq : Nat} {e : Ev} {m : Message} {t : ResponseTLV} (h : GoodFollowUp seq e m t)
    (tlv0 : ResponseTLV) :
    ∃ wire rxt before, e = .dgram wire 0 .general rxt before ∧ classify seq tlv0 wire 0 .general = .followUp m t := by
  obtain ⟨wire, rxt, before, he, hl, hd, hs, hty, hml, hdt, hk, hlen⟩ := h
  refine ⟨wire, rxt, before, he, ?_⟩
  unfold classify
  have hfl : CsptpSrv.recvFlags wire.length 0 = 0 := CsptpSrv.recvFlags_zero_iff.mpr ⟨hl, rfl⟩
  have hne : ¬ m.sdoIDMessageType = messageTypeSync := by rw [hty]; decide
  rw [if_neg (by omega), if_neg (by omega), hd]
  simp only
  rw [if_neg (by omega), if_neg (by omega), if_neg hne, if_pos hty, if_neg (by simp), decodeInto_of_ok hdt]
  simp only [Bool.not_true, Bool.false_eq_true, ↓reduceIte, hk]
  rw [if_neg (by omega)]

/-- **C08, one iteration.**  In every loop state (98-byte buffer), for every event: no panic;
    the buffer stays 98 bytes; an iteration that goes on without completing the pair adds exactly
    one to the retry counter. -/
theorem C08_csptpcli_iter_total (dl : Bool) (seq : Nat) (st : Loop) (e : Ev) (hb : st.backing.length = maxMessageLength) :
    (iter dl seq st e).isPanic = false ∧
    ∀ st', (iter dl seq st e).state? = some st' → st'.backing.length = maxMessageLength ∧
      ((iter dl seq st e).isDone = false → st'.numRetries = st.numRetries + 1) := by
  have hs := iter_spec dl seq st e hb
  cases hi : iter dl seq st e <;> rw [hi] at hs
  · exact ⟨rfl, fun _ h' => by cases h'; exact ⟨hs.2.2.2.1, fun _ => hs.2.2.2.2⟩⟩
  · exact ⟨rfl, fun _ h' => by cases h'; exact ⟨hs.1, fun _ => hs.2⟩⟩
  · exact ⟨rfl, fun _ h' => by cases h'; exact ⟨hs.1, nofun⟩⟩
  · exact ⟨rfl, fun _ h' => nomatch h'⟩
  · exact hs.elim

/-- **Retry rule.**  A failing iteration is survived only if a deadline is set, the clock still
    reads before it, and this is not the fourth iteration (`numRetries = 3`); equivalently:
    without a deadline, after it, or in the fourth iteration every malformed, foreign or
    out-of-sequence datagram and every read error ends the measurement with an error. -/
theorem C08_csptpcli_retry_rule (dl : Bool) (seq : Nat) (st st' : Loop) (e : Ev) (log : String)
    (hb : st.backing.length = maxMessageLength) (h : iter dl seq st e = .retry st' log) :
    dl = true ∧ st.numRetries ≠ maxNumRetries ∧
    (match e with | .readErr b => b | .dgram _ _ _ _ b => b) = true := by
  have hs := iter_spec dl seq st e hb
  rw [h] at hs
  cases e <;> exact ⟨hs.1, hs.2.1, hs.2.2.1⟩

/-- what the loop variables mean: each kept half is a genuine datagram of the history so far -/
structure Inv (seq : Nat) (seen : List Ev) (st : Loop) : Prop where
  len : st.backing.length = maxMessageLength
  s0 : st.ok0 = true → ∃ e ∈ seen, GoodSync seq e st.m0 ∧ st.rx0 = e.rxt
  s1 : st.ok1 = true → ∃ e ∈ seen, GoodFollowUp seq e st.m1 st.tlv

theorem Inv.mono {seq : Nat} {seen : List Ev} {st : Loop} (h : Inv seq seen st) (more : List Ev) :
    Inv seq (seen ++ more) st :=
  ⟨h.len, fun h0 => let ⟨x, hx, hg⟩ := h.s0 h0; ⟨x, List.mem_append_left _ hx, hg⟩,
    fun h1 => let ⟨x, hx, hg⟩ := h.s1 h1; ⟨x, List.mem_append_left _ hx, hg⟩⟩

theorem Inv.bump {seq : Nat} {seen : List Ev} {st : Loop} (h : Inv seq seen st) : Inv seq seen st.bump :=
  ⟨h.len, h.s0, h.s1⟩

theorem Inv.failPath {seq : Nat} {seen : List Ev} {st : Loop} (h : Inv seq seen st) (dl before : Bool) (err log : String) :
    ∀ st', (failPath dl st before err log).state? = some st' → Inv seq seen st' := by
  rcases failPath_cases dl st before err log with h' | h' <;> rw [h'] <;> intro _ hs <;> cases hs
  exact h.bump

theorem Inv.endOfBody {seq : Nat} {seen : List Ev} {st : Loop} (h : Inv seq seen st) :
    ∀ st', (endOfBody st).state? = some st' → Inv seq seen st' := by
  rcases endOfBody_cases st with ⟨h', _⟩ | ⟨h', _⟩ <;> rw [h'] <;> intro _ hs <;> cases hs
  · exact h
  · exact h.bump

theorem C08_csptpcli_iter_invariant (dl : Bool) (seq : Nat) (st : Loop) (e : Ev) (seen : List Ev) (hI : Inv seq seen st) :
    ∀ st', (iter dl seq st e).state? = some st' → Inv seq (seen ++ [e]) st' := by
  cases e with
  | readErr before => exact (hI.mono _).failPath dl before "read" logRead
  | dgram wire f src rxt before =>
    rw [iter_dgram dl seq st wire f src rxt before hI.len]
    have hlen : (CsptpSrv.recvInto st.backing wire).length = maxMessageLength := CsptpSrv.recvInto_length _ _ hI.len
    have hmem : Ev.dgram wire f src rxt before ∈ seen ++ [Ev.dgram wire f src rxt before] :=
      List.mem_append_right _ (List.mem_singleton.mpr rfl)
    cases hc : classify seq st.tlv wire f src with
    | failed err log r0 r1 tlv =>
      refine Inv.failPath (st := (st.recv wire).clear r0 r1 tlv)
        ⟨hlen, fun h0 => (hI.mono _).s0 ?_, fun h1 => ?_⟩ dl before err log
      · cases r0
        · exact h0
        · cases h0
      · cases r1
        · cases tlv
          · exact (hI.mono _).s1 h1
          · cases C08_csptpcli_classify_failed_tlv hc
        · cases h1
    | sync msg =>
      exact Inv.endOfBody (st := (st.recv wire).keepSync rxt msg)
        ⟨hlen, fun _ => ⟨_, hmem, C08_csptpcli_classify_sync hc rxt before, rfl⟩, (hI.mono _).s1⟩
    | followUp msg tlv =>
      exact Inv.endOfBody (st := (st.recv wire).keepFollowUp tlv rxt msg)
        ⟨hlen, (hI.mono _).s0, fun _ => ⟨_, hmem, C08_csptpcli_classify_followUp hc rxt before⟩⟩

theorem C08_csptpcli_done_has_both (dl : Bool) (seq : Nat) (st st' : Loop) (e : Ev) (hb : st.backing.length = maxMessageLength)
    (h : iter dl seq st e = .done st') : st'.ok0 = true ∧ st'.ok1 = true := by
  have hs := iter_spec dl seq st e hb
  rw [h] at hs
  exact hs.2

theorem C08_csptpcli_run_invariant (dl : Bool) (seq : Nat) : ∀ (evs : List Ev) (st : Loop) (tr : List String) (seen : List Ev),
    Inv seq seen st →
    match run dl seq st tr evs with
    | .ok st' _ => Inv seq (seen ++ evs) st' ∧ st'.ok0 = true ∧ st'.ok1 = true
    | .panic _ => False
    | _ => True := by
  intro evs
  induction evs with
  | nil => intro st tr seen hI; trivial
  | cons e rest ih =>
    intro st tr seen hI
    have hinv := C08_csptpcli_iter_invariant dl seq st e seen hI
    have hs := iter_spec dl seq st e hI.len
    rw [List.append_cons]
    unfold run
    cases hi : iter dl seq st e <;> rw [hi] at hinv hs
    · exact ih _ _ _ (hinv _ rfl)
    · exact ih _ _ _ (hinv _ rfl)
    · exact ⟨(hinv _ rfl).mono rest, C08_csptpcli_done_has_both dl seq st _ e hI.len hi⟩
    · trivial
    · exact hs

theorem C08_csptpcli_start_length (seq : Nat) : (Loop.start seq).backing.length = maxMessageLength := by
  unfold Loop.start CsptpSrv.clientFollowUpBytes
  simp only
  rw [List.length_append, C14.msg_bytes_length, C14.req_bytes_length]
  rfl

theorem Inv.start (seq : Nat) : Inv seq [] (Loop.start seq) :=
  ⟨C08_csptpcli_start_length seq, nofun, nofun⟩

/-- **C08 for the client, all histories.**  Whatever the network delivers — any byte strings of
    any length from any source in any order, read errors, truncation flags — the receive loop
    never panics: it ends with a complete pair, with an error, or is still waiting. -/
theorem C08_csptpcli_never_panics (dl : Bool) (seq : Nat) (evs : List Ev) :
    ∀ c, run dl seq (Loop.start seq) [] evs ≠ .panic c := by
  intro c h
  have hr := C08_csptpcli_run_invariant dl seq evs (Loop.start seq) [] [] (Inv.start seq)
  rw [h] at hr
  exact hr

/-- **The client reports an offset only from a response pair matching its outstanding request.**
    If the loop completes on a history, then the history contains a datagram `e0` from the queried
    server's port 319 that is a 44-byte Sync with the outstanding sequence id and a datagram `e1`
    from its port 320 that is a Follow_Up with the outstanding sequence id and a response TLV of
    the right kind at its declared length, and what `MeasureClockOffset` returns is the evaluation
    (Model/CsptpClient.lean; exactness: Props/C18Client.lean) of exactly `e0`'s header, `e1`'s
    header and TLV, the client's own transmit timestamp and `e0`'s receive timestamp. -/
theorem C08_csptpcli_offset_only_from_matching_pair (dl : Bool) (seq : Nat) (evs : List Ev) (st : Loop) (tr : List String)
    (h : run dl seq (Loop.start seq) [] evs = .ok st tr) :
    ∃ e0 ∈ evs, ∃ e1 ∈ evs, GoodSync seq e0 st.m0 ∧ GoodFollowUp seq e1 st.m1 st.tlv ∧
      ∀ cTxTime0, report cTxTime0 st = evaluate cTxTime0 e0.rxt st.m0 st.m1 st.tlv ∧
        (report cTxTime0 st).timestamp = e0.rxt := by
  have hr := C08_csptpcli_run_invariant dl seq evs (Loop.start seq) [] [] (Inv.start seq)
  rw [h] at hr
  obtain ⟨hI, h0, h1⟩ := hr
  obtain ⟨e0, hm0, hg0, hrx⟩ := hI.s0 h0
  obtain ⟨e1, hm1, hg1⟩ := hI.s1 h1
  rw [List.nil_append] at hm0 hm1
  refine ⟨e0, hm0, e1, hm1, hg0, hg1, ?_⟩
  intro t
  unfold report
  rw [hrx]
  exact ⟨rfl, rfl⟩

/-- **Progress.**  In ANY loop state — after any history that has not ended the loop, with any
    retry count, deadline or not — a genuine Sync followed by a genuine Follow_Up completes the
    pair without a failure record, and the Sync evaluated is the genuine one (with its receive
    timestamp); the Follow_Up evaluated is the genuine one unless an earlier genuine Follow_Up
    was already kept. -/
theorem C08_csptpcli_genuine_pair_completes (dl : Bool) (seq : Nat) (st : Loop) (tr : List String) (e0 e1 : Ev)
    (m0 m1 : Message) (t : ResponseTLV) (hb : st.backing.length = maxMessageLength)
    (h0 : GoodSync seq e0 m0) (h1 : GoodFollowUp seq e1 m1 t) :
    ∃ st', run dl seq st tr [e0, e1] = .ok st' tr ∧ st'.m0 = m0 ∧ st'.rx0 = e0.rxt ∧
      (st.ok1 = false → st'.m1 = m1 ∧ st'.tlv = t ∧ st'.rx1 = e1.rxt) := by
  obtain ⟨w0, rx0, b0, he0, hc0⟩ := C08_csptpcli_classify_of_goodSync h0 st.tlv
  subst he0
  unfold run
  rw [iter_dgram dl seq st w0 0 .event rx0 b0 hb, hc0]
  simp only [applyCls]
  rcases endOfBody_cases ((st.recv w0).keepSync rx0 m0) with ⟨h, _, hk1⟩ | ⟨h, hk⟩ <;> rw [h] <;> simp only
  · exact ⟨_, rfl, rfl, rfl, fun hf => nomatch hf.symm.trans hk1⟩
  · obtain ⟨w1, rx1, b1, he1, hc1⟩ := C08_csptpcli_classify_of_goodFollowUp h1 ((st.recv w0).keepSync rx0 m0).bump.tlv
    subst he1
    unfold run
    rw [iter_dgram dl seq _ w1 0 .general rx1 b1 (CsptpSrv.recvInto_length _ _ hb), hc1]
    simp only [applyCls]
    exact ⟨_, rfl, rfl, rfl, fun _ => ⟨rfl, rfl, rfl⟩⟩

/-- …and in the other order (Follow_Up first), as a server whose two sockets race may deliver. -/
theorem C08_csptpcli_genuine_pair_completes_swapped (dl : Bool) (seq : Nat) (st : Loop) (tr : List String) (e0 e1 : Ev)
    (m0 m1 : Message) (t : ResponseTLV) (hb : st.backing.length = maxMessageLength)
    (h0 : GoodSync seq e0 m0) (h1 : GoodFollowUp seq e1 m1 t) :
    ∃ st', run dl seq st tr [e1, e0] = .ok st' tr ∧ st'.m1 = m1 ∧ st'.tlv = t ∧
      (st.ok0 = false → st'.m0 = m0 ∧ st'.rx0 = e0.rxt) := by
  obtain ⟨w1, rx1, b1, he1, hc1⟩ := C08_csptpcli_classify_of_goodFollowUp h1 st.tlv
  subst he1
  unfold run
  rw [iter_dgram dl seq st w1 0 .general rx1 b1 hb, hc1]
  simp only [applyCls]
  rcases endOfBody_cases ((st.recv w1).keepFollowUp t rx1 m1) with ⟨h, hk0, _⟩ | ⟨h, hk⟩ <;> rw [h] <;> simp only
  · exact ⟨_, rfl, rfl, rfl, fun hf => nomatch hf.symm.trans hk0⟩
  · obtain ⟨w0, rx0, b0, he0, hc0⟩ := C08_csptpcli_classify_of_goodSync h0 ((st.recv w1).keepFollowUp t rx1 m1).bump.tlv
    subst he0
    unfold run
    rw [iter_dgram dl seq _ w0 0 .event rx0 b0 (CsptpSrv.recvInto_length _ _ hb), hc0]
    simp only [applyCls]
    exact ⟨_, rfl, rfl, rfl, fun _ => ⟨rfl, rfl⟩⟩

/-! ### agreement with the one-datagram model of Model/CsptpClient.lean -/

/-- 0 = failure path, 1 = Sync accepted, 2 = Follow_Up accepted, 3 = panic -/
def verdictKind : Verdict → Nat
  | .retry _ => 0
  | .acceptSync => 1
  | .acceptFollowUp => 2
  | .panicSlice => 3
def clsKind : Cls → Nat
  | .failed _ _ _ _ _ => 0
  | .sync _ => 1
  | .followUp _ _ => 2

/-- The loop's classification of a datagram and the verdict of `CsptpClient.onDatagram` (the model
    behind `C08_csptp_client_no_panic` and C18's `evaluateDatagrams`) agree on what is accepted,
    for every untruncated datagram read into any 98-byte buffer. -/
theorem C08_csptpcli_agrees_with_onDatagram (seq : Nat) (tlv0 : ResponseTLV) (backing wire : List Nat) (src : Src)
    (hb : backing.length = maxMessageLength) (hw : wire.length ≤ maxMessageLength) :
    verdictKind (onDatagram true (CsptpSrv.recvInto backing wire) wire.length (src == .event) (src == .general) seq) =
      clsKind (classify seq tlv0 wire 0 src) := by
  unfold classify onDatagram
  rw [if_neg (Decidable.not_not.mpr (CsptpSrv.recvFlags_zero_iff.mpr ⟨hw, rfl⟩))]
  simp only [Bool.true_and, decide_eq_true_eq]
  refine ite_eq_ite Iff.rfl (fun _ => rfl) fun hs => ?_
  have h44 : minMessageLength ≤ wire.length := Nat.le_of_not_lt hs
  -- `onDatagram` tests the length again before it takes `buf[44:]`
  rw [if_neg hs, CsptpSrv.recvInto_take _ _ _ (Nat.le_min.mpr ⟨h44, Nat.le_trans h44 hw⟩)]
  rcases CsptpSrv.msg_decode_cases (wire.take minMessageLength) with hm | ⟨m, hm⟩ <;> rw [hm]
  · rfl
  simp only
  refine ite_eq_ite Iff.rfl (fun _ => rfl) fun _ => ite_eq_ite Iff.rfl (fun _ => rfl) fun _ => ?_
  refine ite_eq_ite Iff.rfl (fun _ => ?_) fun _ => ite_eq_ite Iff.rfl (fun _ => ?_) fun _ => rfl
  · refine ite_eq_ite (by cases src <;> decide) (fun _ => rfl) fun _ => ?_
    exact ite_eq_ite Iff.rfl (fun _ => rfl) fun _ => rfl
  · refine ite_eq_ite (by cases src <;> decide) (fun _ => rfl) fun _ => ?_
    rw [CsptpSrv.recvInto_take _ _ _ (Nat.le_min.mpr ⟨Nat.le_refl _, hw⟩), List.take_of_length_le (Nat.le_refl _)]
    rcases CsptpSrv.resp_decode_cases (wire.drop minMessageLength) with hd | ⟨t, hd⟩
    · rw [hd, decodeInto_of_err hd]; rfl
    rw [hd, decodeInto_of_ok hd]
    simp only [Bool.not_true, Bool.false_eq_true, ↓reduceIte]
    refine ite_eq_ite (not_isResponseKind_iff t) (fun _ => rfl) fun _ => ?_
    exact ite_eq_ite Iff.rfl (fun _ => rfl) fun _ => rfl

/-! ### the client against the listener of this commit -/

/-- a history in which nothing arrives: read errors only -/
def Silent (evs : List Ev) : Prop := ∀ e ∈ evs, ∃ b, e = .readErr b

theorem C08_csptpcli_silence_never_completes (dl : Bool) (seq : Nat) : ∀ (evs : List Ev) (st : Loop) (tr : List String),
    Silent evs → st.ok0 = false → ∀ st' tr', run dl seq st tr evs ≠ .ok st' tr' := by
  intro evs
  induction evs with
  | nil => intro st tr _ _ st' tr' h; cases h
  | cons e rest ih =>
    intro st tr hs h0 st' tr' h
    obtain ⟨b, he⟩ := hs e (List.mem_cons_self)
    subst he
    unfold run at h
    rw [iter_readErr] at h
    rcases failPath_cases dl st b "read" logRead with h' | h' <;> rw [h'] at h <;> simp only at h
    · exact ih st.bump _ (fun e he => hs e (List.mem_cons_of_mem _ he)) h0 st' tr' h
    · cases h

/-- **End to end at this commit.**  The request pair the client sends is taken up by the listener
    (`C08CsptpSrv.C08_csptpsrv_client_request_taken_up`), the listener sends nothing
    (`C08_csptpsrv_never_panics_never_sends`), so the client's history is silent and
    `MeasureClockOffset` never reports an offset from this listener: it returns the read error
    once the deadline has passed.  (C18's formula clause through the real message flow therefore
    has no instance with the real listener; with a responder that fills in the timestamps it is
    `C18_client_offset_exact` composed with `C08_csptpcli_offset_only_from_matching_pair`.) -/
theorem C08_csptp_e2e_no_measurement_from_this_listener (dl : Bool) (seq : Nat) (evs : List Ev) (hs : Silent evs) :
    (∀ st tr, run dl seq (Loop.start seq) [] evs ≠ .ok st tr) ∧
    run dl seq (Loop.start seq) [] [.readErr false] = .err "read" [] :=
  ⟨C08_csptpcli_silence_never_completes dl seq evs _ _ hs rfl, by
    unfold run; rw [iter_readErr]; unfold failPath; simp⟩

/-! ### end to end with a responder that fills in the timestamps (C18's formula clause through the message flow) -/

/-- a Sync / Follow_Up pair as a correct server produces it for a client whose Sync left at `t0`:
    the server's clock is ahead by `θ`, the one-way delay is `d` both ways, the TLV reports the
    request's ingress `t0 + d + θ` plus its residence correction, and the Sync is received at
    `origin + d − θ` plus the corrections of both response messages -/
structure Physical (t0 d θ : Int) (e0 : Ev) (m0 m1 : Message) (tlv : ResponseTLV) : Prop where
  c0 : C18.InI64 m0.correctionField
  c1 : C18.InI64 m1.correctionField
  ct : C18.InI64 tlv.requestCorrectionField
  s1 : tlv.requestIngressTimestamp.seconds < 2^48
  s2 : m1.timestamp.seconds < 2^48
  fd : C18.Fits60 d
  fθ : C18.Fits60 θ
  ingress : C18.tsTime tlv.requestIngressTimestamp = t0 + d + θ + tlv.requestCorrectionField / 65536
  arrival : e0.rxt = C18.tsTime m1.timestamp + d - θ + (m0.correctionField / 65536 + m1.correctionField / 65536)

/-- **End to end.**  Whatever else the network delivers (older exchanges, foreign hosts, malformed
    and truncated datagrams, duplicates), if every genuine Sync / genuine Follow_Up combination of
    the history is physically consistent with a server ahead by `θ` behind a symmetric delay `d`,
    then a measurement that completes reports exactly `θ` (and evaluates the mean path delay as
    exactly `d`): the receive loop's matching (this file) composed with the evaluation's
    exactness (`C18_client_offset_exact`). -/
theorem C08_csptp_e2e_offset_exact (dl : Bool) (seq : Nat) (evs : List Ev) (st : Loop) (tr : List String)
    (t0 d θ : Int) (h : run dl seq (Loop.start seq) [] evs = .ok st tr)
    (hphys : ∀ e0 ∈ evs, ∀ e1 ∈ evs, ∀ m0 m1 tlv, GoodSync seq e0 m0 → GoodFollowUp seq e1 m1 tlv →
      Physical t0 d θ e0 m0 m1 tlv) :
    (report t0 st).clockOffset.toInt = θ ∧ (report t0 st).meanPathDelay.toInt = d := by
  obtain ⟨e0, h0, e1, h1, g0, g1, hr⟩ := C08_csptpcli_offset_only_from_matching_pair dl seq evs st tr h
  have p := hphys e0 h0 e1 h1 _ _ _ g0 g1
  rw [(hr t0).1]
  have := C18.C18_client_offset_exact t0 e0.rxt st.m0 st.m1 st.tlv d θ p.c0 p.c1 p.ct p.s1 p.s2 p.fd p.fθ p.ingress p.arrival
  exact ⟨this.1, this.2.1⟩

/-- non-vacuity of `Physical`: client transmit time 2023-11-14T22:13:20Z, θ = −3 ms, d = 250 µs, Sync
    correction 1 ns; the pair completes the loop and is measured exactly -/
def physSync : Message := { CsptpSrv.respSync 5 with correctionField := 65536 }
def physTLV : ResponseTLV :=
  { CsptpSrv.respTLV0 with length := 36, flagField := 0, requestIngressTimestamp := ⟨1699999999, 997250000⟩ }
def physFollowUp : Message := { CsptpSrv.respFollowUp 5 with messageLength := 80, timestamp := ⟨1699999999, 997260000⟩ }
def physHistory : List Ev :=
  [.dgram (messageBytes physSync) 0 .event 1700000000000510001 true,
   .dgram (messageBytes physFollowUp ++ responseTLVBytes physTLV) 0 .general 1700000000000600000 true]
example : Physical 1700000000000000000 250000 (-3000000) (.dgram (messageBytes physSync) 0 .event 1700000000000510001 true)
    physSync physFollowUp physTLV :=
  ⟨by unfold C18.InI64; decide, by unfold C18.InI64; decide, by unfold C18.InI64; decide, by decide, by decide,
    by unfold C18.Fits60; decide, by unfold C18.Fits60; decide, by decide, by decide⟩
example : (run true 5 (Loop.start 5) [] physHistory).kind = "ok" ∧
    (run true 5 (Loop.start 5) [] physHistory).state?.map (fun st => (report 1700000000000000000 st).clockOffset.toInt) = some (-3000000) ∧
    (run true 5 (Loop.start 5) [] physHistory).state?.map (fun st => (report 1700000000000000000 st).meanPathDelay.toInt) = some 250000 := by
  decide +kernel

/-! ### instances (non-vacuity) and the shapes the live run exercises -/

/-- a genuine pair for sequence id 5: Sync from 319, Follow_Up + 36-byte response TLV from 320 -/
def demoSync : List Nat := messageBytes { CsptpSrv.respSync 5 with correctionField := 65536 }
def demoTLV : ResponseTLV :=
  { CsptpSrv.respTLV0 with length := 36, flagField := 0, requestIngressTimestamp := ⟨1700000000, 250000⟩, utcOffset := 37 }
def demoFollowUp : List Nat :=
  messageBytes { CsptpSrv.respFollowUp 5 with messageLength := 80, timestamp := ⟨1700000000, 260000⟩ } ++ responseTLVBytes demoTLV

example : GoodSync 5 (.dgram demoSync 0 .event 1700000000000700000 true) { CsptpSrv.respSync 5 with correctionField := 65536 } :=
  ⟨demoSync, _, _, rfl, by decide +kernel, by decide +kernel, rfl, rfl, rfl⟩
example : GoodFollowUp 5 (.dgram demoFollowUp 0 .general 1700000000000800000 true)
    { CsptpSrv.respFollowUp 5 with messageLength := 80, timestamp := ⟨1700000000, 260000⟩ } demoTLV :=
  ⟨demoFollowUp, _, _, rfl, by decide +kernel, by decide +kernel, rfl, rfl, by decide +kernel, by decide +kernel,
    by decide +kernel, by decide +kernel⟩

/-- the pair completes the loop … -/
example : (run true 5 (Loop.start 5) [] [.dgram demoSync 0 .event 1700000000000700000 true,
    .dgram demoFollowUp 0 .general 1700000000000800000 true]).kind = "ok" := by decide +kernel

/-- responses to an OLDER sequence id (4), a Sync from the general port, a Follow_Up from a
    foreign host, a request-typed TLV and a short datagram are skipped (five records — the
    fourth iteration happens to be an accepted Sync), the genuine pair is then still accepted -/
def demoHistory : List Ev :=
    [.dgram (messageBytes (CsptpSrv.respSync 4)) 0 .event 1 true,
     .dgram demoSync 0 .general 2 true,
     .dgram demoFollowUp 0 .other 3 true,
     .dgram demoSync 0 .event 4 true,
     .dgram (CsptpSrv.clientFollowUpBytes 5) 0 .general 5 true,
     .dgram [8, 0, 0, 10, 0, 0, 0, 0, 0, 0] 0 .general 6 true,
     .dgram demoFollowUp 0 .general 7 true]
example : (run true 5 (Loop.start 5) [] demoHistory).kind = "ok" ∧
    (run true 5 (Loop.start 5) [] demoHistory).trace = [logUnexpected, logSource, logSource, logUnexpected, logStructure] ∧
    (run true 5 (Loop.start 5) [] demoHistory).state?.map (·.rx0) = some 4 := by decide +kernel

/-- a foreign copy of the Sync CLEARS the kept Sync (`respmsg0Ok = false` comes before the source
    check): the exchange then stays incomplete although both genuine halves arrived -/
def demoReset : List Ev :=
    [.dgram demoSync 0 .event 1 true, .dgram demoSync 0 .other 2 true, .dgram demoFollowUp 0 .general 3 true]
example : (run true 5 (Loop.start 5) [] demoReset).kind = "pending" ∧ (run true 5 (Loop.start 5) [] demoReset).trace = [logSource] ∧
    (run true 5 (Loop.start 5) [] demoReset).state?.map (fun st => (st.ok0, st.ok1)) = some (false, true) := by decide +kernel

/-- the fourth iteration is fatal; without a deadline the first failure is -/
example : run true 5 (Loop.start 5) [] (List.replicate 4 (.dgram [1, 2, 3] 0 .event 0 true)) =
    .err "packet" [logStructure, logStructure, logStructure] := by decide +kernel
example : run false 5 (Loop.start 5) [] [.dgram [1, 2, 3] 0 .event 0 true] = .err "packet" [] := by decide +kernel

/-- silence until the deadline has passed: the read error is returned -/
example : run true 5 (Loop.start 5) [] [.readErr false] = .err "read" [] := by decide +kernel

end ScionTime.C08CsptpCli
