/-
  C18 — floating-point clauses: frequency <-> scaled ppm, drift allowance.
  Model: ScionTime/Model/FreqDrift.lean over the software double ScionTime/Model/F64.lean;
  rounding lemmas: ScionTime/Proofs/F64.lean; the conversions as rounded rationals:
  ScionTime/Proofs/F64Conv.lean.
-/
import ScionTime.Model.FreqDrift
import ScionTime.Proofs.F64Conv
import ScionTime.Gen.Unixutil
import ScionTime.Gen.Timemath
namespace ScionTime.C18
open ScionTime.F64 ScionTime.FreqDrift

/-- Pin: the constant expression `65536.0 * 1e6` in both functions of freq.go (folded by the
    extractor exactly as the Go compiler does) is the model's `scale`. -/
theorem C18_pin_scale :
    Gen.Unixutil.scaledPPMFromFreqScale = scale ∧ Gen.Unixutil.freqFromScaledPPMScale = scale := by decide

theorem C18_scale_exact : ofInt scale = .fin 65536000000 := by
  rw [ofInt_exact (i := scale) (by decide) (by decide)]; unfold scale; simp

/-- scaledppm_roundtrip.  For every scaled-ppm value in the kernel's range
    (|x| ≤ 32768000 = 500 ppm), converting to a frequency (one division, rounded) and back
    (one multiplication, rounded, then truncation toward zero) returns `x` or the neighbour
    of `x` towards zero — never more than one unit away, never larger in magnitude. -/
theorem C18_scaledppm_roundtrip (x : Int) (hlo : -32768000 ≤ x) (hhi : x ≤ 32768000) :
    (0 ≤ x → x - 1 ≤ scaledPPMFromFreq (freqFromScaledPPM x) ∧ scaledPPMFromFreq (freqFromScaledPPM x) ≤ x) ∧
    (x ≤ 0 → x ≤ scaledPPMFromFreq (freqFromScaledPPM x) ∧ scaledPPMFromFreq (freqFromScaledPPM x) ≤ x + 1) := by
  unfold scaledPPMFromFreq freqFromScaledPPM
  rw [C18_scale_exact]
  obtain ⟨r, hr, e⟩ := ppm_freq_ppm (x := x) (by omega)
  rw [hr]
  have hx := intCast_abs_le (x := x) (n := 32768000) (by omega)
  rw [Rat.natCast_ofNat] at hx
  exact trunc_near_half (by grind)

/-- `UnknownDrift` (0, what an absent `clock_drift` key gives) makes `Drift` return `MaxInt64`
    for every interval. -/
theorem C18_drift_unknown (d : Int) : drift unknownDrift d = 9223372036854775807 := by
  unfold drift unknownDrift; rfl

/-- drift_proportional.  For a clock whose drift field is the positive double `C`
    (`2^-30 ≤ C ≤ 1024` s/s) and every interval `0 < d < 2^62` ns whose exact allowance
    `E = d·C` is at most `2^62` ns, `Drift(d)` is `E` up to truncation to whole nanoseconds and
    a relative error of `2^-50` (four correctly rounded operations): the allowance is
    proportional to the interval. -/
theorem C18_drift_proportional (C : Rat) (d : Int) (hd : 0 < d) (hd2 : d < 4611686018427387904)
    (hC1 : 1 / 1073741824 ≤ C) (hC2 : C ≤ 1024) (hE : (d : Rat) * C ≤ 4611686018427387904) :
    ((drift (.fin C) d : Int) : Rat) ≤ (d : Rat) * C + (d : Rat) * C / 1125899906842624 ∧
    (d : Rat) * C - (d : Rat) * C / 1125899906842624 - 1 < ((drift (.fin C) d : Int) : Rat) := by
  have hD0 : (0 : Rat) ≤ (d : Rat) := Rat.intCast_nonneg.2 (by omega)
  have hE0 : 0 ≤ C * (d : Rat) := Rat.mul_nonneg (by grind) hD0
  have hCa : C.abs = C := Rat.abs_of_nonneg (by grind)
  have hlo := pow2_m900_le
  obtain ⟨R, hR, e⟩ := drift_product (c := .fin C) (d := d) rfl
    (by rw [toRat_fin, hCa]; grind) (by rw [toRat_fin, hCa]; exact hC2) (by omega)
    (by rw [toRat_fin, Rat.abs_of_nonneg hE0]; grind)
  rw [toRat_fin, Rat.abs_of_nonneg hE0, abs_le_iff] at e
  unfold drift duration unknownDrift
  rw [beq_zero_eq_false rfl (by rw [toRat_fin]; grind), if_neg (by decide), hR]
  obtain ⟨_, t1, t2⟩ := trunc_of_nonneg (q := R) (by grind)
  grind

/-- The hypotheses of `C18_drift_proportional` are met, e.g., by a drift of 2^-16 s/s
    (15 ppm, exactly a double) over a 64 s interval. -/
example : (1 : Rat) / 1073741824 ≤ 1 / 65536 ∧ (1 : Rat) / 65536 ≤ 1024 ∧
    ((64000000000 : Int) : Rat) * (1 / 65536) ≤ 4611686018427387904 := by
  refine ⟨by grind, by grind, ?_⟩
  simp; grind

/-! ### frequency → scaled ppm → frequency

Infinities and NaN are outside the property's quantifier (`int64(f*…)` yields MinInt64 for
them — exercised by the correspondence's boundary stream). -/

/-- Zero round-trips to zero (the sign of `-0` is dropped by the integer conversion). -/
theorem C18_freq_roundtrip_zero (b : Bool) :
    freqFromScaledPPM (scaledPPMFromFreq (.zero b)) = .zero false := by
  cases b <;> decide +kernel

/-- freq_roundtrip (full): for every double `f` (finite, given by its rational value `F`, or a
    zero) with `|f| ≤ 500 ppm`, `FreqFromScaledPPM (ScaledPPMFromFreq f)` is finite and differs
    from `f` by at most one scaled-ppm unit (1/65536e6) plus 10^-6 of a unit of rounding. -/
theorem C18_freq_roundtrip (F : Rat) (h1 : -(1 / 2000) ≤ F) (h2 : F ≤ 1 / 2000) (h0 : F ≠ 0) :
    isFinite (freqFromScaledPPM (scaledPPMFromFreq (.fin F))) = true ∧
    (toRat (freqFromScaledPPM (scaledPPMFromFreq (.fin F))) - F) * 65536000000 ≤ 1 + 1 / 1000000 ∧
    (F - toRat (freqFromScaledPPM (scaledPPMFromFreq (.fin F)))) * 65536000000 ≤ 1 + 1 / 1000000 := by
  unfold scaledPPMFromFreq freqFromScaledPPM
  rw [C18_scale_exact]
  have hp : (F * 65536000000).abs ≤ 32768000 := abs_le_iff.2 (by grind)
  obtain ⟨fin, e, _, _⟩ := freq_ppm_freq (f := .fin F) rfl (by rw [toRat_fin]; grind)
  rw [toRat_fin, abs_le_iff] at e
  exact ⟨fin, by grind, by grind⟩

/-- Positive frequencies from one unit (2^-16 ppm) up to 500 ppm: the round trip is never
    above `f` by more than rounding noise (10^-6 unit) and below it by at most one unit. -/
theorem C18_freq_roundtrip_pos (F : Rat) (h1 : 1 / 65536000000 ≤ F) (h2 : F ≤ 1 / 2000) :
    isFinite (freqFromScaledPPM (scaledPPMFromFreq (.fin F))) = true ∧
    (toRat (freqFromScaledPPM (scaledPPMFromFreq (.fin F))) - F) * 65536000000 ≤ 1 / 1000000 ∧
    (F - toRat (freqFromScaledPPM (scaledPPMFromFreq (.fin F)))) * 65536000000 ≤ 1 + 1 / 1000000 := by
  unfold scaledPPMFromFreq freqFromScaledPPM
  rw [C18_scale_exact]
  have hp : (F * 65536000000).abs ≤ 32768000 := abs_le_iff.2 (by grind)
  obtain ⟨fin, e, up, _⟩ := freq_ppm_freq (f := .fin F) rfl (by rw [toRat_fin]; grind)
  rw [toRat_fin, abs_le_iff] at e
  have := up (by rw [toRat_fin]; grind)
  rw [toRat_fin] at this
  exact ⟨fin, by grind, by grind⟩

/-- Reverse direction, negative frequencies (mirror image). -/
theorem C18_freq_roundtrip_neg (F : Rat) (h1 : F ≤ -(1 / 65536000000)) (h2 : -(1 / 2000) ≤ F) :
    isFinite (freqFromScaledPPM (scaledPPMFromFreq (.fin F))) = true ∧
    (F - toRat (freqFromScaledPPM (scaledPPMFromFreq (.fin F)))) * 65536000000 ≤ 1 / 1000000 ∧
    (toRat (freqFromScaledPPM (scaledPPMFromFreq (.fin F))) - F) * 65536000000 ≤ 1 + 1 / 1000000 := by
  unfold scaledPPMFromFreq freqFromScaledPPM
  rw [C18_scale_exact]
  have hp : (F * 65536000000).abs ≤ 32768000 := abs_le_iff.2 (by grind)
  obtain ⟨fin, e, _, lo⟩ := freq_ppm_freq (f := .fin F) rfl (by rw [toRat_fin]; grind)
  rw [toRat_fin, abs_le_iff] at e
  have := lo (by rw [toRat_fin]; grind)
  rw [toRat_fin] at this
  exact ⟨fin, by grind, by grind⟩

/-- The same in terms of the constructor argument: a clock created with
    `NewSystemClock(log, dr)` for a drift of `1 ns/s ≤ dr ≤ 1 s/s` allows, over an interval
    `0 < d < 2^61` ns, `d·dr/10^9` ns up to truncation and a relative error of `2^-49`. -/
theorem C18_drift_of_clock (dr d : Int) (hdr1 : 1 ≤ dr) (hdr2 : dr ≤ 1000000000)
    (hd : 0 < d) (hd2 : d < 2305843009213693952) :
    ((drift (clockDrift dr) d : Int) : Rat) ≤
        (d : Rat) * dr / 1000000000 + (d : Rat) * dr / 1000000000 / 562949953421312 ∧
    (d : Rat) * dr / 1000000000 - (d : Rat) * dr / 1000000000 / 562949953421312 - 1 <
        ((drift (clockDrift dr) d : Int) : Rat) := by
  have hD : (dr : Rat) / 1000000000 * (d : Rat) ≤ 1 * 2305843009213693952 := by
    have h2 : (dr : Rat) ≤ 1000000000 := by simpa using Rat.intCast_le_intCast.mpr hdr2
    have h3 : (d : Rat) ≤ 2305843009213693952 := by
      simpa using Rat.intCast_le_intCast.mpr (show d ≤ 2305843009213693952 by omega)
    have h4 : (0 : Rat) ≤ (dr : Rat) / 1000000000 := by
      have : (1 : Rat) ≤ (dr : Rat) := by simpa using Rat.intCast_le_intCast.mpr hdr1
      grind
    exact Rat.le_trans (Rat.mul_le_mul_of_nonneg_left h3 h4)
      (Rat.mul_le_mul_of_nonneg_right (by grind) (by grind))
  obtain ⟨hb, R, hR, e⟩ := drift_product_seconds hdr1 hdr2 (Int.le_of_lt hd) (by omega)
    (Rat.le_trans hD (by grind))
  unfold clockDrift drift duration unknownDrift
  rw [hb, if_neg (by decide), hR,
    show (d : Rat) * dr / 1000000000 = (dr : Rat) / 1000000000 * (d : Rat) by grind]
  generalize (dr : Rat) / 1000000000 * (d : Rat) = E at *
  rw [abs_le_iff] at e
  obtain ⟨_, t1, t2⟩ := trunc_of_nonneg (q := R) (by grind)
  grind

/-- e.g. `NewSystemClock(log, 10*time.Microsecond)` (10 ppm) over 64 s. -/
example : (1 : Int) ≤ 10000 ∧ (10000 : Int) ≤ 1000000000 ∧ (0 : Int) < 64000000000 ∧
    (64000000000 : Int) < 2305843009213693952 := by decide

end ScionTime.C18
