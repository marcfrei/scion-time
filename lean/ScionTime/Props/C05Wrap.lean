/-
  C05 — "never an offset" at the level of the attempt wrappers and of the retry budget.

  * The attempt loop of `MeasureClockOffsetIP` / of the per-path goroutine of
    `MeasureClockOffsetSCION` (Model/ClientFlow.lean `wrapLoopCtx`), for EVERY sequence of context
    states (live / cancelled / deadline passed, changing between attempts in any way) and every
    sequence of per-attempt outcomes: a nil error means that at least one exchange ran, that one of
    those that ran succeeded, and that the timestamp and offset returned are those of the LAST
    successful attempt — never the zero values of the named results. An attempt entered with the
    deadline passed is an error. The variant that leaves the loop when the context is done is
    refuted (success, zero values, no exchange) and shown equal to the code when the context is
    live throughout (why it looks harmless).
  * The receive loop with its explicit retry counter over clock readings (`xLoop`): for every
    position of the counter, with and without a deadline, whatever the readings: an accepted
    response is a datagram of the delivered sequence that the loop body accepts — so with NTS
    enabled it passed `nts.DecodePacket` and `nts.ProcessResponse`. The variant in which the
    `ProcessResponse` site falls through when no retry is left is refuted for counter = 1 and for
    "no deadline".
  * Refusal sites: `siteIP` / `siteSCION` name the site at which a datagram is refused; they agree
    with the loop body (`classifyIP` / `classifySCION`).
-/
import ScionTime.Model.ClientFlow
import ScionTime.Gen.Client
import ScionTime.Proofs.ClientNtp
import ScionTime.Proofs.ClientWrap
namespace ScionTime.Props.C05Wrap
open ScionTime.Time64 ScionTime.NtpMath ScionTime.ClientNtp ScionTime.ClientFlow

/-- **The wrappers' result, whatever the context does.** For every sequence of context states and
    per-attempt outcomes (at least as many as the loop may start):
    * if one of the executed attempts succeeds, the result is (timestamp, offset, nil) of the LAST
      successful one;
    * otherwise the result is an error with zero timestamp and offset. -/
theorem C05W_result (il : Bool) (ins : List AttemptIn) (hlen : attempts il ≤ ins.length) :
    let r := (wrapCtx false il ins).1
    let res := (ins.take (attempts il)).map attemptResult
    (∀ t o, lastOk res = some (t, o) → r.ts = t ∧ r.off = o ∧ r.err = none) ∧
    (lastOk res = none → r.err ≠ none ∧ r.ts = 0 ∧ r.off = 0) := by
  intro r res
  rw [show r = _ from wrapCtx_result il ins]
  exact wrapLoop_result res (attemptResults_ne_nil hlen)

/-- **A nil error stems from a successful attempt that ran**: the returned values are those of
    an attempt of this call that ended with `(t, o, nil)` — in particular never the zero values
    of the named results unless an exchange really produced them. -/
theorem C05W_nil_error_from_success (il : Bool) (ins : List AttemptIn) (hlen : attempts il ≤ ins.length)
    (h : (wrapCtx false il ins).1.err = none) :
    ∃ b, Attempt.ok (wrapCtx false il ins).1.ts (wrapCtx false il ins).1.off b ∈
        (ins.take (attempts il)).map attemptResult ∧
      lastOk ((ins.take (attempts il)).map attemptResult) =
        some ((wrapCtx false il ins).1.ts, (wrapCtx false il ins).1.off) := by
  rw [wrapCtx_result] at h ⊢
  obtain ⟨hl, b, hb⟩ := wrapLoop_nil_error _ (attemptResults_ne_nil hlen) h
  exact ⟨b, hb, hl⟩

/-- an attempt entered after the deadline is an error (nothing is sent) -/
theorem C05W_expired_attempt_is_error (a : AttemptIn) (h : a.ctx = .expired) :
    attemptResult a = .err .other := by
  simp [attemptResult, h]

/-- **Context expired on entry ⇒ error.** When every attempt of the call is entered with the
    deadline passed, the wrapper returns an error and zero values — never `(zero, 0, nil)`. -/
theorem C05W_expired_on_entry_is_error (il : Bool) (ins : List AttemptIn) (hlen : attempts il ≤ ins.length)
    (hx : ∀ a ∈ ins.take (attempts il), a.ctx = .expired) :
    (wrapCtx false il ins).1.err ≠ none ∧ (wrapCtx false il ins).1.ts = 0 ∧ (wrapCtx false il ins).1.off = 0 := by
  apply (C05W_result il ins hlen).2
  apply lastOkGo_all_err
  intro x hxm
  obtain ⟨a, ha, rfl⟩ := List.mem_map.mp hxm
  exact ⟨.other, C05W_expired_attempt_is_error a (hx a ha)⟩

/-- at least one exchange is started, whatever the context -/
theorem C05W_runs_at_least_once (il : Bool) (ins : List AttemptIn) (hlen : attempts il ≤ ins.length) :
    1 ≤ (wrapCtx false il ins).2 :=
  (wrapCtx_exchanges il ins hlen).1

/-- non-vacuity: context live for the first attempt (answered), deadline passes in the second
    (read error), third entered after the deadline — the first attempt's values are returned. -/
example : wrapCtx false true [⟨.live, .ok 17 4 false⟩, ⟨.live, .err .read⟩, ⟨.expired, .ok 99 9 true⟩] =
    (⟨17, 4, none, 2⟩, 3) := by decide

/-- The variant `if ctx.Err() != nil { break }` at the head of the loop body: with a context that is
    done on entry (deadline passed, or cancelled) it returns the zero values of the named results
    with a nil error, without having started a single exchange — a successful measurement based
    on no datagram. The code (no break) returns an error for the expired context and runs the
    exchanges for the cancelled one. -/
theorem C05W_break_on_done_refuted :
    wrapCtx true true [⟨.expired, .ok 5 5 true⟩, ⟨.expired, .ok 5 5 true⟩, ⟨.expired, .ok 5 5 true⟩] = (⟨0, 0, none, 0⟩, 0) ∧
    wrapCtx true false [⟨.cancelled, .ok 5 5 false⟩] = (⟨0, 0, none, 0⟩, 0) ∧
    (wrapCtx false true [⟨.expired, .ok 5 5 true⟩, ⟨.expired, .ok 5 5 true⟩, ⟨.expired, .ok 5 5 true⟩]).1.err = some .other ∧
    wrapCtx false false [⟨.cancelled, .ok 5 5 false⟩] = (⟨5, 5, none, 0⟩, 1) := by decide

/-- why the variant looks harmless: with a context that is live at every attempt it is the code -/
theorem C05W_break_on_done_same_when_live (l : List AttemptIn) (hl : ∀ a ∈ l, a.ctx = .live) :
    ∀ (i : Nat) (s : WrapState), wrapLoopCtx true i s l = wrapLoopCtx false i s l := by
  induction l with
  | nil => intro i s; rfl
  | cons a rest ih =>
    intro i s
    have ha : a.ctx.done = false := by rw [hl a List.mem_cons_self]; rfl
    have ih' := ih (fun x hx => hl x (List.mem_cons_of_mem _ hx))
    simp only [wrapLoopCtx, ha, Bool.and_false, Bool.false_eq_true, if_false]
    cases attemptResult a with
    | ok t o b => cases b <;> simp [ih']
    | err e => simp [ih']

/-- `MeasureClockOffsetSCION` with one participating client: success only with the goroutine's
    nil-error result, whose values it returns — whatever the `select` of the collection step does. -/
theorem C05W_scion_one_participant (collected : Bool) (g : WrapState)
    (h : (scionWrap1 collected g).err = none) :
    g.err = none ∧ (scionWrap1 collected g).ts = g.ts ∧ (scionWrap1 collected g).off = g.off := by
  unfold scionWrap1 at *
  cases collected <;> cases hg : g.err <;> simp_all

example : (scionWrap1 true (wrapCtx false false [⟨.live, .ok 17 4 false⟩]).1).ts = 17 := by decide
example : (scionWrap1 false (wrapCtx false false [⟨.live, .ok 17 4 false⟩]).1).err = some .other := by decide

/-- the loop accepts only what its body accepts, from a datagram of the delivered sequence — for
    every value of the retry counter, every deadline (or none) and every sequence of clock
    readings. The receive time handed to the body is the kernel's or a clock reading (of `rd0`,
    any list that holds the readings the loop is given). -/
theorem xLoop_accepted {D : Type} (classify : Int → D → Step) (deadline : Option Int)
    (rd0 : List Int) (evs : List (XEvent D)) :
    ∀ (r n : Nat) (rd rd' : List Int) (a : Accepted) (m : Nat), (∀ x ∈ rd, x ∈ rd0) →
      xLoop (fun _ => classify) deadline r n rd evs = some (.accepted a m, rd') →
      ∃ d krx cRx, XEvent.dgram d krx ∈ evs ∧ classify cRx d = .accept a ∧
        (krx = some cRx ∨ (krx = none ∧ cRx ∈ rd0)) := by
  induction evs with
  | nil => intro r n rd rd' a m _ h; simp [xLoop] at h
  | cons e rest ih =>
    intro r n rd rd' a m hsub h
    have next : ∀ (rd1 rd2 : List Int) (b : Bool), (∀ x ∈ rd1, x ∈ rd0) →
        retryTest r deadline rd1 = some (b, rd2) →
        xLoop (fun _ => classify) deadline (r + 1) (n + 1) rd2 rest = some (.accepted a m, rd') →
        ∃ d krx cRx, XEvent.dgram d krx ∈ e :: rest ∧ classify cRx d = .accept a ∧
          (krx = some cRx ∨ (krx = none ∧ cRx ∈ rd0)) := by
      intro rd1 rd2 b hs hrt h
      obtain ⟨d, krx, cRx, hm, hk⟩ := ih _ _ _ _ _ _ (fun x hx => hs x (retryTest_sub hrt x hx)) h
      exact ⟨d, krx, cRx, List.mem_cons_of_mem _ hm, hk⟩
    cases e with
    | readErr | badFlags =>
      simp only [xLoop] at h
      split at h
      · cases h
      · exact next _ _ _ hsub (by assumption) h
      · cases h
    | dgram d krx =>
      simp only [xLoop] at h
      split at h
      · cases h
      · rename_i cRx rd1 hrx
        have hcRx : (krx = some cRx ∨ (krx = none ∧ cRx ∈ rd0)) ∧ ∀ x ∈ rd1, x ∈ rd0 := by
          cases krx with
          | some t => cases hrx; exact ⟨.inl rfl, hsub⟩
          | none =>
            cases rd with
            | nil => cases hrx
            | cons t tl =>
              cases hrx
              exact ⟨.inr ⟨rfl, (List.forall_mem_cons.mp hsub).1⟩, (List.forall_mem_cons.mp hsub).2⟩
        split at h
        · rename_i a' hc
          cases h
          exact ⟨d, krx, cRx, List.mem_cons_self, hc, hcRx.1⟩
        · cases h
        · cases h
        · rename_i e' hc
          split at h
          · cases h
          · exact next _ _ _ hcRx.2 (by assumption) h
          · -- no retry left: the body's verdict is asked again (it is the same: `.skip`)
            rw [hc] at h
            cases h

/-- **NTS: every accepted datagram passed `DecodePacket` and `ProcessResponse`** — IP client, for
    every position `r` of the retry counter, with a deadline or without, for every sequence of
    clock readings and events. -/
theorem C05W_nts_accepted_is_authenticated_ip (cfg : Cfg) (server : Nat) (prev : Prev) (req : Req) (cTx1 : Int)
    (deadline : Option Int) (r n : Nat) (rd rd' : List Int) (evs : List (XEvent IpDgram)) (a : Accepted) (m : Nat)
    (hnts : cfg.nts = true)
    (h : xLoop (fun _ cRx d => classifyIP cfg server prev req cTx1 cRx d) deadline r n rd evs = some (.accepted a m, rd')) :
    ∃ d krx, XEvent.dgram d krx ∈ evs ∧ d.src = server ∧
      d.payload.ntsDecodeOk = true ∧ d.payload.ntsUidEq = true ∧ d.payload.ntsOpenOk = true := by
  obtain ⟨d, krx, cRx, hm, hc, _⟩ := xLoop_accepted (fun cRx d => classifyIP cfg server prev req cTx1 cRx d) deadline rd evs r n rd rd' a m (fun _ hx => hx) h
  obtain ⟨hsrc, hst⟩ := classifyIP_accept cfg server prev req cTx1 cRx d a hc
  obtain ⟨_, hn, _⟩ := ntpStage_accept cfg prev req cTx1 cRx d.payload a hst
  obtain ⟨h1, h2, h3⟩ := hn hnts
  exact ⟨d, krx, hm, hsrc, h1, h2, h3⟩

/-- the same for the SCION client (13 refusal sites in front of the acceptance) -/
theorem C05W_nts_accepted_is_authenticated_scion (cfg : Cfg) (sc : ScionCtx) (prev : Prev) (req : Req) (cTx1 : Int)
    (deadline : Option Int) (r n : Nat) (rd rd' : List Int) (evs : List (XEvent ScionDgram)) (a : Accepted) (m : Nat)
    (hnts : cfg.nts = true)
    (h : xLoop (fun _ cRx d => classifySCION cfg sc prev req cTx1 cRx d) deadline r n rd evs = some (.accepted a m, rd')) :
    ∃ d krx, XEvent.dgram d krx ∈ evs ∧
      d.payload.ntsDecodeOk = true ∧ d.payload.ntsUidEq = true ∧ d.payload.ntsOpenOk = true := by
  obtain ⟨d, krx, cRx, hm, hc, _⟩ := xLoop_accepted (fun cRx d => classifySCION cfg sc prev req cTx1 cRx d) deadline rd evs r n rd rd' a m (fun _ hx => hx) h
  have hst := (classifySCION_accept cfg sc prev req cTx1 cRx d a hc).2.2.2.2.2.2.2.2.2
  obtain ⟨_, hn, _⟩ := ntpStage_accept cfg prev req cTx1 _ d.payload a hst
  obtain ⟨h1, h2, h3⟩ := hn hnts
  exact ⟨d, krx, hm, h1, h2, h3⟩

/-- **A refusal without a retry left ends the exchange with that site's error** — every refusal
    site, every position of the counter: when the body refuses the datagram (`.skip e`) and the retry
    test is negative (counter at `maxNumRetries`, or no deadline, or the reading not before the
    deadline), the loop returns `e`; nothing behind that datagram is looked at. -/
theorem C05W_refusal_without_retry_is_error {D : Type} (classify : Int → D → Step) (deadline : Option Int)
    (r n : Nat) (rd rd2 : List Int) (d : D) (cRx : Int) (e : ErrKind) (rest : List (XEvent D))
    (hc : classify cRx d = .skip e) (hr : retryTest r deadline rd = some (false, rd2)) :
    xLoop (fun _ => classify) deadline r n rd (.dgram d (some cRx) :: rest) = some (.error e (n + 1), rd2) := by
  simp [xLoop, hc, hr]

/-- the retry test is negative, without reading the clock, once the one retry is used up, and
    whenever the context carries no deadline -/
theorem C05W_no_retry_when_used_up_or_no_deadline (r : Nat) (deadline : Option Int) (rd : List Int)
    (h : r = maxNumRetries ∨ deadline = none) : retryTest r deadline rd = some (false, rd) := by
  unfold retryTest
  rcases h with h | h
  · simp [h]
  · subst h; split <;> rfl

/-! ### the variant: the `ProcessResponse` site falls through when no retry is left -/

/-- loop body of the IP client in the variant -/
def classifyIPFallThrough (cfg : Cfg) (server : Nat) (prev : Prev) (req : Req) (cTx1 : Int)
    (noRetryLeft : Bool) (cRx : Int) (d : IpDgram) : Step :=
  if d.src ≠ server then .skip .source else ntpStageNtsFallThrough cfg prev req cTx1 noRetryLeft cRx d.payload

def exNow : Int := 1700000000000000000
def exCfg : Cfg := ⟨.ip, false, true, true⟩
def exReq : Req := mkRequest exCfg Prev.init "S" exNow
/-- a well-formed server reply to `exReq` whose authenticator does not verify (`ntsOpenOk = false`) -/
def exForged : IpDgram :=
  ⟨7, ⟨228, ⟨36, 1, exReq.tx, ofTime (exNow + 100000), ofTime (exNow + 200000)⟩, true, true, false⟩⟩
def exRunt : IpDgram := ⟨7, ⟨10, ⟨0, 0, zero64, zero64, zero64⟩, false, false, false⟩⟩

/-- **Refuted**: as SECOND refused datagram of an exchange (retry used up) and as FIRST datagram of
    an exchange without deadline, a reply that fails `ProcessResponse` is accepted by the variant;
    the code returns the `ProcessResponse` error in both cases, and both skip it when a retry is left. -/
theorem C05W_nts_fall_through_refuted :
    -- second refusal, with a deadline
    (xLoop (classifyIPFallThrough exCfg 7 Prev.init exReq (exNow + 10)) (some (exNow + 1000000000)) 0 0
        [exNow + 300000] [.dgram exRunt (some (exNow + 250000)), .dgram exForged (some (exNow + 400000))]).map (·.1.hasOffset) = some true ∧
    (xLoop (fun _ => classifyIP exCfg 7 Prev.init exReq (exNow + 10)) (some (exNow + 1000000000)) 0 0
        [exNow + 300000] [.dgram exRunt (some (exNow + 250000)), .dgram exForged (some (exNow + 400000))]).map (·.1) = some (.error .ntsProcess 2) ∧
    -- no deadline: the first refusal is final
    (xLoop (classifyIPFallThrough exCfg 7 Prev.init exReq (exNow + 10)) none 0 0
        [] [.dgram exForged (some (exNow + 400000))]).map (·.1.hasOffset) = some true ∧
    (xLoop (fun _ => classifyIP exCfg 7 Prev.init exReq (exNow + 10)) none 0 0
        [] [.dgram exForged (some (exNow + 400000))]).map (·.1) = some (.error .ntsProcess 1) ∧
    -- first refusal with a deadline: skipped by both, the exchange ends with the read error
    (xLoop (classifyIPFallThrough exCfg 7 Prev.init exReq (exNow + 10)) (some (exNow + 1000000000)) 0 0
        [exNow + 450000] [.dgram exForged (some (exNow + 400000)), .readErr]).map (·.1) = some (.error .read 2) := by
  decide

/-- `siteIP` names the refusal site of the IP loop body: the body's verdict is "skip with that
    site's error" exactly when a site is named -/
theorem C05W_site_ip (cfg : Cfg) (server : Nat) (prev : Prev) (req : Req) (cTx1 cRx : Int) (d : IpDgram) :
    (∀ s, siteIP cfg server req d = some s → classifyIP cfg server prev req cTx1 cRx d = .skip s.err ∧ s ∈ ipSites) ∧
    (siteIP cfg server req d = none → ∀ e, classifyIP cfg server prev req cTx1 cRx d ≠ .skip e) := by
  have hn := siteNtp_agrees cfg prev req cTx1 cRx d.payload
  unfold siteIP classifyIP
  by_cases hs : d.src ≠ server
  · rw [if_pos hs, if_pos hs]
    exact ⟨fun _ h => by cases h; exact ⟨rfl, by decide⟩, nofun⟩
  · rw [if_neg hs, if_neg hs]
    exact ⟨fun s h => ⟨(hn.1 s h).1, (hn.1 s h).2.1⟩, hn.2⟩

/-- `siteSCION` names the refusal site of the SCION loop body among its 13 sites (`read` and `flags`
    are the loop's own) -/
theorem C05W_site_scion (cfg : Cfg) (sc : ScionCtx) (prev : Prev) (req : Req) (cTx1 cRx : Int) (d : ScionDgram) :
    (∀ s, siteSCION cfg sc req d = some s → classifySCION cfg sc prev req cTx1 cRx d = .skip s.err ∧ s ∈ scionSites) ∧
    (siteSCION cfg sc req d = none → ∀ e, classifySCION cfg sc prev req cTx1 cRx d ≠ .skip e) := by
  have hn := siteNtp_agrees cfg prev req cTx1 (scionRxTime d cTx1 cRx) d.payload
  rcases classifySCION_cases cfg sc prev req cTx1 cRx d with ⟨s, hs, hm, hc⟩ | ⟨hs, hc, _⟩
  · rw [hs, hc]
    exact ⟨fun _ h => by cases h; exact ⟨rfl, hm⟩, nofun⟩
  · rw [hs, hc]
    exact ⟨fun s h => ⟨(hn.1 s h).1, (hn.1 s h).2.2⟩, hn.2⟩

example : scionSites.length = 13 ∧ ipSites.length = 7 := by decide

/-- **Pin** (regenerated from core/client/client.go on every run, `harness/extract/x_c03c05c10c11.go`):
    both attempt loops run over `range n` and their only way out other than running to the end is the
    `break` behind `e == nil && ntpc.InInterleavedMode()` — no exit that depends on the context. -/
theorem C05W_pin_attempt_loops :
    Gen.Client.attemptLoopRangeIP = "n" ∧ Gen.Client.attemptLoopRangeSCION = "n" ∧
    Gen.Client.attemptLoopExitsIP = "break if e == nil && ntpc.InInterleavedMode()" ∧
    Gen.Client.attemptLoopExitsSCION = "break if e == nil && ntpc.InInterleavedMode()" := ⟨rfl, rfl, rfl, rfl⟩

end ScionTime.Props.C05Wrap
