/-
  C03 — where the client's transmit timestamp comes from, and what that means for the pairing of
  timestamps and for the half round-trip bound (Model/ClientFlow.lean: `txTime`, `txReadings`).

  `cTxTime1` is the kernel's transmit timestamp when `udp.ReadTXTimestamp` delivers one with id 0;
  otherwise (error, or another id) it is a reading of the process clock. As repaired that reading is
  taken right BEFORE the request is handed to the kernel (`cTxTimeFallback`), after the reading
  `cTxTime0` the request's own wire timestamp is made from.

  * `prev.cTxTime` after an accepted exchange is `Time64FromTime(cTxTime1)`, and the wire
    TransmitTime of the next interleaved request is exactly that value.
  * What the fallback guarantees: whenever the clock advanced between the two readings (and they
    are less than one NTP era apart) the next interleaved request's TransmitTime differs from the
    previous basic request's TransmitTime, and from its own ReceiveTime field. Hence every
    datagram that echoes the PREVIOUS request's transmit timestamp — in particular a duplicate of
    the previous response delivered to the new exchange — is refused (skip, one retry), never
    evaluated. With a clock that stands still between the two readings nothing is guaranteed.
  * The variant that falls back to `cTxTime0` itself is refuted: the duplicate is accepted and
    the tuple mixes two exchanges.
  * Half round-trip bound for client timestamps that ENCLOSE the exchange (transmit stamp not
    after the departure, receive stamp not before the arrival): the property's bound holds with
    the round-trip delay the client computes. The fallback as it was before the `fix:` commit (a
    reading ≥ 1 ms after the departure) is outside this and violates the bound on a fast link
    (decided instance with the numbers observed on loopback); with a kernel receive timestamp it
    trips the `panic` of `ValidateResponseTimestamps`.
-/
import ScionTime.Model.ClientFlow
import ScionTime.Gen.Client
import ScionTime.Proofs.ClientNtp
namespace ScionTime.Props.C03Tx
open ScionTime.Time64 ScionTime.NtpMath ScionTime.ClientNtp ScionTime.ClientFlow

/-- less than one NTP era apart (with a second to spare) -/
def Near (a b : Int) : Prop := b - a < 4294967296 * 1000000000 - 1000000000

/-- `Time64FromTime` separates two instants less than one era (minus a second) apart. -/
theorem C03Tx_ofTime_ne_of_lt (a b : Int) (hab : a < b) (hr : Near a b) :
    ofTime a ≠ ofTime b := by
  intro h
  unfold Near at hr
  have hs := congrArg T64.sec h
  have hf := congrArg T64.frac h
  simp only [ofTime, unixSec, nanosecond, epoch, era, nsPerSec] at hs hf
  have h2 : 0 ≤ b / 1000000000 - a / 1000000000 ∧ b / 1000000000 - a / 1000000000 < 4294967296 := by omega
  have hsec : a / 1000000000 = b / 1000000000 := by omega
  have hns : a % 1000000000 < b % 1000000000 := by omega
  omega

/-- **Which value becomes `cTxTime1`** (code as repaired): the kernel's stamp iff the read succeeded
    with id 0; in every other case the second clock reading, which is taken before the write.
    Two readings are consumed before the request is sent in either case. -/
theorem C03Tx_acquisition (now pre : Int) (rest : List Int) :
    (∀ t, txReadings .preSend (.kernel t 0) (now :: pre :: rest) = some (now, t, rest)) ∧
    (∀ t id, id ≠ 0 → txReadings .preSend (.kernel t id) (now :: pre :: rest) = some (now, pre, rest)) ∧
    txReadings .preSend .failed (now :: pre :: rest) = some (now, pre, rest) ∧
    TxFallback.readingsBeforeSend .preSend = 2 := by
  refine ⟨fun t => rfl, ?_, rfl, rfl⟩
  intro t id hid
  cases id with
  | zero => exact absurd rfl hid
  | succ k => rfl

/-- **What is stored, and what the next request carries**: after an accepted exchange of a client in
    interleaved mode `prev.cTxTime = Time64FromTime(cTxTime1)`, and an interleaved next request has
    exactly this value as its wire TransmitTime (a basic one has `Time64FromTime` of its own first
    reading). -/
theorem C03Tx_stored_and_next_wire (cfg : Cfg) (prev : Prev) (reference : String) (cTx1 : Int) (a : Accepted)
    (hil : cfg.interleavedMode = true) (now' : Int) :
    (updatePrev cfg prev reference cTx1 a).cTx = ofTime cTx1 ∧
    ((mkRequest cfg (updatePrev cfg prev reference cTx1 a) reference now').interleaved = true →
      (mkRequest cfg (updatePrev cfg prev reference cTx1 a) reference now').tx = ofTime cTx1 ∧
      (mkRequest cfg (updatePrev cfg prev reference cTx1 a) reference now').rx = ofTime a.cRx) ∧
    ((mkRequest cfg (updatePrev cfg prev reference cTx1 a) reference now').interleaved = false →
      (mkRequest cfg (updatePrev cfg prev reference cTx1 a) reference now').tx = ofTime now') := by
  have hp : updatePrev cfg prev reference cTx1 a =
      { reference := reference, interleaved := a.il, cTx := ofTime cTx1, cRx := ofTime a.cRx, sRx := a.sRx64 } := by
    simp [updatePrev, hil]
  refine ⟨by rw [hp], ?_, ?_⟩
  · intro h
    obtain ⟨_, _, _, h4, h5⟩ := mkRequest_interleaved _ _ _ _ h
    rw [h4, h5, hp]
    exact ⟨rfl, rfl⟩
  · exact mkRequest_basic_tx _ _ _ _

/-- **The next interleaved request does not repeat the previous basic request's TransmitTime**
    whenever the transmit time stored lies after the reading the previous request was stamped with.
    In the fallback (`txReadings .preSend` with a failed read) `cTx1` is the second clock reading:
    the hypothesis is "the clock advanced between the two readings". -/
theorem C03Tx_next_tx_differs (cfg : Cfg) (prev : Prev) (reference : String) (nowK cTx1 : Int) (a : Accepted)
    (hil : cfg.interleavedMode = true) (now' : Int)
    (hbasic : (mkRequest cfg prev reference nowK).interleaved = false)
    (hadv : nowK < cTx1) (hnear : Near nowK cTx1)
    (hnext : (mkRequest cfg (updatePrev cfg prev reference cTx1 a) reference now').interleaved = true) :
    (mkRequest cfg (updatePrev cfg prev reference cTx1 a) reference now').tx ≠ (mkRequest cfg prev reference nowK).tx := by
  have h1 := (C03Tx_stored_and_next_wire cfg prev reference cTx1 a hil now').2.1 hnext
  rw [h1.1, mkRequest_basic_tx _ _ _ _ hbasic]
  exact fun h => C03Tx_ofTime_ne_of_lt nowK cTx1 hadv hnear h.symm

/-- **A duplicate of the previous response cannot match.** Exchange k was basic (its request
    carried `Time64FromTime(nowK)`), was accepted and stored `cTx1`, `a.cRx`; both lie after `nowK`
    (the clock advanced; less than an era). Then in the next exchange, if its request is an
    interleaved one, EVERY payload whose origin timestamp is the previous request's transmit
    timestamp — a duplicate of the previous response, whatever else it carries — is refused at a
    refusal site: it is skipped (costing the one retry) or ends the exchange with an error, and is
    never evaluated. No assumption on where the datagram comes from or on which socket it arrives. -/
theorem C03Tx_duplicate_of_previous_response_refused (cfg : Cfg) (prev : Prev) (reference : String)
    (nowK cTx1 : Int) (a : Accepted) (hil : cfg.interleavedMode = true) (now' cTx1' cRx' : Int) (p : Payload)
    (hadv : nowK < cTx1) (hnear : Near nowK cTx1) (hrx : nowK < a.cRx) (hnear' : Near nowK a.cRx)
    (hnext : (mkRequest cfg (updatePrev cfg prev reference cTx1 a) reference now').interleaved = true)
    (hdup : p.pkt.origin = ofTime nowK) :
    ∃ e, ntpStage cfg (updatePrev cfg prev reference cTx1 a)
        (mkRequest cfg (updatePrev cfg prev reference cTx1 a) reference now') cTx1' cRx' p = .skip e := by
  obtain ⟨htx, hrxf⟩ := (C03Tx_stored_and_next_wire cfg prev reference cTx1 a hil now').2.1 hnext
  have n1 : ofTime nowK ≠ ofTime cTx1 := C03Tx_ofTime_ne_of_lt _ _ hadv hnear
  have n2 : ofTime nowK ≠ ofTime a.cRx := C03Tx_ofTime_ne_of_lt _ _ hrx hnear'
  rcases ntpStage_cases cfg (updatePrev cfg prev reference cTx1 a)
      (mkRequest cfg (updatePrev cfg prev reference cTx1 a) reference now') cTx1' cRx' p with
    ⟨s, _, _, hs⟩ | ⟨_, _, _, _, ho⟩
  · exact ⟨_, hs⟩
  · rw [hdup, htx, hrxf] at ho
    rcases ho with ⟨_, ho⟩ | ho
    · exact absurd ho n2
    · exact absurd ho n1

/-- the same at the level of the IP loop body -/
theorem C03Tx_duplicate_refused_ip (cfg : Cfg) (server : Nat) (prev : Prev) (reference : String)
    (nowK cTx1 : Int) (a : Accepted) (hil : cfg.interleavedMode = true) (now' cTx1' cRx' : Int) (d : IpDgram)
    (hadv : nowK < cTx1) (hnear : Near nowK cTx1) (hrx : nowK < a.cRx) (hnear' : Near nowK a.cRx)
    (hnext : (mkRequest cfg (updatePrev cfg prev reference cTx1 a) reference now').interleaved = true)
    (hdup : d.payload.pkt.origin = ofTime nowK) :
    ∃ e, classifyIP cfg server (updatePrev cfg prev reference cTx1 a)
        (mkRequest cfg (updatePrev cfg prev reference cTx1 a) reference now') cTx1' cRx' d = .skip e := by
  unfold classifyIP
  split
  · exact ⟨_, rfl⟩
  · exact C03Tx_duplicate_of_previous_response_refused cfg prev reference nowK cTx1 a hil now' cTx1' cRx' d.payload
      hadv hnear hrx hnear' hnext hdup

/-! ### a concrete history: basic exchange, then an interleaved request meeting a duplicate -/

def t0K : Int := 1700000000000000000
def cfgIL : Cfg := ⟨.ip, true, false, true⟩
/-- exchange k: basic request stamped `t0K`; the server (clock 5 s ahead) answers -/
def respK : Payload :=
  ⟨48, ⟨36, 1, ofTime t0K, ofTime (t0K + 5000100000), ofTime (t0K + 5000110000)⟩, false, false, false⟩
/-- exchange k as the client sees it with the transmit time `cTx1`, receive reading 250 µs later -/
def stepK (cTx1 : Int) : Step :=
  ntpStage cfgIL Prev.init (mkRequest cfgIL Prev.init "S" t0K) cTx1 (t0K + 250000) respK
def prevAfterK (cTx1 : Int) : Prev :=
  match stepK cTx1 with
  | .accept a => updatePrev cfgIL Prev.init "S" cTx1 a
  | _ => Prev.init
/-- the next exchange, one second later: loop body's verdict on a duplicate of `respK` -/
def dupVerdict (cTx1 : Int) : Step :=
  ntpStage cfgIL (prevAfterK cTx1) (mkRequest cfgIL (prevAfterK cTx1) "S" (t0K + 1000000000))
    (t0K + 1000020000) (t0K + 1000300000) respK

/-- non-vacuity: with the fallback reading 20 µs after the first reading, exchange k is accepted,
    the next request is an interleaved one, and the duplicate of response k is skipped -/
example : (stepK (t0K + 20000)).isAccept = true ∧
    (mkRequest cfgIL (prevAfterK (t0K + 20000)) "S" (t0K + 1000000000)).interleaved = true ∧
    dupVerdict (t0K + 20000) = .skip .unexpected := by decide

/-- **The variant that falls back to `cTxTime0` is refuted**: `prev.cTxTime` is then the previous
    request's own wire timestamp, the next interleaved request repeats it, and the duplicate of the
    previous response passes the origin check as a basic response: the client evaluates
    `t0, t3` of the new exchange with `t1, t2` of the old one — an offset of about 4 s where the
    true offset is 5 s and the round trip took 0.3 ms. -/
theorem C03Tx_request_reading_variant_refuted :
    txReadings .requestReading .failed [t0K, t0K + 250000] = some (t0K, t0K, [t0K + 250000]) ∧
    (mkRequest cfgIL (prevAfterK t0K) "S" (t0K + 1000000000)).tx = (mkRequest cfgIL Prev.init "S" t0K).tx ∧
    (match dupVerdict t0K with
     | .accept a => a.il == false && a.t0 == t0K + 1000020000 && a.t1 == t0K + 5000099999 && a.t3 == t0K + 1000300000 &&
         a.offset.toInt == 3999944999
     | _ => false) = true := by decide

/-- **Enclosing timestamps.** `T0..T3` true instants with `T1 = T0 + d1 + θ`, `T3 = T2 + d2 − θ`,
    `d1, d2 ≥ 0`; the server's stamps are exact up to the wire format (1 ns), the client's
    transmit stamp is NOT AFTER the departure (`t0 ≤ T0`) and its receive stamp NOT BEFORE the
    arrival up to the wire format (`T3 − 1 ≤ t3`): the offset formula is within half the computed
    round-trip delay + 1.5 ns of `θ`. This is what the fallback readings are for: the reading
    before the write and the reading after the read enclose the exchange. -/
theorem C03Tx_half_rtt_enclosed (T0 T1 T2 T3 d1 d2 θ t0 t1 t2 t3 : Int)
    (h1 : T1 = T0 + d1 + θ) (h3 : T3 = T2 + d2 - θ) (hd1 : 0 ≤ d1) (hd2 : 0 ≤ d2)
    (r0 : t0 ≤ T0) (r1 : T1 - 1 ≤ t1 ∧ t1 ≤ T1) (r2 : T2 - 1 ≤ t2 ∧ t2 ≤ T2) (r3 : T3 - 1 ≤ t3) :
    2 * (clockOffset t0 t1 t2 t3 - θ) ≤ roundTripDelay t0 t1 t2 t3 + 3 ∧
    2 * (θ - clockOffset t0 t1 t2 t3) ≤ roundTripDelay t0 t1 t2 t3 + 3 :=
  offset_half_rtt_enclosed T0 T1 T2 T3 d1 d2 θ t0 t1 t2 t3 h1 h3 hd1 hd2 r0 r1 r2 r3

example : ∃ T0 T1 T2 T3 d1 d2 θ t0 t1 t2 t3 : Int,
    T1 = T0 + d1 + θ ∧ T3 = T2 + d2 - θ ∧ 0 ≤ d1 ∧ 0 ≤ d2 ∧ t0 ≤ T0 ∧ (T1 - 1 ≤ t1 ∧ t1 ≤ T1) ∧
    (T2 - 1 ≤ t2 ∧ t2 ≤ T2) ∧ T3 - 1 ≤ t3 ∧ t0 < T0 ∧ T3 < t3 :=
  ⟨1000, 1060, 1070, 1120, 50, 60, 10, 980, 1060, 1070, 1150, by decide⟩

/-- **Before the `fix:` commit** the fallback was a reading taken after `ReadTXTimestamp` had given
    up (poll timeout 1 ms). With the delays observed on loopback — request received 75 µs after it
    left, reply back 100 µs later, fallback reading 1.16 ms after the departure, receive reading
    after that — the hypotheses of the bound hold for the true instants, the client's transmit
    stamp is after the departure, and the bound fails: error 0.57 ms against half a computed
    round-trip delay of 10 µs (θ = 0). -/
theorem C03Tx_old_fallback_breaks_bound :
    txReadings .postPoll .failed [0, 1164443, 1200000] = some (0, 1164443, [1200000]) ∧
    ¬ (2 * (0 - clockOffset 1164443 75000 95000 1200000) ≤ roundTripDelay 1164443 75000 95000 1200000 + 3) ∧
    -- the repaired fallback on the same exchange: reading 30 µs after the first, before the write
    (2 * (0 - clockOffset 30000 75000 95000 1200000) ≤ roundTripDelay 30000 75000 95000 1200000 + 3 ∧
     2 * (clockOffset 30000 75000 95000 1200000 - 0) ≤ roundTripDelay 30000 75000 95000 1200000 + 3) := by decide

/-- … and when the kernel does deliver a receive timestamp (reply received 175 µs after the
    departure) the old fallback makes `t3 < t0`: `ValidateResponseTimestamps` panics. -/
theorem C03Tx_old_fallback_panics_on_fast_link :
    validateTimestamps 1164443 75000 95000 175000 = .panic ∧
    validateTimestamps 30000 75000 95000 175000 = .ok := by decide

/-- **Pin** (regenerated from client_ip.go / client_scion.go on every run): the value that replaces a
    missing kernel transmit timestamp is defined as `timebase.Now()` at a point BEFORE the write
    (`TxFallback.preSend`). -/
theorem C03Tx_pin_fallback :
    Gen.Client.txFallbackIP = "timebase.Now()@before-write" ∧ Gen.Client.txFallbackSCION = "timebase.Now()@before-write" :=
  ⟨rfl, rfl⟩

end ScionTime.Props.C03Tx
