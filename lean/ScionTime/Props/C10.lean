/-
  C10 — NTS authentication is sound: only untampered packets under the right key pass.
  Models: ScionTime/Model/Nts.lean, Cookies.lean. The AEAD is a parameter: soundness theorems say
  *which* key, nonce, ciphertext and associated bytes the code hands to `Open`; completeness
  holds for every AEAD with the round-trip law. That a forged tag does not verify is the AEAD's
  strength — assumed, and tested by the correspondence harness on every mutation.
-/
import ScionTime.Proofs.NtsReply
import ScionTime.Proofs.NtsSound
import ScionTime.Gen.Nts
namespace ScionTime.C10
open ScionTime.Nts

theorem C10_pin_ntpPacketLen : Gen.Nts.ntpPacketLen = (ntpPacketLen : Int) := by decide
theorem C10_pin_extAuthenticator : Gen.Nts.extAuthenticator = (extAuthenticator : Int) := by decide

/-- **auth_sound.** A server accepts a request (`ProcessRequest` returns nil) only if the
    authenticator verifies: `Open` succeeded under *the given key* (the C2S key the listener took
    from the cookie), with the nonce and ciphertext the decoder extracted, over *exactly*
    `b[0 : pos]` — all bytes that precede the authenticator field; the key has a valid size, the nonce
    16 bytes, and the unique identifier at least 32 bytes. -/
theorem C10_auth_sound (A : AEAD) (b key : Bytes) (d : Decoded) (cs : List Bytes)
    (h : processRequest A b key d = .ok cs) :
    keyOk key = true ∧ d.nonce.length = 16 ∧ 32 ≤ d.uid.length ∧
      ∃ pt, A.openF key d.nonce d.ct (some (b.take d.pos)) = some pt := by
  obtain ⟨hu, _, ha⟩ := processRequest_ok_inv A b key d cs h
  obtain ⟨hk, hn, pt, ho, _⟩ := authenticate_ok A b key d cs ha
  exact ⟨hk, hn, hu, pt, ho⟩

/-- **resp_needs_uid.** A client accepts a response only if its unique identifier equals that
    of the outstanding request *and* the authenticator verifies under the given (S2C) key over
    the bytes preceding it. -/
theorem C10_resp_needs_uid (A : AEAD) (b key : Bytes) (d : Decoded) (reqId : Bytes) (cs : List Bytes)
    (h : processResponse A b key d reqId = .ok cs) :
    d.uid = reqId ∧ keyOk key = true ∧ d.nonce.length = 16 ∧
      ∃ pt, A.openF key d.nonce d.ct (some (b.take d.pos)) = some pt := by
  unfold processResponse processResponseG at h
  by_cases hu : reqId = d.uid
  · simp only [hu, ne_eq, not_true_eq_false, if_false] at h
    obtain ⟨hk, hn, pt, ho, _⟩ := authenticate_ok A b key d cs h
    exact ⟨hu.symm, hk, hn, pt, ho⟩
  · simp [hu] at h

/-- The position handed to the AEAD really is where the decoder found the authenticator: if
    `DecodePacket` succeeds then `b = pre ++ a` with `pos = |pre| ≥ 48`, `a` starts with the
    authenticator type and the nonce / ciphertext come from `a` (so the associated data `b[:pos]`
    is *everything* before the authenticator, and nothing after `pos` is trusted without the tag). -/
theorem C10_authPos (b : Bytes) (d : Decoded) (h : decodePacket b = .ok d) :
    ∃ pre x y z w body, b = pre ++ x :: y :: z :: w :: body ∧ d.pos = pre.length ∧ ntpPacketLen ≤ pre.length ∧
      b.take d.pos = pre ∧ u16 x y = extAuthenticator ∧ unpackAuth body = .ok (d.nonce, d.ct) := by
  obtain ⟨pre, x, y, z, w, body, hr, hp, ht, hu⟩ := decLoop_auth_inv _ _ _ _ _ _ _ (decodePacket_ok true b d h)
  have hlen : ntpPacketLen ≤ b.length := by
    apply Nat.le_of_not_lt
    intro hc
    rw [List.drop_of_length_le (by omega)] at hr
    cases pre <;> cases hr
  have htk : (b.take ntpPacketLen).length = ntpPacketLen := by rw [List.length_take]; omega
  have hb : b = (b.take ntpPacketLen ++ pre) ++ x :: y :: z :: w :: body := by
    rw [List.append_assoc, ← hr, List.take_append_drop]
  have h48 : ntpPacketLen ≤ (b.take ntpPacketLen ++ pre).length := by
    rw [List.length_append, htk]; omega
  generalize b.take ntpPacketLen ++ pre = pre' at hb h48
  subst hb
  have hpos : d.pos = pre'.length := by
    rw [hp]; simp
  exact ⟨pre', x, y, z, w, body, rfl, hpos, h48, by rw [hpos]; exact List.take_left' rfl, ht, hu⟩

/-- **auth_complete (requests).** For every AEAD with the round-trip law (and SIV's size law),
    every well-formed request the encoder can produce (identifier ≥ 32 bytes, aligned lengths, a
    first cookie, no encrypted fields, fits `MaxPacketLen`): it decodes, and `ProcessRequest`
    under the key it was sealed with accepts it, returning exactly its cookies. -/
theorem C10_auth_complete_request (A : AEAD) (hl : A.Lawful) (hs : A.Sized) (hdr : Bytes) (p : Packet) (nonce : Bytes)
    (hh : hdr.length = ntpPacketLen) (wf : WellFormed p) (fit : packetLen p ≤ maxPacketLen)
    (hn : nonce.length = 16) (hpt : p.pt = []) (hc : p.cookies ≠ []) :
    ∃ b d, encodePacket A hdr p nonce = .ok b ∧ decodePacket b = .ok d ∧
      processRequest A b p.key d = .ok p.cookies := by
  obtain ⟨b, he0, he, _, hd⟩ := encode_decode A hs hdr p nonce hh wf fit hn
  refine ⟨b, _, he0, hd, ?_⟩
  have hu : ¬ (p.uid.length < 32) := by have := wf.uid32; omega
  obtain ⟨c, cs, hcs⟩ := List.exists_cons_of_ne_nil hc
  have hca : c.length % 4 = 0 := wf.cA c (by simp [hcs])
  have hua := wf.uidA
  have hmax : ¬ (maxNumCookies p.uid.length c.length < 1) := by
    unfold packetLen ntpPacketLen maxPacketLen at fit
    rw [hcs] at fit
    simp only [fieldsLen] at fit
    unfold maxNumCookies maxPacketLen ntpPacketLen
    rw [pad4_aligned _ hca, pad4_aligned _ hua]
    exact Nat.not_lt.mpr ((Nat.le_div_iff_mul_le (by omega)).mpr (by omega))
  unfold processRequest processRequestG authenticateG
  have hk : (!keyOk p.key) = false := by simp [wf.key]
  simp only [Bool.true_and, hu, decide_false, Bool.false_eq_true, if_false, noRoomForCookie, hcs, hmax, hk,
    hn, ne_eq, not_true_eq_false, openC, bind, Res.bind]
  rw [he, List.take_left' rfl, hl]
  simp [hpt, ptLoop]

/-- **auth_complete (responses).** A response as the server builds it — no plain extension
    fields besides the identifier, the fresh cookies packed as cookie fields into the encrypted
    plaintext (aligned, at least 24 bytes each, fitting `MaxPacketLen`) — decodes, and
    `ProcessResponse` under the sealing key and with the request's identifier accepts it and
    recovers exactly the encrypted cookies, in order. -/
theorem C10_auth_complete_response (A : AEAD) (hl : A.Lawful) (hs : A.Sized) (hdr uid key nonce : Bytes) (cs : List Bytes)
    (hh : hdr.length = ntpPacketLen) (hu32 : 32 ≤ uid.length) (hua : uid.length % 4 = 0)
    (hk : keyOk key = true) (hn : nonce.length = 16) (hca : Aligned cs) (hlong : Long cs)
    (fit : ntpPacketLen + (4 + uid.length) + (40 + fieldsLen cs) ≤ maxPacketLen) :
    ∃ b d, encodePacket A hdr ⟨uid, [], [], key, fields extCookie cs⟩ nonce = .ok b ∧ decodePacket b = .ok d ∧
      processResponse A b key d uid = .ok cs :=
  response_complete A hl hs hdr uid key nonce cs hh hu32 hua hk hn hca hlong fit

/-- **cookie_roundtrip.** For every AEAD with the round-trip law: a cookie sealed under a server
    key (valid size, 16-byte nonce; algorithm and key lengths within the 16-bit length fields)
    survives the wire encoding and opens under the same key to exactly the sealed algorithm and
    keys. -/
theorem C10_cookie_roundtrip (A : AEAD) (hl : A.Lawful) (c : Triple) (key nonce : Bytes) (keyid : Nat)
    (hk : keyOk key = true) (hn : nonce.length = 16)
    (hnum : c.num < 65536) (hx : c.x.length < 65536) (hy : c.y.length < 65536)
    (hct : (A.sealF key nonce (scEncode c) none).length < 65536) :
    ∃ ec, encryptCookie A c key keyid nonce = .ok ec ∧ ecDecode (ecEncode ec) = .ok ec ∧
      decryptCookie A ec key = .ok c := by
  exact ⟨_, encryptCookie_ok A c key keyid nonce hk hn, cookie_roundtrip A hl c key nonce keyid hk hn hnum hx hy hct⟩

/-- A cookie opens only under the key it is presented with: `Decrypt` succeeds only if `Open`
    succeeded under that key on the cookie's own nonce and ciphertext (no associated data), and the
    result is the decoding of that plaintext. -/
theorem C10_cookie_sound (A : AEAD) (ec : Triple) (key : Bytes) (c : Triple)
    (h : decryptCookie A ec key = .ok c) :
    keyOk key = true ∧ ec.x.length = 16 ∧
      ∃ pt, A.openF key ec.x ec.y none = some pt ∧ scDecode pt = .ok c :=
  decryptCookie_ok A ec key c h

/-- a toy AEAD satisfying both laws (tag = 16 zero bytes): the hypotheses are satisfiable. -/
def toyAEAD : AEAD where
  sealF _ _ p _ := p ++ zeros 16
  openF _ _ c _ := some (c.take (c.length - 16))

example : toyAEAD.Sized ∧ toyAEAD.Lawful :=
  ⟨by intro k n p ad; simp [toyAEAD], by intro k n p ad; simp [toyAEAD]⟩

def samplePacket : Packet :=
  { uid := zeros 32, cookies := [List.replicate 124 7], placeholders := [zeros 124, zeros 124], key := zeros 32, pt := [] }

set_option maxRecDepth 20000 in
/-- the hypotheses of `C10_auth_complete_request` are met by a packet of the project's shape -/
example : WellFormed samplePacket ∧ packetLen samplePacket ≤ maxPacketLen ∧ samplePacket.pt = [] ∧ samplePacket.cookies ≠ [] := by
  refine ⟨⟨by decide, by decide, ?_, ?_, by decide, by decide⟩, by decide, rfl, by decide⟩
  · intro v hv; simp [samplePacket] at hv; subst hv; decide
  · intro v hv; simp [samplePacket] at hv; subst hv; decide

/-- F16 at the pinned commit, for *every* AEAD: a well-formed cookie whose nonce TLV is empty
    makes `Decrypt` panic inside the library (listener crash); after the fix it is an error. -/
theorem C10_cookie_nonce_length_old (A : AEAD) (ct : Bytes) :
    decryptCookieOld A ⟨1, [], ct⟩ (zeros 32) = .panic .nonceLen ∧
    decryptCookie A ⟨1, [], ct⟩ (zeros 32) = .err .nonceLen := by
  constructor <;> rfl

/-- F16, authenticator: a 15-byte nonce. -/
theorem C10_auth_nonce_length_old (A : AEAD) (b : Bytes) (d : Decoded) (h : d.nonce.length = 15) :
    authenticateG false A b (zeros 32) d = .panic .nonceLen ∧
    authenticateG true A b (zeros 32) d = .err .nonceLen := by
  simp [authenticateG, keyOk, zeros, openC, h, bind, Res.bind]

/-! ### earlier results stay what they were (no shared state between calls) -/

/-- **calls_independent.** In a sequence of `Decrypt` / `Decode` / `ProcessRequest` /
    `ProcessResponse` calls whose results are all looked at after the last call, the i-th result
    is the result of that call alone: it depends only on that call's own arguments (for `Decrypt`:
    key and cookie), not on the calls before or after it. (The model is a pure function, so this is
    what the correspondence op `seq.run` compares the real code against: there, results are
    rendered only after the last call.) -/
theorem C10_calls_independent (A : AEAD) (cs : List Call) (i : Nat) :
    (runCalls A cs)[i]? = (cs[i]?).map (Call.run A) := by
  simp [runCalls]

/-- …in particular inserting or removing other calls around a call does not change its result. -/
theorem C10_calls_frame (A : AEAD) (pre post pre' post' : List Call) (c : Call) :
    (runCalls A (pre ++ c :: post))[pre.length]? = (runCalls A (pre' ++ c :: post'))[pre'.length]? := by
  simp [runCalls]

/-- **cookie_roundtrip_interleaved.** For every lawful AEAD: the cookies of two associations
    (sealed under server keys `keyA`, `keyB`, which may be the same key) opened alternately —
    A, B, A — yield A's, B's and again A's sealed algorithm and keys, all still intact after the
    last call. -/
theorem C10_cookie_roundtrip_interleaved (A : AEAD) (hl : A.Lawful) (cA cB : Triple)
    (keyA keyB nonceA nonceB : Bytes) (idA idB : Nat)
    (hkA : keyOk keyA = true) (hnA : nonceA.length = 16)
    (hA1 : cA.num < 65536) (hA2 : cA.x.length < 65536) (hA3 : cA.y.length < 65536)
    (hA4 : (A.sealF keyA nonceA (scEncode cA) none).length < 65536)
    (hkB : keyOk keyB = true) (hnB : nonceB.length = 16)
    (hB1 : cB.num < 65536) (hB2 : cB.x.length < 65536) (hB3 : cB.y.length < 65536)
    (hB4 : (A.sealF keyB nonceB (scEncode cB) none).length < 65536) :
    ∃ ecA ecB, encryptCookie A cA keyA idA nonceA = .ok ecA ∧ encryptCookie A cB keyB idB nonceB = .ok ecB ∧
      runCalls A [.decrypt (ecEncode ecA) keyA, .decrypt (ecEncode ecB) keyB, .decrypt (ecEncode ecA) keyA] =
        [.cookie (.ok cA), .cookie (.ok cB), .cookie (.ok cA)] := by
  obtain ⟨ecA, eA, dA, oA⟩ := C10_cookie_roundtrip A hl cA keyA nonceA idA hkA hnA hA1 hA2 hA3 hA4
  obtain ⟨ecB, eB, dB, oB⟩ := C10_cookie_roundtrip A hl cB keyB nonceB idB hkB hnB hB1 hB2 hB3 hB4
  refine ⟨ecA, ecB, eA, eB, ?_⟩
  simp [runCalls, Call.run, dA, dB, oA, oB, bind, Res.bind]

set_option maxRecDepth 20000 in
/-- the hypotheses are met by two associations of the project's shape under one server key -/
example :
    runCalls toyAEAD [.decrypt (ecEncode ⟨1, zeros 16, scEncode ⟨15, zeros 32, List.replicate 32 1⟩ ++ zeros 16⟩) (zeros 32),
      .decrypt (ecEncode ⟨1, zeros 16, scEncode ⟨15, List.replicate 32 2, List.replicate 32 3⟩ ++ zeros 16⟩) (zeros 32)] =
    [.cookie (.ok ⟨15, zeros 32, List.replicate 32 1⟩), .cookie (.ok ⟨15, List.replicate 32 2, List.replicate 32 3⟩)] := by
  decide +kernel

end ScionTime.C10
