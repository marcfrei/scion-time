/-
  C08 (unit: net/udp `timestampFromOOBData`, lower case — the error-queue twin of the exported
  `TimestampFromOOBData`; model `UdpTx.txTimestamp`) — total and panic-free on every
  control buffer that meets the kernel's contract `KernelChain`; outside the contract it can panic
  (decided witnesses). The input is kernel ancillary data (recvmsg MSG_ERRQUEUE), not bytes of a
  peer: the panics are an observation, not a C08 violation.
-/
import ScionTime.Props.C08Udp
namespace ScionTime.C08UdpTx
open ScionTime.Udp ScionTime.UdpTx

def Good (o : TxOutcome) : Prop :=
  (∃ a b i, o = .ok a b i) ∨ o = .errUnexpectedData ∨ o = .errNotFound

theorem finish_good (st : St) : Good (finish st) := by
  unfold finish Good
  split
  · left; exact ⟨_, _, _, rfl⟩
  · right; right; rfl

/-- With fuel at least the buffer length, on a buffer that meets the kernel's contract the walk
    returns a (timestamp, id) pair or one of the two errors: no slice panic, no explicit panic,
    no fuel artefact — for every loop state. -/
theorem C08_udptx_walk_total (oob : List Nat) (hk : KernelChain oob) :
    ∀ (fuel : Nat) (st : St), oob.length ≤ fuel → Good (walk fuel st oob) :=
  fun fuel st h => walk_rule (I := KernelChain) finish_good (.inr (.inl rfl))
    (fun
      | _, .done _ h, hlen => absurd h hlen
      | _, .cons _ _ hfit htriple hrest, _ =>
        ⟨absurd hfit, fun hlev htyp h64 => absurd (htriple hlev htyp h64), hrest⟩)
    fuel st oob hk h

/-- `txTimestamp` is total and panic-free under the kernel's contract. -/
theorem C08_udptx_no_panic_under_kernel_contract (oob : List Nat) (hk : KernelChain oob) :
    Good (txTimestamp oob) :=
  C08_udptx_walk_total oob hk oob.length {} (Nat.le_refl _)

/-- The fuel artefact never shows, contract or not: the walk always ends within one iteration per
    16 bytes. -/
theorem C08_udptx_terminates (fuel : Nat) (st : St) (oob : List Nat) (h : oob.length ≤ fuel) :
    walk fuel st oob ≠ .fuel :=
  walk_rule (P := (· ≠ .fuel)) (I := fun _ => True) finish_ne_fuel nofun
    (fun _ _ _ => ⟨nofun, nofun, trivial⟩) fuel st oob trivial h

/-- what the kernel queues for a software transmit timestamp of an IPv4 datagram: an
    scm_timestamping triple (ts[0] = 1700000000 s, 5 ns) and an IP_RECVERR message with
    sock_extended_err {ENOMSG, SO_EE_ORIGIN_TIMESTAMPING, data = 7} followed by the offender
    address (48 bytes) -/
def kernelTx : List Nat :=
  [64,0,0,0,0,0,0,0, 1,0,0,0, 65,0,0,0] ++ [0,241,83,101,0,0,0,0, 5,0,0,0,0,0,0,0] ++ List.replicate 32 0 ++
  [48,0,0,0,0,0,0,0, 0,0,0,0, 11,0,0,0] ++ [42,0,0,0, 4,0,0,0, 0,0,0,0, 7,0,0,0] ++ List.replicate 16 0

example : txTimestamp kernelTx = .ok 1700000000 5 7 := by decide +kernel

/-- the contract is met by what the kernel queues (non-vacuity of `KernelChain`) -/
theorem kernelTx_chain : KernelChain kernelTx := by
  refine .cons _ (by decide +kernel) (by decide +kernel) (by intro _ _ _; decide +kernel) ?_
  refine .cons _ (by decide +kernel) (by decide +kernel) (by intro h; exact absurd h (by decide +kernel)) ?_
  exact .done _ (by decide +kernel)

/-- Outside the contract (never produced by the kernel): a foreign control message whose length
    17 lies inside a 20-byte buffer but whose aligned length 24 does not ⇒ `oob[24:]` panics —
    the bound check `n > len(oob)` the exported twin received for F10 is missing here. -/
theorem C08_udptx_slice_panic_outside_contract :
    txTimestamp C08Udp.f10Misaligned = .panicSlice ∧ ¬ KernelChain C08Udp.f10Misaligned := by
  refine ⟨by decide +kernel, ?_⟩
  intro h
  cases h with
  | done _ h => exact absurd h (by decide)
  | cons _ _ hfit _ _ => exact absurd hfit (by decide)

/-- … and a triple with both ts[0] and ts[2] filled ⇒ the explicit panic. -/
theorem C08_udptx_explicit_panic_outside_contract :
    txTimestamp C08Udp.f10Inconsistent = .panicExplicit ∧ ¬ KernelChain C08Udp.f10Inconsistent := by
  refine ⟨by decide +kernel, ?_⟩
  intro h
  cases h with
  | done _ h => exact absurd h (by decide)
  | cons _ _ _ htriple _ =>
    have := htriple (by decide) (by decide) (by decide)
    revert this; decide +kernel

end ScionTime.C08UdpTx
