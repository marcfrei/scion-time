/-
  C14 (fragment) — NTS extension fields and server cookies: encoding then decoding returns the
  same value, each extension field decodes as the kind that was encoded, everything is 4-byte
  aligned. Models: ScionTime/Model/Nts.lean, Cookies.lean (net/nts/nts.go, net/ntske/cookies.go).
-/
import ScionTime.Proofs.NtsEnc
import ScionTime.Proofs.CookieCodec
import ScionTime.Gen.Nts
import ScionTime.Gen.Ntske
namespace ScionTime.C14Nts
open ScionTime.Nts

/-! Pins: the model's constants are those of the repository's current source. -/
theorem C14Nts_pin_extUniqueIdentifier : Gen.Nts.extUniqueIdentifier = (extUniqueIdentifier : Int) := by decide
theorem C14Nts_pin_extCookie : Gen.Nts.extCookie = (extCookie : Int) := by decide
theorem C14Nts_pin_extCookiePlaceholder : Gen.Nts.extCookiePlaceholder = (extCookiePlaceholder : Int) := by decide
theorem C14Nts_pin_extAuthenticator : Gen.Nts.extAuthenticator = (extAuthenticator : Int) := by decide
theorem C14Nts_pin_ntpPacketLen : Gen.Nts.ntpPacketLen = (ntpPacketLen : Int) := by decide
theorem C14Nts_pin_MaxPacketLen : Gen.Nts.MaxPacketLen = (maxPacketLen : Int) := by decide
theorem C14Nts_pin_cookieTypes :
    Gen.Ntske.cookieTypeAlgorithm = (cookieTypeAlgorithm : Int) ∧ Gen.Ntske.cookieTypeKeyS2C = (cookieTypeKeyS2C : Int) ∧
    Gen.Ntske.cookieTypeKeyC2S = (cookieTypeKeyC2S : Int) ∧ Gen.Ntske.cookieTypeKeyID = (cookieTypeKeyID : Int) ∧
    Gen.Ntske.cookieTypeNonce = (cookieTypeNonce : Int) ∧ Gen.Ntske.cookieTypeCiphertext = (cookieTypeCiphertext : Int) := by
  decide

/-- `ServerCookie`: Decode (Encode c) = c for every algorithm value and keys below 64 KiB
    (the length fields are 16 bit). -/
theorem C14Nts_serverCookie_roundtrip (c : Triple)
    (hn : c.num < 65536) (hx : c.x.length < 65536) (hy : c.y.length < 65536) :
    scDecode (scEncode c) = .ok c :=
  decodeTLV_encodeTLV true _ _ _ c (by decide) (by decide) (by decide) (by decide) (by decide) (by decide) hn hx hy

/-- `EncryptedServerCookie`: Decode (Encode c) = c. -/
theorem C14Nts_encryptedCookie_roundtrip (c : Triple)
    (hn : c.num < 65536) (hx : c.x.length < 65536) (hy : c.y.length < 65536) :
    ecDecode (ecEncode c) = .ok c :=
  decodeTLV_encodeTLV true _ _ _ c (by decide) (by decide) (by decide) (by decide) (by decide) (by decide) hn hx hy

/-- Beyond 16-bit lengths the encoder truncates the length field (`uint16(len(..))`): the
    hypothesis of the round trip is needed — a 65536-byte key encodes with length 0. -/
theorem C14Nts_cookie_length_field_wraps (c : Triple) (h : c.x.length = 65536) :
    (scEncode c).drop 8 = be16 0 ++ (c.x ++ (be16 cookieTypeKeyC2S ++ (be16 (c.y.length % 65536) ++ c.y))) := by
  simp [scEncode, encodeTLV, be16, h]

/-- Kind preservation and exact inverse for whole packets: for every AEAD with SIV's size law,
    every 48-byte header, every well-formed packet (identifier ≥ 32 bytes, lengths multiples of 4)
    that fits `MaxPacketLen`, `EncodePacket` succeeds and `DecodePacket` of its output returns the
    same identifier, the same cookies *as cookies*, the placeholders *as placeholders* (count; their
    content is dropped by `unpack`), the nonce and ciphertext written, and the authenticator's
    position = everything encoded before it. -/
theorem C14Nts_ext_kind_preserved (A : AEAD) (hs : A.Sized) (hdr : Bytes) (p : Packet) (nonce : Bytes)
    (hh : hdr.length = ntpPacketLen) (wf : WellFormed p) (fit : packetLen p ≤ maxPacketLen)
    (hn : nonce.length = 16) :
    ∃ b, encodePacket A hdr p nonce = .ok b ∧
      decodePacket b = .ok
        { uid := p.uid, cookies := p.cookies, nph := p.placeholders.length, nonce := nonce,
          ct := A.sealF p.key nonce p.pt (some (adOf true hdr p)), pos := (adOf true hdr p).length } := by
  obtain ⟨b, he, _, _, hd⟩ := encode_decode A hs hdr p nonce hh wf fit hn
  exact ⟨b, he, hd⟩

/-- Alignment: every extension field starts at a multiple of 4 and the packet length is a
    multiple of 4 — for *all* value lengths (padding), whenever the packet fits. Stated on the
    field sizes the encoder writes (`4 + pad4 len`). -/
theorem C14Nts_alignment (uidLen : Nat) (fieldLens : List Nat) (ctLen : Nat) :
    encodedLen uidLen fieldLens ctLen % 4 = 0 := by
  have hsum : ∀ l : List Nat, (l.map fun c => 4 + pad4 c).sum % 4 = 0 := by
    intro l
    induction l with
    | nil => rfl
    | cons c cs ih => have := pad4_mod c; simp only [List.map_cons, List.sum_cons]; omega
  have h1 := pad4_mod uidLen
  have h2 := pad4_mod ctLen
  have h3 := hsum fieldLens
  unfold encodedLen ntpPacketLen
  omega

/-- …and the encoder's output has exactly that length (well-formed packets, no padding needed). -/
theorem C14Nts_encoded_length (A : AEAD) (hs : A.Sized) (hdr : Bytes) (p : Packet) (nonce b : Bytes)
    (hh : hdr.length = ntpPacketLen) (wf : WellFormed p) (fit : packetLen p ≤ maxPacketLen)
    (hn : nonce.length = 16) (he : encodePacket A hdr p nonce = .ok b) :
    b.length = packetLen p ∧ b.length % 4 = 0 := by
  obtain ⟨b', he', _, hl, _⟩ := encode_decode A hs hdr p nonce hh wf fit hn
  obtain rfl : b = b' := Res.ok.inj (he.symm.trans he')
  refine ⟨hl, ?_⟩
  rw [hl]
  have a1 := fieldsLen_aligned _ wf.cA
  have a2 := fieldsLen_aligned _ wf.pA
  have a3 := wf.uidA
  have a4 := wf.ptA
  unfold packetLen ntpPacketLen
  omega

/-! A concrete instance meeting all hypotheses (so the theorems are not vacuous), and the
    behaviour of the pinned commit (F5): placeholders were written with the cookie type. -/

/-- a toy AEAD with the size law: tag = 16 zero bytes -/
def toyAEAD : AEAD where
  sealF _ _ p _ := p ++ zeros 16
  openF _ _ c _ := some (c.take (c.length - 16))

example : toyAEAD.Sized ∧ toyAEAD.Lawful :=
  ⟨by intro k n p ad; simp [toyAEAD], by intro k n p ad; simp [toyAEAD]⟩

def samplePacket : Packet :=
  { uid := zeros 32, cookies := [List.replicate 24 7], placeholders := [zeros 24], key := zeros 32, pt := [] }

example : WellFormed samplePacket ∧ packetLen samplePacket ≤ maxPacketLen := by
  refine ⟨⟨by decide, by decide, ?_, ?_, by decide, by decide⟩, by decide⟩ <;>
    (intro v hv; simp [samplePacket] at hv; subst hv; decide)

/-- F5 at the pinned commit: the packet with one cookie and one placeholder decodes as two
    cookies and no placeholder… -/
theorem C14Nts_placeholder_kind_old :
    (encodePacketOld toyAEAD (zeros 48) samplePacket (zeros 16) >>= decodePacket).bind
      (fun d => .ok (d.cookies.length, d.nph)) = .ok (2, 0) := by decide +kernel

/-- …and after the fix as one cookie and one placeholder. -/
theorem C14Nts_placeholder_kind_sample :
    (encodePacket toyAEAD (zeros 48) samplePacket (zeros 16) >>= decodePacket).bind
      (fun d => .ok (d.cookies.length, d.nph)) = .ok (1, 1) := by decide +kernel

end ScionTime.C14Nts
