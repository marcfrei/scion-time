/-
  C15 — what the path table of net/scion/pather.go offers to the rounds of a SCION reference
  clock (`ntpReferenceClockSCION.MeasureClockOffset` passes `pather.Paths(remoteIA)` to
  `MeasureClockOffsetSCION`), refresh after refresh. Model: Model/Pather.lean (`update`, `fill`,
  `run`); the rows of `update` / `StartPather` are pinned in Props/SkelC15; harness c15 ops
  `pd.start` / `pd.refresh` / `pd.round` run the real `StartPather` / `update` / `Paths` behind a
  stand-in for the SCION daemon's gRPC service.

  Finding (repaired, `fix:` in /repo): a destination IA that occurs more than once in the
  configured list (two reference clocks, or a reference clock and a peer, in one AS) had the
  daemon's answer appended once per occurrence, so `Paths` offered every path twice and two clients
  of one round probed the same path. `updateOld` = the code as found.
-/
import ScionTime.Model.Pather
import ScionTime.Props.C15
import ScionTime.Gen.Scion
namespace ScionTime.C15Upd
open ScionTime.Pather ScionTime.Multipath List

/-- Lock discipline of `Pather.mu` (harness/extract/x_c15pather.go): in package net/scion every
    access to the guarded fields `paths` / `localIA` through a Pather sits between `mu.Lock()` and
    `mu.Unlock()` (`@held`), or initialises a Pather that is not shared yet (`@new`, the verif
    hook); no access is `@FREE`. The writer (`update`) builds the new map in a local and touches
    the fields only to install it. -/
theorem C15Upd_pin_lock_discipline :
    Gen.Scion.Pather_lock_discipline =
      "Pather.LocalIA:localIA@held Pather.Paths:paths@held VerifC15Held:paths@held VerifC15NewPather:localIA@new VerifC15NewPather:paths@new update:localIA@held update:paths@held" := by
  rfl

/-- the refresh period of the goroutine started by `StartPather`: 15 s -/
theorem C15Upd_pin_refresh_period : Gen.Scion.pathRefreshPeriod = 15 * 1000000000 := rfl

theorem get?_appendAt (m : PathMap) (ia ia' : IA) (ps : List Path) :
    (m.appendAt ia ps).get? ia' =
      if ia' = ia then some ((m.get? ia).getD [] ++ ps) else m.get? ia' := by
  fun_induction PathMap.appendAt m ia ps with
  | case1 => by_cases h : ia = ia' <;> simp [PathMap.get?, h, Ne.symm]
  | case2 v rest => by_cases h : ia = ia' <;> simp [PathMap.get?, h, Ne.symm]
  | case3 k v rest hk ih =>
    by_cases hk' : k = ia'
    · subst hk'
      simp [PathMap.get?, hk]
    · simp [PathMap.get?, hk, hk', ih]

/-- the daemon's answer for `ia` as the loop uses it: a failed lookup counts as no paths -/
def answer (d : Daemon) (ia : IA) : List Path := (d.paths ia).getD []

/-- the loop of the REPAIRED `update`: an entry, once made, is final; a configured destination
    without an entry gets the daemon's answer; nothing else appears. -/
theorem fill_new (d : Daemon) (dsts : List IA) (m : PathMap)
    (hw : ∀ ia ∈ dsts, isWildcard ia = false) :
    ∃ m', Pather.fill true d m dsts = some m' ∧
      ∀ dst, m'.get? dst =
        if (m.get? dst).isSome then m.get? dst
        else if dst ∈ dsts then some (answer d dst) else none := by
  fun_induction Pather.fill true d m dsts with
  | case1 m => exact ⟨m, rfl, fun dst => by cases m.get? dst <;> simp⟩
  | case2 m ia rest hia => simp [hw ia (by simp)] at hia
  | case3 m ia rest _ hp ih =>
    obtain ⟨m', hm', hget⟩ := ih fun x hx => hw x (by simp [hx])
    refine ⟨m', hm', fun dst => ?_⟩
    rw [hget dst]
    by_cases hdi : dst = ia
    · subst hdi; simp [(by simpa using hp : (m.get? dst).isSome)]
    · simp [hdi]
  | case4 m ia rest _ hp ih =>
    obtain ⟨m', hm', hget⟩ := ih fun x hx => hw x (by simp [hx])
    refine ⟨m', hm', fun dst => ?_⟩
    rw [hget dst, get?_appendAt]
    by_cases hdi : dst = ia
    · subst hdi; simp [(by simpa using hp : m.get? dst = none), answer]
    · simp [hdi]

/-- the loop of `update` AS FOUND: the daemon's answer is appended once per occurrence of the
    destination in the configured list. -/
theorem fill_old (d : Daemon) (dsts : List IA) (m : PathMap)
    (hw : ∀ ia ∈ dsts, isWildcard ia = false) :
    ∃ m', Pather.fill false d m dsts = some m' ∧
      ∀ dst, m'.get? dst =
        if (m.get? dst).isSome ∨ dst ∈ dsts then
          some ((m.get? dst).getD [] ++ (List.replicate (dsts.count dst) (answer d dst)).flatten)
        else none := by
  fun_induction Pather.fill false d m dsts with
  | case1 m => exact ⟨m, rfl, fun dst => by cases m.get? dst <;> simp⟩
  | case2 m ia rest hia => simp [hw ia (by simp)] at hia
  | case3 m ia rest _ hp => simp at hp
  | case4 m ia rest _ _ ih =>
    obtain ⟨m', hm', hget⟩ := ih fun x hx => hw x (by simp [hx])
    refine ⟨m', hm', fun dst => ?_⟩
    rw [hget dst, get?_appendAt]
    by_cases hdi : dst = ia
    · subst hdi
      simp [answer, List.count_cons_self, List.replicate_succ, List.append_assoc]
    · have : (ia == dst) = false := by simp [Ne.symm hdi]
      simp [hdi, List.count_cons, this]

/-- A refresh whose local-IA lookup fails changes nothing: the table and the local IA stay as they
    were, whatever the destination list (it is not even looked at — no wildcard panic either). -/
theorem C15Upd_lookup_error_keeps_table (b : Bool) (t : Table) (d : Daemon) (dsts : List IA)
    (h : d.localIA = none) : update b t d dsts = .done t := by
  simp [update, h]

/-- A refresh whose local-IA lookup succeeds installs a table that is a function of THIS refresh's
    answers and the configured list only — nothing of the previous table survives. -/
theorem C15Upd_refresh_forgets (b : Bool) (t t0 : Table) (d : Daemon) (dsts : List IA)
    (h : d.localIA.isSome) : update b t d dsts = update b t0 d dsts := by
  unfold update
  cases hl : d.localIA with
  | none => rw [hl] at h; simp at h
  | some l => rfl

/-- What `Paths(dst)` returns after a refresh of the REPAIRED code (local-IA lookup succeeded, no
    wildcard configured): for a configured destination exactly the daemon's answer of that refresh
    (the empty list if that lookup failed), however often the destination is configured; nil for a
    destination that is not configured. -/
theorem C15Upd_offer_after_refresh (t : Table) (d : Daemon) (dsts : List IA) (l : IA)
    (hl : d.localIA = some l) (hw : ∀ ia ∈ dsts, isWildcard ia = false) :
    ∃ t', update true t d dsts = .done t' ∧ t'.localIA = l ∧
      ∀ dst, t'.pathsOf dst = if dst ∈ dsts then some (answer d dst) else none := by
  obtain ⟨m', hm', hget⟩ := fill_new d dsts [] hw
  refine ⟨{ localIA := l, paths := some m' }, by simp [update, hl, hm'], rfl, fun dst => ?_⟩
  simp only [Table.pathsOf, hget dst]
  simp [PathMap.get?]

/-- … and AS FOUND: the answer repeated once per occurrence of the destination in the list. -/
theorem C15Upd_old_offer_after_refresh (t : Table) (d : Daemon) (dsts : List IA) (l : IA)
    (hl : d.localIA = some l) (hw : ∀ ia ∈ dsts, isWildcard ia = false) :
    ∃ t', updateOld t d dsts = .done t' ∧ t'.localIA = l ∧
      ∀ dst, t'.pathsOf dst =
        if dst ∈ dsts then some (List.replicate (dsts.count dst) (answer d dst)).flatten else none := by
  obtain ⟨m', hm', hget⟩ := fill_old d dsts [] hw
  refine ⟨{ localIA := l, paths := some m' }, by simp [updateOld, update, hl, hm'], rfl, fun dst => ?_⟩
  simp only [Table.pathsOf, hget dst]
  simp [PathMap.get?]

/-- Repaired: the offer for a destination is as duplicate-free as the daemon's answer. -/
theorem C15Upd_offer_nodup (t t' : Table) (d : Daemon) (dsts : List IA) (l : IA) (dst : IA) (ps : List Path)
    (hl : d.localIA = some l) (hw : ∀ ia ∈ dsts, isWildcard ia = false)
    (hu : update true t d dsts = .done t') (hp : t'.pathsOf dst = some ps)
    (hnd : (answer d dst).Nodup) : ps.Nodup := by
  obtain ⟨t'', hu', _, hget⟩ := C15Upd_offer_after_refresh t d dsts l hl hw
  rw [hu] at hu'
  cases hu'
  rw [hget dst] at hp
  by_cases hd : dst ∈ dsts
  · simp only [hd, if_true, Option.some.injEq] at hp
    rw [← hp]; exact hnd
  · simp [hd] at hp

/-- A transient lookup error for one destination empties its offer until the next refresh (15 s;
    the paths of the previous table are dropped, not kept): every round of a reference clock in
    that AS during that period reports `errNoPath` and resets ALL its clients (with their filters),
    whatever their state. (Observation: by C15's text this is the prescribed reaction to "no path
    is available"; that the daemon still had paths a refresh earlier is not considered.) -/
theorem C15Upd_lookup_error_empties_offer (b : Bool) (t : Table) (d : Daemon) (dsts : List IA) (l : IA) (dst : IA)
    (hl : d.localIA = some l) (hw : ∀ ia ∈ dsts, isWildcard ia = false)
    (hd : dst ∈ dsts) (herr : d.paths dst = none)
    (ftm : List Int → Int) (f11 f12 : Bool) (cs : List Client) (c : Bool) (s : Sample.Stream) (succ : List (Option Int)) :
    ∃ t', update b t d dsts = .done t' ∧ t'.pathsOf dst = some [] ∧
      (round ftm f11 f12 cs (([] : List Path).map (·.2)) c s succ).res = .errNoPath ∧
      (round ftm f11 f12 cs (([] : List Path).map (·.2)) c s succ).reset = cs.map fun _ => true := by
  have hans : answer d dst = [] := by simp [answer, herr]
  obtain ⟨t', hu, hp⟩ : ∃ t', update b t d dsts = .done t' ∧ t'.pathsOf dst = some [] := by
    cases b with
    | true =>
      obtain ⟨t', hu, _, hget⟩ := C15Upd_offer_after_refresh t d dsts l hl hw
      exact ⟨t', hu, by simp [hget dst, hd, hans]⟩
    | false =>
      obtain ⟨t', hu, _, hget⟩ := C15Upd_old_offer_after_refresh t d dsts l hl hw
      exact ⟨t', hu, by simp [hget dst, hd, hans]⟩
  exact ⟨t', hu, hp, C15.C15_no_path_error ftm f11 f12 cs c s succ⟩

theorem fill_wildcard (b : Bool) (d : Daemon) (dsts : List IA) (m : PathMap)
    (hw : ∃ ia ∈ dsts, isWildcard ia = true) : Pather.fill b d m dsts = none := by
  fun_induction Pather.fill b d m dsts with
  | case1 => simp at hw
  | case2 => rfl
  | case3 m ia rest hia _ ih | case4 m ia rest hia _ ih => exact ih (by simpa [hia] using hw)

/-- A wildcard IA (ISD 0 or AS 0) among the configured destinations makes `update` panic — but only
    in a refresh whose local-IA lookup succeeds. -/
theorem C15Upd_wildcard_panics (b : Bool) (t : Table) (d : Daemon) (dsts : List IA) (l : IA)
    (hl : d.localIA = some l) (hw : ∃ ia ∈ dsts, isWildcard ia = true) :
    (match update b t d dsts with | .panicWildcard => true | .done _ => false) = true := by
  simp [update, hl, fill_wildcard b d dsts [] hw]

/-! ### histories of refreshes (StartPather + refresh goroutine) -/

/-- the answers of the most recent refresh whose local-IA lookup succeeded -/
def lastInstalled (ds : List Daemon) : Option Daemon := (ds.filter (·.localIA.isSome)).getLast?

/-- After ANY history of refreshes (no wildcard configured) the table is the one installed by the
    most recent refresh whose local-IA lookup succeeded — as if that refresh had run on a new
    Pather — and the initial table if there was none: no accumulation, no memory of earlier
    answers, no panic. So `Paths(dst)` after the history is given by `C15Upd_offer_after_refresh`
    for that refresh alone. -/
theorem C15Upd_history_last_installed (b : Bool) (dsts : List IA) (hw : ∀ ia ∈ dsts, isWildcard ia = false)
    (ds : List Daemon) (t : Table) (k : Nat) :
    ∃ t', run b dsts t k ds = .inl t' ∧
      match lastInstalled ds with
      | none => t' = t
      | some d => update b {} d dsts = .done t' := by
  induction ds generalizing t k with
  | nil => exact ⟨t, rfl, by simp [lastInstalled]⟩
  | cons d rest ih =>
    have hcons : lastInstalled (d :: rest) =
        (lastInstalled rest).or (if d.localIA.isSome then some d else none) := by
      unfold lastInstalled
      rw [filter_cons]
      split
      · rw [getLast?_cons]; cases (filter (·.localIA.isSome) rest).getLast? <;> rfl
      · cases (filter (·.localIA.isSome) rest).getLast? <;> rfl
    rw [hcons]
    cases hl : d.localIA with
    | none =>
      have hu : update b t d dsts = .done t := C15Upd_lookup_error_keeps_table b t d dsts hl
      obtain ⟨t', hr, hm⟩ := ih t (k + 1)
      refine ⟨t', by simp [run, hu, hr], ?_⟩
      simpa using hm
    | some l =>
      obtain ⟨t1, hu1⟩ : ∃ t1, update b t d dsts = .done t1 := by
        cases b with
        | true => obtain ⟨t1, h, _⟩ := C15Upd_offer_after_refresh t d dsts l hl hw; exact ⟨t1, h⟩
        | false => obtain ⟨t1, h, _⟩ := C15Upd_old_offer_after_refresh t d dsts l hl hw; exact ⟨t1, h⟩
      obtain ⟨t', hr, hm⟩ := ih t1 (k + 1)
      refine ⟨t', by simp [run, hu1, hr], ?_⟩
      cases hli : lastInstalled rest with
      | some d' => rw [hli] at hm; exact hm
      | none =>
        rw [hli] at hm
        simp only [Option.isSome_some, if_true, Option.none_or] at hm ⊢
        rw [hm, C15Upd_refresh_forgets b {} t d dsts (by simp [hl])]; exact hu1

def iaA : IA := 281474976710656 + 0xff0000000112
def iaW : IA := 281474976710656           -- 1-0: AS 0
def p0 : Path := (0, "q0")
def p1 : Path := (1, "q1")

/-- a daemon that answers: a ↦ [p0, p1] -/
def dOk : Daemon := { localIA := some 7, paths := fun ia => if ia = iaA then some [p0, p1] else none }
/-- a daemon that cannot be reached -/
def dDown : Daemon := { localIA := none, paths := fun _ => none }
/-- the lookup for a fails -/
def dErrA : Daemon := { localIA := some 7, paths := fun _ => none }

def offer (r : UpdRes) (dst : IA) : Option (List Path) :=
  match r with
  | .done t => t.pathsOf dst
  | .panicWildcard => none

example : isWildcard iaA = false ∧ isWildcard iaW = true ∧ isWildcard 0 = true := by decide
example : offer (updateNew {} dOk [iaA, iaA]) iaA = some [p0, p1] := by decide
example : offer (updateNew {} dErrA [iaA]) iaA = some [] ∧ offer (updateNew {} dOk [iaA]) 5 = none := by decide

/-- FINDING (as found): the destination configured twice ⇒ `Paths` offers [p0, p1, p0, p1]; three
    clients of one round then probe paths 0, 1 and 0 again — whatever the random generator says
    (with fewer candidates than clients no draw is made): two clients probe the same path and the
    midpoint is taken over two values of one path. Repaired: [p0, p1], two participants. -/
theorem C15Upd_old_repeated_destination_same_path_twice :
    offer (updateOld {} dOk [iaA, iaA]) iaA = some [p0, p1, p0, p1] ∧
    (roundP (fun _ => 0) true true [⟨true, false, false, ""⟩, ⟨true, false, false, ""⟩, ⟨true, false, false, ""⟩]
        [p0, p1, p0] false [] [some 1, some 2, some 3]).assigned = [some 0, some 1, some 0] ∧
    offer (updateNew {} dOk [iaA, iaA]) iaA = some [p0, p1] ∧
    (roundP (fun _ => 0) true true [⟨true, false, false, ""⟩, ⟨true, false, false, ""⟩, ⟨true, false, false, ""⟩]
        [p0, p1] false [] [some 1, some 2, some 3]).assigned = [some 0, some 1, none] := by
  decide

/-- The wildcard panic can fire for the first time inside the refresh goroutine: with the daemon
    unreachable when the service starts, the first two updates return early (the destination list is
    not looked at), and the third — a tick of the refresh goroutine, 30 s later — panics: the process
    dies long after start-up because of a configuration mistake. (Observation; configuration input.) -/
theorem C15Upd_wildcard_panic_can_be_late :
    (match run true [iaA, iaW] {} 0 [dDown, dDown, dOk, dOk] with | .inr k => some k | .inl _ => none) = some 2 ∧
    (match run true [iaA, iaW] {} 0 [dOk] with | .inr k => some k | .inl _ => none) = some 0 := by
  decide

/-- a history: down, answer, lookup error for a, down ⇒ the offer for a is empty (the error's
    refresh was the last one installed); the earlier answer is gone -/
example :
    (match run true [iaA] {} 0 [dDown, dOk, dErrA, dDown] with
     | .inl t => t.pathsOf iaA | .inr _ => none) = some [] ∧
    (match run true [iaA] {} 0 [dDown, dOk, dDown] with
     | .inl t => t.pathsOf iaA | .inr _ => none) = some [p0, p1] ∧
    (match run true [iaA] {} 0 [dDown, dDown] with
     | .inl t => t.pathsOf iaA | .inr _ => none) = none := by
  decide

end ScionTime.C15Upd
