/-
  C03 — hypothesis A4 of the pairing theorems ("every datagram from the server that the socket of
  exchange k delivers answers request k") is DISCHARGED by how the clients open their sockets, not
  assumed (Model/ClientFlow.lean `requestedPort`, `socketPort`, `socketDelivers`).

  The code asks the kernel for port 0 of the local address for every exchange
  (`C03Port_pin_bind`: regenerated fact, the port argument of the ListenPacket call is the literal 0),
  whatever port the configured local address carries. What is assumed, exactly:
    (K) kernel: the ports it picks for the sockets of the exchanges of a history are pairwise
        distinct (no ephemeral port is handed out again while datagrams addressed to an earlier socket
        of this client may still arrive) — `Function.Injective kernel` on the history;
    (N) server / network: a datagram the server sends in answer to request k is addressed to the port
        request k came from, and is conformant for request k (C06's reply contract).
  Then the socket of exchange k delivers only answers to request k: A4 holds for every exchange —
  responses delayed beyond the deadline of their exchange never reach a later, bit-identical
  interleaved request. The variant that binds the configured port makes all exchanges share one port:
  refuted (`C03Port_bind_configured_refuted`).
-/
import ScionTime.Model.ClientFlow
import ScionTime.Gen.Client
import ScionTime.Props.C03
namespace ScionTime.Props.C03Port
open ScionTime.Time64 ScionTime.NtpMath ScionTime.ClientNtp ScionTime.ClientFlow ScionTime.C03

/-- **Pin**: both clients open the socket of an exchange on port 0 of the local address. -/
theorem C03Port_pin_bind :
    Gen.Client.clientSocketBindIP = "\"udp\",netip.AddrPortFrom(laddr, 0).String()" ∧
    Gen.Client.clientSocketBindSCION = "\"udp\",netip.AddrPortFrom(laddr, 0).String()" := ⟨rfl, rfl⟩

/-- the code never requests the configured port: the socket's port is the kernel's choice -/
theorem C03Port_kernel_chosen (cfgPort : Nat) (kernel : Nat → Nat) (j : Nat) :
    requestedPort false cfgPort = 0 ∧ socketPort false cfgPort kernel j = kernel j := by
  simp [requestedPort, socketPort, boundPort]

/-- **A4 discharged.** Under (K) and (N), for every configured port, the events the socket of
    exchange `k` delivers satisfy hypothesis A4 of `C03_pairing_ip` / `C03_pairing_history_ip`. -/
theorem C03Port_A4_discharged {D : Type} (srcOk : D → Prop) (payload : D → Payload)
    (G : Nat → ExStamps) (Srv : List Nat) (req : Nat → Req)
    (cfgPort : Nat) (kernel : Nat → Nat)
    (hK : ∀ i j, kernel i = kernel j → i = j) (hK0 : ∀ j, kernel j ≠ 0)
    (arriving : List (Wire D × Int × Bool))
    (hN : ∀ w ∈ arriving, srcOk w.1.d →
      w.1.dstPort = socketPort false cfgPort kernel w.1.answers ∧
      Conformant G Srv w.1.answers (req w.1.answers) (payload w.1.d).pkt)
    (k : Nat) :
    A4 srcOk payload G Srv k (req k) (socketDelivers (socketPort false cfgPort kernel k) arriving) := by
  intro d cRx b hmem hsrc
  unfold socketDelivers at hmem
  obtain ⟨w, hw, he⟩ := List.mem_map.mp hmem
  obtain ⟨hwa, hport⟩ := List.mem_filter.mp hw
  cases he
  obtain ⟨hp, hconf⟩ := hN w hwa hsrc
  have hport := beq_iff_eq.mp hport
  rw [hp, (C03Port_kernel_chosen cfgPort kernel k).2, (C03Port_kernel_chosen cfgPort kernel w.1.answers).2] at hport
  rw [hK _ _ hport] at hconf
  exact hconf

/-- non-vacuity and the scenario of the live stream: the response to request 3 (held back beyond
    the deadline) arrives while exchange 4 is open; with kernel-chosen ports 40003 / 40004 the socket
    of exchange 4 delivers only the answer to request 4. -/
example :
    (socketDelivers (socketPort false 28429 (fun j => 40000 + j) 4)
      [(⟨"late answer to 3", 40003, 3⟩, 10, true), (⟨"answer to 4", 40004, 4⟩, 20, true)]).length = 1 ∧
    socketPort false 28429 (fun j => 40000 + j) 4 = 40004 := by decide

/-- **The variant that binds the configured port is refuted**: with a non-zero configured port every
    exchange's socket has that port, whatever the kernel would have chosen, and the late answer to
    request 3 — addressed to the port request 3 came from — is delivered to the socket of exchange 4
    in front of the answer to request 4. -/
theorem C03Port_bind_configured_refuted :
    socketPort true 28429 (fun j => 40000 + j) 3 = 28429 ∧ socketPort true 28429 (fun j => 40000 + j) 4 = 28429 ∧
    (socketDelivers (socketPort true 28429 (fun j => 40000 + j) 4)
      [(⟨"late answer to 3", 28429, 3⟩, 10, true), (⟨"answer to 4", 28429, 4⟩, 20, true)]).length = 2 := by decide

/-- with port 0 configured (what the daemons pass) the variant is the code: why it looks harmless -/
theorem C03Port_variant_same_for_port_zero (kernel : Nat → Nat) (j : Nat) :
    socketPort true 0 kernel j = socketPort false 0 kernel j := by
  simp [socketPort, requestedPort]

end ScionTime.Props.C03Port
