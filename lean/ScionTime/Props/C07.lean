/-
  C07 — the server's per-client timestamp store stays bounded and consistent.
  Model: ScionTime/Model/Server.lean (tss map + tssQ heap, handleRequest, updateTXTimestamp,
  container/heap transcribed). Helper lemmas: ScionTime/Proofs/Server*.lean.

  `Inv0 P cap icap st` (Proofs/ServerInv.lean) is the structural invariant:
    * `wf`   : map keys pairwise distinct, `len(tss) = len(tssQ)`, every heap slot `i` holds an
               id that is in the map with `qidx = i`, and every map item's `qidx` is a heap
               slot holding its id (heap keys ↔ map keys bijection, back pointers exact);
    * `size` : `len(tss) ≤ cap`;
    * `items`: every item has `1 ≤ len ≤ icap`, pairwise distinct rx values, `qval ≥` every
               rx it keeps (in the order of `Time64.Before`), and (ghost) every entry was
               written on behalf of the item's own client id.
  `Inv` adds heap order (`HeapOk`): `qval(parent) ≤ qval(child)` for every heap slot.
  `P` is an arbitrary predicate on entries that the written entries satisfy (C06 uses it;
  here it is `True`).
  All statements are parametric in the capacities (`1 ≤ cap`, `1 ≤ icap < 10^9`); the pins
  instantiate them with the constants regenerated from /repo.
-/
import ScionTime.Proofs.ServerOpsHeap
import ScionTime.Proofs.ServerReply
import ScionTime.Gen.Server
namespace ScionTime.Props.C07
open ScionTime.Time64 ScionTime.Server

theorem C07_pin_tssCap : Gen.Server.tssCap = (tssCap : Int) := by decide
theorem C07_pin_tssItemCap : Gen.Server.tssItemCap = (tssItemCap : Int) := by decide
/-- Structural fact extracted from the Go AST on every run (harness/extract/x_c07.go):
    `handleRequest` and `updateTXTimestamp` call `tssMu.Lock()` followed immediately by
    `defer tssMu.Unlock()` before any mention of `tss`/`tssQ`, and no other function of the
    package (except the heap interface methods and the verif hooks) mentions the store. This
    is what justifies treating the two functions as atomic steps of a sequential machine. -/
theorem C07_pin_lock_discipline : Gen.Server.fact_tssMu_lock_discipline = true := by decide

/-- no condition on the entries -/
abbrev PT : Entry → Prop := fun _ => True

/-- structural invariant + heap order -/
def Inv (cap icap : Nat) (st : State) : Prop := Inv0 PT cap icap st ∧ HeapOk st

/-- The empty store satisfies the invariant. -/
theorem C07_inv_init (cap icap : Nat) : Inv cap icap init :=
  ⟨inv0_init PT cap icap, fun c _ hc => by simp [init] at hc⟩

/-- `handleRequest` preserves the invariant (repaired and original code alike): size bounds,
    distinct rx per client, map/heap agreement with exact back pointers, heap order,
    `qval ≥` every kept rx. -/
theorem C07_inv_handleRequest (strict : Bool) (cap icap : Nat) (hcap : 1 ≤ cap) (hic : 1 ≤ icap)
    (hic2 : icap < 1000000000) (st : State) (inv : Inv cap icap st) (id : Nat) (req : Req)
    (rxt now : Int) : Inv cap icap (handleRequestG strict cap icap st id req rxt now).st :=
  ⟨inv0_handleRequestG strict cap icap hcap hic hic2 st inv.1 id req rxt now (fun _ _ _ _ _ => trivial),
   heapOk_handleRequestG strict cap icap hcap st inv.1.wf inv.2 id req rxt now⟩

/-- `updateTXTimestamp` preserves the invariant. -/
theorem C07_inv_updateTX (cap icap : Nat) (st : State) (inv : Inv cap icap st) (id : Nat)
    (rxt txt1 : Int) : Inv cap icap (updateTX st id rxt txt1).1 :=
  ⟨inv0_updateTX cap icap st inv.1 id rxt txt1 (fun _ _ _ _ _ _ => trivial),
   heapOk_updateTX st inv.1.wf inv.2 id rxt txt1⟩

theorem C07_inv_step (cap icap : Nat) (hcap : 1 ≤ cap) (hic : 1 ≤ icap) (hic2 : icap < 1000000000)
    (st : State) (inv : Inv cap icap st) (op : Op) : Inv cap icap (stepOp cap icap st op) := by
  cases op with
  | hr id req rxt now => exact C07_inv_handleRequest true cap icap hcap hic hic2 st inv id req rxt now
  | utx id rxt txt1 => exact C07_inv_updateTX cap icap st inv id rxt txt1

/-- The invariant holds after every finite history of requests and transmit-timestamp updates
    (any mix of clients, any timestamps), started from any state satisfying it. -/
theorem C07_inv_run_from (cap icap : Nat) (hcap : 1 ≤ cap) (hic : 1 ≤ icap) (hic2 : icap < 1000000000)
    (ops : List Op) : ∀ st, Inv cap icap st → Inv cap icap (run cap icap st ops) := by
  induction ops with
  | nil => intro st h; exact h
  | cons op ops ih =>
    intro st h
    exact ih _ (C07_inv_step cap icap hcap hic hic2 st h op)

theorem C07_inv_run (cap icap : Nat) (hcap : 1 ≤ cap) (hic : 1 ≤ icap) (hic2 : icap < 1000000000)
    (ops : List Op) : Inv cap icap (run cap icap init ops) :=
  C07_inv_run_from cap icap hcap hic hic2 ops init (C07_inv_init cap icap)

/-- Bounds for the real constants: after any history at most 2^20 clients are kept, heap and
    map have the same number of entries, and every kept client has between 1 and 8 exchanges
    with pairwise distinct receive timestamps. -/
theorem C07_bounded (ops : List Op) :
    let st := run tssCap tssItemCap init ops
    st.items.length ≤ 1048576 ∧ st.heap.size = st.items.length ∧
      ∀ k it, st.items.find k = some it →
        1 ≤ it.buf.length ∧ it.buf.length ≤ 8 ∧ (it.buf.map (·.rx)).Nodup := by
  have inv := (C07_inv_run tssCap tssItemCap (by decide) (by decide) (by decide) ops).1
  refine ⟨inv.size, inv.wf.len.symm, ?_⟩
  intro k it h
  have ok := inv.items k it h
  exact ⟨ok.len_pos, ok.len_le, ok.distinct⟩

/-- Map/heap agreement after any history: the item of every heap slot points back to that
    slot, every item's back pointer is a slot holding its own id, and no id occurs in two
    slots. -/
theorem C07_heap_map_agree (cap icap : Nat) (hcap : 1 ≤ cap) (hic : 1 ≤ icap) (hic2 : icap < 1000000000)
    (ops : List Op) :
    let st := run cap icap init ops
    (∀ i, i < st.heap.size → ∃ it, st.items.find (hkey st i) = some it ∧ it.qidx = i) ∧
    (∀ k it, st.items.find k = some it → it.qidx < st.heap.size ∧ hkey st it.qidx = k) ∧
    (∀ i j, i < st.heap.size → j < st.heap.size → hkey st i = hkey st j → i = j) := by
  have inv := (C07_inv_run cap icap hcap hic hic2 ops).1
  refine ⟨?_, ?_, ?_⟩
  · intro i hi
    have := inv.wf.fwd i hi
    unfold pos at this
    cases hf : Map.find (run cap icap init ops).items (hkey (run cap icap init ops) i) with
    | none => simp [hf] at this
    | some it => exact ⟨it, rfl, by simpa [hf] using this⟩
  · intro k it h
    exact inv.wf.slot h
  · intro i j hi hj e
    exact inv.wf.inj hi hj e

/-- The index of clients by most recent activity is a valid priority order after any
    history: no heap slot's `qval` is `Before` its parent's. -/
theorem C07_heap_order (cap icap : Nat) (hcap : 1 ≤ cap) (hic : 1 ≤ icap) (hic2 : icap < 1000000000)
    (ops : List Op) (c : Nat) (hc0 : 0 < c) (hc : c < (run cap icap init ops).heap.size) :
    before (kv (run cap icap init ops) c) (kv (run cap icap init ops) ((c - 1) / 2)) = false :=
  (C07_inv_run cap icap hcap hic hic2 ops).2 c hc0 hc

/-- Heap slot 0 holds a least recently active client: no kept client's `qval` is `Before`
    the `qval` in slot 0. -/
theorem C07_top_is_min (cap icap : Nat) (st : State) (inv : Inv cap icap st) (k : Nat) (it : Item)
    (h : st.items.find k = some it) : before it.qval (kv st 0) = false := by
  obtain ⟨hq, hk⟩ := inv.1.wf.slot h
  have := root_le st st.heap.size inv.2 it.qidx hq
  have e : kv st it.qidx = it.qval := by unfold kv qv; rw [hk, h]
  rw [e] at this
  exact this

/-- The client's place in the activity index never ranks it older than any exchange kept
    for it: `qval` is not `Before` any kept receive timestamp. -/
theorem C07_qval_ge_rx (cap icap : Nat) (hcap : 1 ≤ cap) (hic : 1 ≤ icap) (hic2 : icap < 1000000000)
    (ops : List Op) (k : Nat) (it : Item) (e : Entry)
    (h : (run cap icap init ops).items.find k = some it) (he : e ∈ it.buf) :
    before it.qval e.rx = false :=
  ((C07_inv_run cap icap hcap hic hic2 ops).1.items k it h).qval_ge e he

/-- No index of `handleRequest`/`updateTXTimestamp` is out of range in a state satisfying the
    invariant (`tssQ[0]` is read only when the store is full, hence non-empty;
    `heap.Fix`/`heap.Remove` get a valid slot). -/
theorem C07_no_index_panic (cap icap : Nat) (hcap : 1 ≤ cap) (st : State) (inv : Inv cap icap st)
    (id : Nat) : hrPanics cap st id = false ∧ utxPanics st id = false := by
  unfold hrPanics utxPanics
  cases hf : Map.find st.items id with
  | none =>
    simp only [Bool.and_eq_false_iff, decide_eq_false_iff_not, and_true]
    by_cases h : st.items.length = cap
    · right; have := inv.1.wf.len; omega
    · left; exact h
  | some it =>
    have := (inv.1.wf.slot hf).1
    simp only [decide_eq_false_iff_not, Nat.not_le]
    exact ⟨this, this⟩

/-- When a known client's request carries a receive timestamp later than every one kept for
    it (requests arriving in timestamp order), its rank in the activity index becomes exactly
    that timestamp — the most recent stored exchange. -/
theorem C07_qval_exact_in_order (strict : Bool) (cap icap : Nat) (st : State) (inv : Inv cap icap st)
    (id : Nat) (req : Req) (rxt now : Int) (it : Item) (hit : st.items.find id = some it)
    (hord : ∀ e ∈ it.buf,
      after (ofTime (handleRequestG strict cap icap st id req rxt now).rxt) e.rx = true)
    (it' : Item) (hf : (handleRequestG strict cap icap st id req rxt now).st.items.find id = some it') :
    it'.qval = ofTime (handleRequestG strict cap icap st id req rxt now).rxt := by
  have ok := inv.1.items id it hit
  unfold handleRequestG at hf hord ⊢
  simp only [hit] at hf hord ⊢
  generalize uniq it.buf rxt _ _ = u at hf hord ⊢
  have sinv := scan_inv it.buf req.org
  obtain ⟨q', fx, hq'⟩ :=
    hr_fix_spec st inv.1.wf id it hit (scan it.buf req.org).mx (ofTime u.1)
  obtain ⟨it1, h1, _, h3⟩ := find_after_update st.items _ id it q'
    (fun b => storeEntry icap b (scan it.buf req.org) ⟨ofTime u.1, ofTime u.2, id⟩) hit fx.same
  rw [h1] at hf
  cases hf
  rw [h3]
  rcases hq' with ⟨_, _, hf⟩ | ⟨e, _, _⟩
  · exfalso
    obtain ⟨i, v, hm, x, hx, hxe⟩ := sinv.mx_mem ok.len_pos
    have b := hord x hx
    rw [hxe, hf i v hm] at b
    cases b
  · exact e

/-- Clients arriving in timestamp order are appended: if the new item's `qval` is not
    `Before` its would-be parent's, `heap.Push` leaves all earlier slots in place and puts the
    new id in the last slot (so for increasing timestamps the heap array is the insertion
    order — the closed form the capacity-regime driver starts from). -/
theorem C07_push_in_order_appends (st : State) (h : WF st) (id : Nat) (it : Item)
    (hnone : st.items.find id = none)
    (hle : st.heap.size = 0 ∨ before it.qval (kv st ((st.heap.size - 1) / 2)) = false) :
    (push { st with items := (id, it) :: st.items } id).heap = st.heap.push id := by
  unfold push
  simp only
  unfold up
  simp only
  rcases hle with h0 | hb
  · simp [h0]
  · by_cases h0 : st.heap.size = 0
    · simp [h0]
    · have hp : (st.heap.size - 1) / 2 < st.heap.size := by omega
      have : less { items := setQidx ((id, it) :: st.items) id st.heap.size, heap := st.heap.push id }
          st.heap.size ((st.heap.size - 1) / 2) = false := by
        unfold less
        rw [kv_push st h id it hnone _ (Nat.le_refl _), if_pos rfl,
          kv_push st h id it hnone _ (by omega), if_neg (by omega)]
        exact hb
      simp [this]

theorem C07_evict_spec (cap icap : Nat) (hcap : 1 ≤ cap) (st : State) (inv : Inv0 PT cap icap st) (rxt64 : T64) :
    ((evict cap st rxt64).2 = none ∧ (evict cap st rxt64).1 = st ∧
        ¬ (st.items.length = cap ∧ after (kv st 0) rxt64 = false)) ∨
    ((evict cap st rxt64).2 = some (hkey st 0) ∧ st.items.length = cap ∧
        after (kv st 0) rxt64 = false ∧ (evict cap st rxt64).1.items.length + 1 = cap) := by
  unfold evict
  split
  · rename_i hc
    simp only [Bool.and_eq_true, decide_eq_true_eq, Bool.not_eq_eq_eq_not, Bool.not_true] at hc
    right
    have hpos : 0 < st.heap.size := by have := inv.wf.len; omega
    have hn : st.heap.size - 1 < st.heap.size := by omega
    obtain ⟨_, b, _, _⟩ := popMin_spec st inv.wf hpos
    refine ⟨?_, hc.1, hc.2, by simp only; omega⟩
    simp only [popMin, Option.some.injEq]
    rw [hkey_down_ge _ _ _ _ _ (by rw [size_swap]; omega) (Nat.le_refl _)]
    rw [hkey_swap st _ _ _ hpos hn]
    simp
  · rename_i hc
    left
    refine ⟨rfl, rfl, ?_⟩
    intro h
    apply hc
    simp [h.1, h.2]

/-- Eviction: `handleRequest` evicts only for a new client, only when the store is full,
    only the client in heap slot 0, and only if that client's `qval` is not `After` the new
    receive timestamp (the newcomer is at least as recent); a new client arriving at a full
    store whose minimum is later is served statelessly (the store does not change at all).
    Requests of known clients never evict. (That slot 0 holds a least recently active
    client is `C07_top_is_min`.) -/
theorem C07_evict_top_only (cap icap : Nat) (hcap : 1 ≤ cap) (st : State) (inv : Inv cap icap st)
    (id : Nat) (req : Req) (rxt now : Int) :
    (∀ k, (handleRequest cap icap st id req rxt now).evicted = some k →
        st.items.find id = none ∧ st.items.length = cap ∧ k = hkey st 0 ∧
        after (kv st 0) (ofTime rxt) = false) ∧
    ((handleRequest cap icap st id req rxt now).evicted = none → st.items.find id = none →
        st.items.length = cap →
        after (kv st 0) (ofTime rxt) = true ∧ (handleRequest cap icap st id req rxt now).st = st) := by
  unfold handleRequest handleRequestG
  simp only
  split
  · rename_i it hit
    exact ⟨(by intro k h; cases h), (by intro _ h; rw [hit] at h; cases h)⟩
  · rename_i hnone
    have es := C07_evict_spec cap icap hcap st inv.1 (ofTime rxt)
    generalize evict cap st (ofTime rxt) = ev at es ⊢
    simp only [apply_ite HR.evicted, ite_self]
    constructor
    · intro k hk
      rcases es with ⟨e, _, _⟩ | ⟨e, l, a, _⟩
      · rw [e] at hk; cases hk
      · rw [e] at hk; cases hk
        exact ⟨hnone, l, rfl, a⟩
    · intro hk _ hl
      rcases es with ⟨_, e1, hn⟩ | ⟨e, _, _, _⟩
      · have ha : after (kv st 0) (ofTime rxt) = true := by
          cases h : after (kv st 0) (ofTime rxt)
          · exact absurd ⟨hl, h⟩ hn
          · rfl
        refine ⟨ha, ?_⟩
        rw [e1]
        simp [hl]
      · rw [e] at hk; cases hk

/-! Non-vacuity: concrete histories with capacity 2 that reach the eviction, the stateless
    service and the in-order cases (evaluated by `decide` on the model). -/
def z64 : T64 := ⟨0, 0⟩
def exReq : Req := ⟨z64, z64, ⟨7, 7⟩⟩
/-- two clients at capacity 2 -/
def exFull : State := run 2 2 init [.hr 1 exReq 1000000000 1000000100, .hr 2 exReq 2000000000 2000000100]
example : exFull.items.length = 2 ∧ exFull.heap = #[1, 2] := by decide
/-- a later newcomer evicts the client in slot 0 -/
example : (handleRequest 2 2 exFull 3 exReq 3000000000 3000000100).evicted = some 1 ∧
    (handleRequest 2 2 exFull 3 exReq 3000000000 3000000100).st.heap = #[2, 3] := by decide
/-- an earlier newcomer is served statelessly -/
example : (handleRequest 2 2 exFull 3 exReq 500000000 500000100).evicted = none ∧
    (handleRequest 2 2 exFull 3 exReq 500000000 500000100).st.heap = exFull.heap ∧
    (handleRequest 2 2 exFull 3 exReq 500000000 500000100).st.items = exFull.items := by decide
/-- a known client's later request moves it down the heap (`heap.Fix`) -/
example : (handleRequest 2 2 exFull 1 exReq 3000000000 3000000100).st.heap = #[2, 1] := by decide
/-- a lost transmit timestamp removes the only exchange and with it the client (`heap.Remove`) -/
example : (updateTX exFull 1 1000000000 1000000100).1.heap = #[2] := by decide

end ScionTime.Props.C07
