/-
  C08 (fragment) — the packet connections of net/scion/quic.go under quic-go: no datagram can
  make `ReadFrom` panic or return an error; every datagram is either ignored or delivered, and
  the read loop goes on to the next datagram.

  Model: ScionTime/Model/ScionQuic.lean (readPkt, serverConn.ReadFrom, clientConn.ReadFrom as
  repaired; `…Old` = before the `fix:` commit). gopacket/slayers parsing and
  snet.DefaultReplyPather are inputs (facts per datagram). Tied to the real code by
  harness/cmd/c08quic (crafted datagrams over loopback into the real connections in a child
  process; the real NTS-KE-over-QUIC server must still complete a key exchange afterwards).
-/
import ScionTime.Proofs.ScionQuic
namespace ScionTime.C08Quic
open ScionTime.ScionQuic
open ScionTime.ClientNtp (HostAddr t4Ip t16Ip t4Svc unmapIP v4mappedPrefix)

/-- a well-formed SCION/UDP datagram from an IPv4 host over a reversible (here: empty) path -/
def good : Dgram :=
  ⟨true, [.scion, .udp], 7, .v4 10 1 2 3, 40001, 0, [], [104, 105], some (0, [])⟩

/-- the same from a service address (T4Svc, "control service") -/
def fromSvc : Dgram := { good with src := ⟨t4Svc, [0, 2, 0, 0]⟩ }

/-- the same over a SCION path that consists of an all-zero meta header: the reply pather fails -/
def irreversible : Dgram := { good with pathType := 1, pathRaw := [0, 0, 0, 0], rev := none }

/-- **totality of readPkt**: every datagram is ignored or delivered — no panic. -/
theorem C08Quic_readPkt_total (bufLen : Nat) (d : Dgram) :
    readPkt bufLen d = .ignore ∨ ∃ p, readPkt bufLen d = .deliver p :=
  match h : readPkt bufLen d with
  | .ignore => .inl rfl
  | .deliver p => .inr ⟨p, rfl⟩
  | .panic => (readPkt_spec h).elim

/-- **totality of serverConn.ReadFrom** per datagram: ignored or delivered — neither a panic
    nor an error return (on which quic-go would close the transport). -/
theorem C08Quic_serverRead_total (bufLen : Nat) (d : Dgram) :
    serverRead bufLen d = .ignore ∨ ∃ p t r, serverRead bufLen d = .deliver p t r := by
  unfold serverRead
  split
  · exact .inl rfl
  · next h => exact (readPkt_spec h).elim
  · split
    · exact .inl rfl
    · exact .inr ⟨_, _, _, rfl⟩

/-- **totality of clientConn.ReadFrom** per datagram. -/
theorem C08Quic_clientRead_total (r : Remote) (bufLen : Nat) (d : Dgram) :
    clientRead r bufLen d = .ignore ∨ ∃ p, clientRead r bufLen d = .deliver p := by
  unfold clientRead clientReadWith
  split
  · split
    · exact .inr ⟨_, rfl⟩
    · exact .inl rfl
  · exact C08Quic_readPkt_total bufLen d

/-- What `readPkt` delivers is the datagram itself: it decoded, its last layer is UDP, its source
    is an IP address (type T4Ip or T16Ip) which — with the source ISD-AS and UDP port — becomes
    the remote address; the payload is the UDP payload cut to the caller's buffer. -/
theorem C08Quic_readPkt_deliver_sound (bufLen : Nat) (d : Dgram) (p : Pkt)
    (h : readPkt bufLen d = .deliver p) :
    d.decodeOk = true ∧ 2 ≤ d.decoded.length ∧ lastLayer d.decoded = some .udp ∧
    (d.src.type = t4Ip ∨ d.src.type = t16Ip) ∧
    p = ⟨d.payload.take bufLen, d.srcIA, d.src.raw, d.srcPort, d.pathType, d.pathRaw⟩ :=
  readPkt_spec h

/-- What the server side hands to quic-go: a datagram `readPkt` delivered, together with the
    reply path the reply pather made of the datagram's own path. -/
theorem C08Quic_server_deliver_sound (bufLen : Nat) (d : Dgram) (p : Pkt) (t : Nat) (r : List Nat)
    (h : serverRead bufLen d = .deliver p t r) :
    d.decodeOk = true ∧ 2 ≤ d.decoded.length ∧ lastLayer d.decoded = some .udp ∧
    (d.src.type = t4Ip ∨ d.src.type = t16Ip) ∧
    p = ⟨d.payload.take bufLen, d.srcIA, d.src.raw, d.srcPort, d.pathType, d.pathRaw⟩ ∧
    d.rev = some (t, r) := by
  unfold serverRead at h
  split at h
  · cases h
  · cases h
  · next hr =>
    split at h <;> cases h
    have ⟨a1, a2, a3, a4, a5⟩ := readPkt_spec hr
    exact ⟨a1, a2, a3, a4, a5, ‹_›⟩

/-- What the client side hands to quic-go comes from the dialled remote address: same ISD-AS,
    same UDP port, and the same IP address up to IPv4-mapping. -/
theorem C08Quic_client_deliver_sound (r : Remote) (bufLen : Nat) (d : Dgram) (p : Pkt)
    (h : clientRead r bufLen d = .deliver p) :
    readPkt bufLen d = .deliver p ∧ p.ia = r.ia ∧ p.port = r.port ∧
    ∃ a, unmapIP p.host = some a ∧ unmapIP r.host = some a := by
  unfold clientRead clientReadWith at h
  split at h
  · next hr =>
    split at h <;> cases h
    next hs =>
      unfold sameRemote at hs
      simp only [Bool.and_eq_true, beq_iff_eq] at hs
      obtain ⟨⟨hia, hport⟩, hm⟩ := hs
      refine ⟨hr, hia, hport, ?_⟩
      cases hx : unmapIP p.host <;> cases hy : unmapIP r.host <;> simp [hx, hy] at hm
      exact ⟨_, rfl, by rw [hm]⟩
  · next hne => exact absurd h (hne p)

/-- **the read loop makes progress**: whatever datagrams precede it, a deliverable datagram is
    what `ReadFrom` returns as soon as everything in front of it has been ignored — and
    (`C08Quic_serverReadFrom_outcomes`) nothing in front of it can end the call in any other way. -/
theorem C08Quic_serverReadFrom_progress (bufLen : Nat) (pre : List Dgram) (d : Dgram) (rest : List Dgram)
    (p : Pkt) (t : Nat) (r : List Nat)
    (hpre : ∀ x ∈ pre, serverRead bufLen x = .ignore) (hd : serverRead bufLen d = .deliver p t r) :
    serverReadFrom bufLen (pre ++ d :: rest) = some (.deliver p t r, rest) := by
  induction pre with
  | nil => simp [serverReadFrom, hd]
  | cons x xs ih =>
    have hx := hpre x (by simp)
    simp only [List.cons_append, serverReadFrom, hx]
    exact ih (fun y hy => hpre y (by simp [hy]))

/-- **outcomes of a `ReadFrom` call** over any sequence of datagrams: still waiting (all
    ignored), or a delivered datagram; never a panic, never an error. -/
theorem C08Quic_serverReadFrom_outcomes (bufLen : Nat) (ds : List Dgram) :
    serverReadFrom bufLen ds = none ∨
    ∃ p t r rest, serverReadFrom bufLen ds = some (.deliver p t r, rest) := by
  induction ds with
  | nil => exact Or.inl rfl
  | cons d rest ih =>
    rcases C08Quic_serverRead_total bufLen d with h | ⟨p, t, r, h⟩
    · simp only [serverReadFrom, h]; exact ih
    · exact Or.inr ⟨p, t, r, rest, by simp [serverReadFrom, h]⟩

/-- non-vacuity: the well-formed datagram is delivered with its own payload, source and path;
    and it still is when it arrives behind a datagram from a service address and one with an
    irreversible path (the two inputs of the counterexamples below). -/
example :
    serverRead 2048 good = .deliver ⟨[104, 105], 7, [10, 1, 2, 3], 40001, 0, []⟩ 0 [] ∧
    serverReadFrom 2048 [fromSvc, irreversible, good] =
      some (.deliver ⟨[104, 105], 7, [10, 1, 2, 3], 40001, 0, []⟩ 0 [], []) ∧
    clientRead ⟨7, v4mappedPrefix ++ [10, 1, 2, 3], 40001⟩ 2048 good
      = .deliver ⟨[104, 105], 7, [10, 1, 2, 3], 40001, 0, []⟩ ∧
    clientRead ⟨7, [10, 1, 2, 4], 40001⟩ 2048 good = .ignore := by decide +kernel

/-- The code before the fix, first defect: `readPkt` called `srcAddr.IP()` on whatever
    `scionLayer.SrcAddr()` returned without error — also a service address, for which
    `addr.Host.IP()` panics ("IP called on non-IP address"). One SCION/UDP datagram with an SVC
    source killed the NTS-KE-over-QUIC server or a client in the middle of a key exchange
    (failing input found by the check on the unrepaired code: `quic.read side=srv … st=4
    sa=00020000 …` ⇒ `panic explicit:IP_called_on_non-IP_address`; `quic.live` with the same
    bytes: the real server process is gone). As repaired the datagram is ignored. -/
theorem C08Quic_svc_source_old_counterexample :
    readPktOld 2048 fromSvc = .panic ∧ serverReadOld 2048 fromSvc = .panic ∧
    clientReadOld ⟨7, [10, 1, 2, 3], 40001⟩ 2048 fromSvc = .panic ∧
    serverReadFromOld 2048 [fromSvc, good] = some (.panic, [good]) ∧
    readPkt 2048 fromSvc = .ignore ∧ serverRead 2048 fromSvc = .ignore ∧
    clientRead ⟨7, [10, 1, 2, 3], 40001⟩ 2048 fromSvc = .ignore := by decide +kernel

/-- The code before the fix, second defect: `serverConn.ReadFrom` returned `errPathReversal` for a
    datagram whose path the reply pather cannot reverse; quic-go closes the transport on such an
    error, so the well-formed datagram behind it was never read (failing input found by the
    check: `quic.read side=srv … pt=1 path=00000000 … rev=err` ⇒ `err path-reversal`; `quic.live`:
    a key exchange with the real server no longer completes). As repaired it is ignored. -/
theorem C08Quic_irreversible_path_old_counterexample :
    serverReadOld 2048 irreversible = .errPathReversal ∧
    serverReadFromOld 2048 [irreversible, good] = some (.errPathReversal, [good]) ∧
    serverRead 2048 irreversible = .ignore ∧
    (∃ p t r, serverReadFrom 2048 [irreversible, good] = some (.deliver p t r, [])) := by
  refine ⟨by decide +kernel, by decide +kernel, by decide +kernel,
    ⟨⟨[104, 105], 7, [10, 1, 2, 3], 40001, 0, []⟩, 0, [], by decide +kernel⟩⟩

end ScionTime.C08Quic
