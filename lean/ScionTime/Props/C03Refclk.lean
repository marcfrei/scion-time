/-
  C03, constructor side: the pairing theorems of Props/C03.lean are about
  ONE client object whose `prev` state is threaded through its exchanges. A SCION reference clock
  runs one goroutine per path (`MeasureClockOffsetSCION`), each on "its" entry of `ntpcs`. That
  these entries are seven pairwise distinct objects, each with its own filter and its own state
  of a previous exchange, all configured alike, is what timeservice.go's constructor
  `newNTPReferenceClockSCION` has to establish — stated and proved here over Model/MainCfg.lean
  (objects on an explicit heap), with the aliased variant (`ntpc := &ntpcCfg` in the loop) refuted
  and its consequence for an exchange shown in the client model (timestamps of two exchanges
  combined).

  Tied to the real constructors on every run by harness/cmd/cmain (part ctor): the repository's
  binary built with -tags verif answers `main.refclk.*` / `main.cfg.*` from the real functions.
-/
import ScionTime.Model.MainCfg
import ScionTime.Proofs.ClientNtp
import ScionTime.Gen.Client

namespace ScionTime.Props.C03Refclk
open ScionTime.MainCfg

/-! ### pins (harness/extract/x_cmain.go) -/

theorem C03Refclk_pin_numClient :
    Gen.Client.main_scionRefClockNumClient = scionRefClockNumClient ∧
    Gen.Client.main_ntpcs_type = "[scionRefClockNumClient]*client.SCIONClient" ∧
    Gen.Client.main_authModeNTS = authModeNTS := ⟨by decide, rfl, rfl⟩

/-- the loop of the constructor allocates the client INSIDE the loop body (`&client.SCIONClient{…}`
    per iteration), gives it a new filter and configures NTS on that object -/
theorem C03Refclk_pin_ctor_loop :
    Gen.Client.main_newNTPReferenceClockSCION_loop =
      "for i := range len(c.ntpcs) { c.ntpcs[i] = &client.SCIONClient{ Log: log, DSCP: dscp, InterleavedMode: true, } ;; c.ntpcs[i].Filter = client.NewNtimedFilter(log) ;; if slices.Contains(authModes, authModeNTS) { configureSCIONClientNTS(c.ntpcs[i], ntskeServer, ntskeInsecureSkipVerify, daemonAddr, localAddr, remoteAddr, log) } }" ∧
    Gen.Client.main_newNTPReferenceClockSCION_prologue =
      "c := &ntpReferenceClockSCION{ log: log, localAddr: localAddr, remoteAddr: remoteAddr, }" :=
  ⟨rfl, rfl⟩

theorem C03Refclk_pin_ctor_ip :
    Gen.Client.main_newNTPReferenceClockIP_body =
      "c := &ntpReferenceClockIP{ log: log, localAddr: localAddr, remoteAddr: remoteAddr, } ;; c.ntpc = &client.IPClient{ Log: log, DSCP: dscp, InterleavedMode: true, } ;; c.ntpc.Filter = client.NewNtimedFilter(log) ;; if slices.Contains(authModes, authModeNTS) { configureIPClientNTS(c.ntpc, ntskeServer, ntskeInsecureSkipVerify, log) } ;; return c" ∧
    Gen.Client.main_ntskeServerFromRemoteAddr_body =
      "split := strings.Split(remoteAddr, \",\") ;; if len(split) < 2 { panic(\"remote address has wrong format\") } ;; return split[1]" :=
  ⟨rfl, rfl⟩

/-- what a client of the reference clock looks like when the constructor is done with it -/
def expectedClient (a : CtorArgs) (filter : Ref) : Option SCIONClient :=
  let c : SCIONClient := { log := true, dscp := a.dscp, interleavedMode := true, filter := some filter }
  if a.authModes.contains authModeNTS then
    match configureSCIONClientNTS c a.ntskeServer a.insecure a.daemonAddr a.localAddr a.remoteAddr with
    | .ok c' => some c'
    | _ => none
  else some c

theorem modify_last {α : Type} (cs : List α) (c : α) (f : α → α) :
    (cs ++ [c]).modify cs.length f = cs ++ [f c] := by
  induction cs with
  | nil => rfl
  | cons x xs ih => simp [List.modify_succ_cons, ih]

theorem heap_modify_last (cs : List SCIONClient) (c : SCIONClient) (n : Nat) (f : SCIONClient → SCIONClient) :
    (⟨cs ++ [c], n⟩ : Heap).modify cs.length f = ⟨cs ++ [f c], n⟩ := by
  simp only [Heap.modify, modify_last]

/-- `ctorStep`: the new client is a NEW object (its reference is the next free one), every
    object that existed before is untouched, the filter is a new object, and the client's
    contents are `expectedClient` -/
theorem C03Refclk_step (a : CtorArgs) (h h' : Heap) (r : Ref) (hs : ctorStep a h = .ok (h', r)) :
    r = h.clients.length ∧ h'.nfilters = h.nfilters + 1 ∧
    ∃ c, expectedClient a h.nfilters = some c ∧ h'.clients = h.clients ++ [c] := by
  obtain ⟨cs, n⟩ := h
  by_cases hc : a.authModes.contains authModeNTS = true
  · simp only [ctorStep, Heap.allocClient, Heap.allocFilter, heap_modify_last, hc, if_true, Heap.get?,
      List.getElem?_concat_length] at hs
    simp only [expectedClient, hc, if_true]
    split at hs
    · rename_i c' heq
      simp only [Res.ok.injEq, Prod.mk.injEq] at hs
      obtain ⟨rfl, rfl⟩ := hs
      exact ⟨rfl, rfl, c', by rw [heq], rfl⟩
    · cases hs
    · cases hs
  · simp only [ctorStep, Heap.allocClient, Heap.allocFilter, heap_modify_last, hc, Bool.false_eq_true, if_false,
      Res.ok.injEq, Prod.mk.injEq] at hs
    obtain ⟨rfl, rfl⟩ := hs
    simp only [expectedClient, hc, Bool.false_eq_true, if_false]
    exact ⟨trivial, trivial, _, rfl, rfl⟩

theorem ctorLoop_spec (a : CtorArgs) (n : Nat) (h h' : Heap) (acc rs : List Ref)
    (hl : ctorLoop a n h acc = .ok (h', rs)) :
    rs = acc ++ List.range' h.clients.length n ∧ h'.nfilters = h.nfilters + n ∧
    ∃ cs, cs.length = n ∧ h'.clients = h.clients ++ cs ∧
      ∀ i, i < n → cs[i]? = expectedClient a (h.nfilters + i) := by
  induction n generalizing h acc with
  | zero =>
    simp only [ctorLoop, Res.ok.injEq, Prod.mk.injEq] at hl
    obtain ⟨rfl, rfl⟩ := hl
    exact ⟨by simp, by simp, [], rfl, by simp, by intro i hi; omega⟩
  | succ n ih =>
    simp only [ctorLoop] at hl
    split at hl
    · rename_i h1 r hs
      obtain ⟨hr, hf, c, hc, hcl⟩ := C03Refclk_step a h h1 r hs
      obtain ⟨e1, e2, cs, l1, l2, l3⟩ := ih h1 (acc ++ [r]) hl
      refine ⟨?_, by omega, c :: cs, by simp [l1], by simp [l2, hcl], ?_⟩
      · rw [e1, hcl, hr]; simp [List.range'_succ]
      · intro i hi
        cases i with
        | zero => simpa using hc.symm
        | succ j =>
          rw [List.getElem?_cons_succ, l3 j (by omega), hf, Nat.add_assoc, Nat.add_comm 1 j]
    · cases hl
    · cases hl

theorem newRefClockSCION_ok (a : CtorArgs) (h h' : Heap) (k : RefClockSCION)
    (hk : newRefClockSCION a h = .ok (h', k)) :
    k = ⟨true, List.range' h.clients.length 7, a.localAddr, a.remoteAddr, false⟩ ∧
    ∃ cs, h'.clients = h.clients ++ cs ∧ ∀ i, i < 7 → cs[i]? = expectedClient a (h.nfilters + i) := by
  simp only [newRefClockSCION] at hk
  split at hk
  · rename_i h1 rs hl
    obtain ⟨e, _, cs, _, l2, l3⟩ := ctorLoop_spec a _ h h1 [] rs hl
    simp only [Res.ok.injEq, Prod.mk.injEq] at hk
    obtain ⟨rfl, rfl⟩ := hk
    rw [e]
    exact ⟨rfl, cs, l2, l3⟩
  · cases hk
  · cases hk

/-- **The clients are pairwise distinct objects.** Whenever the constructor returns a clock, its
    `ntpcs` are the seven references allocated by the seven iterations, consecutive and fresh:
    no two slots name the same `*SCIONClient`, none names an object that existed before. -/
theorem C03Refclk_clients_distinct (a : CtorArgs) (h h' : Heap) (k : RefClockSCION)
    (hk : newRefClockSCION a h = .ok (h', k)) :
    k.ntpcs = List.range' h.clients.length 7 ∧ k.ntpcs.length = 7 ∧ k.ntpcs.Nodup ∧
    (∀ r ∈ k.ntpcs, h.clients.length ≤ r) ∧
    k.localAddr = a.localAddr ∧ k.remoteAddr = a.remoteAddr ∧ k.pather = false := by
  obtain ⟨rfl, _⟩ := newRefClockSCION_ok a h h' k hk
  refine ⟨rfl, by simp, List.nodup_range', fun r hr => ?_, rfl, rfl, rfl⟩
  have := List.mem_range'_1.mp hr
  omega

/-- **Each client has its own filter and the clock's configuration.** Client `i` is a new
    object whose contents are `expectedClient` with filter object number `nfilters + i`: the
    filters are pairwise distinct new objects; interleaved mode is on; DSCP is the configured
    one; NTS is configured on it iff "nts" is among the authentication modes. Objects that
    existed before the constructor ran are unchanged. -/
theorem C03Refclk_client_contents (a : CtorArgs) (h h' : Heap) (k : RefClockSCION)
    (hk : newRefClockSCION a h = .ok (h', k)) :
    (∀ i, i < 7 → ∃ r, k.ntpcs[i]? = some r ∧ h'.get? r = expectedClient a (h.nfilters + i)) ∧
    (∀ r, r < h.clients.length → h'.get? r = h.get? r) := by
  obtain ⟨rfl, cs, l2, l3⟩ := newRefClockSCION_ok a h h' k hk
  constructor
  · intro i hi
    refine ⟨h.clients.length + i, by simp [hi], ?_⟩
    simp only [Heap.get?, l2]
    rw [List.getElem?_append_right (by omega)]
    simpa using l3 i hi
  · intro r hr
    simp only [Heap.get?, l2]
    rw [List.getElem?_append_left hr]

/-- what `expectedClient` says in the two cases -/
theorem C03Refclk_expected (a : CtorArgs) (f : Ref) (c : SCIONClient) (hc : expectedClient a f = some c) :
    c.interleavedMode = true ∧ c.dscp = a.dscp ∧ c.filter = some f ∧ c.log = true ∧
    c.authEnabled = false ∧ c.prevReference = "" ∧ c.prevInterleaved = false ∧
    (c.ntsEnabled = a.authModes.contains authModeNTS) := by
  by_cases hn : a.authModes.contains authModeNTS = true
  · simp only [expectedClient, hn, if_true, configureSCIONClientNTS] at hc
    cases hsp : splitHostPort a.ntskeServer with
    | none => simp [hsp] at hc
    | some hp =>
      obtain ⟨host, port⟩ := hp
      simp only [hsp, Option.some.injEq] at hc
      subst hc
      simp_all
  · simp only [expectedClient, hn, Bool.false_eq_true, if_false, Option.some.injEq] at hc
    subst hc
    simp_all

/-- **Own state of a previous exchange** (frame): writing client `r`'s state (`prev`, filter,
    anything) leaves every other client of the heap as it was. With `C03Refclk_clients_distinct`
    this is the hypothesis of the pairing theorems for a reference clock: the goroutine of path
    `i` threads the `prev` of object `ntpcs[i]`, and no other goroutine's writes reach it. -/
theorem C03Refclk_own_state (h : Heap) (r r' : Ref) (f : SCIONClient → SCIONClient) (hne : r ≠ r') :
    (h.modify r f).get? r' = h.get? r' := by
  simp only [Heap.modify, Heap.get?]
  rw [List.getElem?_modify]
  simp [hne]

def sampleArgs : CtorArgs :=
  { daemonAddr := "10.1.1.1:30255", localAddr := "1-ff00:0:111,127.0.0.1:0", remoteAddr := "1-ff00:0:112,10.0.0.1:10123",
    dscp := 46, authModes := ["nts", "spao"], ntskeServer := "10.0.0.1:10123", insecure := false }

/-- (ids, fids, marks, kept) of what the harness observes of a constructed clock -/
def observed (r : Res (Heap × RefClockSCION)) : Option (List Nat × List Nat × List String × Nat) :=
  match r with
  | .ok (h, k) => let o := observe h k; some (o.ids, o.fids, o.marks, o.kept)
  | _ => none

/-- non-vacuity: the constructor returns a clock for a typical configuration; marking client i's
    previous exchange with i and reading the marks back gives 0..6; resetting client 0 leaves the
    other six in interleaved mode -/
example : observed (newRefClockSCION sampleArgs {}) =
    some ([0, 1, 2, 3, 4, 5, 6], [0, 1, 2, 3, 4, 5, 6], ["0", "1", "2", "3", "4", "5", "6"], 6) := by
  decide +kernel

/-- an NTS-KE server without a port is refused when NTS is on, irrelevant when it is not -/
example : newRefClockSCION { sampleArgs with ntskeServer := "nohost" } {} = .fatal msgSplit ∧
    (observed (newRefClockSCION { sampleArgs with ntskeServer := "nohost", authModes := ["spao"] } {})).isSome = true := by
  decide +kernel

/-- **The aliased variant is refuted**: with `ntpc := &ntpcCfg` in the loop all seven slots name
    ONE object; the marks of the seven clients all read 6 (each write lands in the same `prev`),
    a reset of "client 0" takes all others out of interleaved mode, and the one object ends up
    with the filter created last. -/
theorem C03Refclk_shared_refuted :
    observed (newRefClockSCIONShared sampleArgs {}) =
      some ([0, 0, 0, 0, 0, 0, 0], [0, 0, 0, 0, 0, 0, 0], ["6", "6", "6", "6", "6", "6", "6"], 0) := by
  decide +kernel

/-! ### what sharing one client between two paths does to an exchange

Path A completed exchange a1 while the server was 2 s ahead (client 1.000 s → server 3.010 s,
3.020 s → client 1.030 s) and sends its interleaved follow-up at 2.000 s. Meanwhile path B
completes exchange b1 with the server clock stepped back to the client's time (2.100 → 2.110,
2.120 → 2.130). Then A's follow-up is answered in interleaved mode (origin = cRx(a1), receive
= 2.010 s, transmit = sTx(a1) = 3.020 s). With its OWN `prev` client A evaluates exchange a1:
offset 2 s. If A and B are one object, `prev` is b1's when the reply is evaluated: t0, t1, t3
come from b1 and t2 from a1 — offset 0.45 s, the true offsets being 2 s and 0 s. -/

open ScionTime.ClientNtp ScionTime.Time64 ScionTime.NtpMath in
/-- the request A built from its own state, evaluated against A's own state: exchange a1, 2 s;
    evaluated against B's state (shared object): accepted as well, with three timestamps of b1
    and one of a1 — 450 ms -/
theorem C03Refclk_shared_client_mixes_exchanges :
    let cfg : Cfg := ⟨.scion, true, false, true⟩
    let prevA : Prev := ⟨"S", false, ofTime 1000000000, ofTime 1030000000, ofTime 3010000000⟩
    let prevB : Prev := ⟨"S", false, ofTime 2100000000, ofTime 2130000000, ofTime 2110000000⟩
    let reqA := mkRequest cfg prevA "S" 2000000000
    let reply : Payload := ⟨48, ⟨36, 1, ofTime 1030000000, ofTime 2010000000, ofTime 3020000000⟩, true, true, true⟩
    let at2 (t : Int) : Int := toTime (ofTime t) 2000000000   -- a timestamp as decoded from the wire (C04: exact or 1 ns early)
    reqA.interleaved = true ∧
    (∃ a, ntpStage cfg prevA reqA 2000000000 2040000000 reply = .accept a ∧ a.il = true ∧
        a.t0 = at2 1000000000 ∧ a.t1 = at2 3010000000 ∧ a.t2 = at2 3020000000 ∧ a.t3 = at2 1030000000 ∧
        (a.offset.toInt - 2000000000).natAbs ≤ 2) ∧
    (∃ a, ntpStage cfg prevB reqA 2000000000 2040000000 reply = .accept a ∧ a.il = true ∧
        a.t0 = at2 2100000000 ∧ a.t1 = at2 2110000000 ∧ a.t2 = at2 3020000000 ∧ a.t3 = at2 2130000000 ∧
        (a.offset.toInt - 450000000).natAbs ≤ 2) := by
  intro cfg prevA prevB reqA reply at2
  exact ⟨by decide +kernel,
    ⟨tupleOf prevA reqA 2000000000 2040000000 reply, by decide +kernel⟩,
    ⟨tupleOf prevB reqA 2000000000 2040000000 reply, by decide +kernel⟩⟩

end ScionTime.Props.C03Refclk
