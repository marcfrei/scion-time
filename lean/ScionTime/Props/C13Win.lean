/-
  C13 (server clause) — "a request whose MAC does not verify over the received packet is never
  served": which bytes of a received SCION/UDP packet the listener decodes and answers, and which
  bytes the MAC of the request's packet authenticator is computed over (Model/ClientFlow.lean
  `srvWindows`; the decision on the MAC verdict itself is Model/ScionSrv.lean `authCheck`, whose
  oracle input `mac` is the MAC over `srvWindows.spao`).

  * `C13Win_same_window`: for every buffer and every value of the UDP length field the listener (as
    repaired) MACs the UDP header followed by exactly the byte string it decodes as NTP / NTS request.
  * `C13Win_reframed`: for every re-framed request `pre|H|F|H|P` the code decodes F and MACs H ++ F —
    the authenticator of the authentic request does not vouch for F; before the `fix:` commit the
    listener MAC'ed H ++ P while serving F (`C13Win_old_refuted`, decided).
  * `C13Win_reply_mac_covers_sent`: the MAC the listener puts on its reply covers exactly the L4 bytes
    it sends, and a client (windows as repaired, Props/C10Win) verifies it over exactly those bytes and
    evaluates exactly the payload sent.
-/
import ScionTime.Model.ClientFlow
import ScionTime.Gen.Server
import ScionTime.Props.C10Win
namespace ScionTime.Props.C13Win
open ScionTime.ClientFlow ScionTime.Props.C10Win

/-- **Same window (listener).** Bytes MAC'ed = UDP header ++ bytes decoded, whatever was received. -/
theorem C13Win_same_window (r : Rx) (w : Windows) (h : srvWindows r = some w) :
    w.nts = w.ntp ∧ ∃ c, udpDecode r.l4 = some (c, w.ntp) ∧ w.spao = c ++ w.ntp :=
  C10Win_same_window r w h

/-- **Re-framed requests**, for every header, forged request F and authentic payload P. -/
theorem C13Win_reframed (pre f p : Bytes) (a0 a1 a2 a3 a4 a5 a6 a7 : Nat)
    (hlen : a4 * 256 + a5 = 8 + p.length) (hf : f.length = p.length) :
    let h := [a0, a1, a2, a3, a4, a5, a6, a7]
    lengthAdmitted (reframed pre h f p) = true ∧
    srvWindows (reframed pre h f p) = some ⟨f, f, h ++ f⟩ ∧
    srvWindowsOld (reframed pre h f p) = some ⟨f, f, h ++ p⟩ := by
  intro h
  obtain ⟨h1, h2, _, h4⟩ := C10Win_reframed pre f p a0 a1 a2 a3 a4 a5 a6 a7 hlen hf
  exact ⟨h1, h2, h4⟩

/-- **Before the repair, decided**: on `exRx` the listener decoded `[9,9,9,9]` and computed the MAC over
    the authentic header and payload `[…,1,2,3,4]` behind it. -/
theorem C13Win_old_refuted :
    srvWindows exRx = some ⟨[9, 9, 9, 9], [9, 9, 9, 9], [0, 7, 0, 9, 0, 12, 0, 0, 9, 9, 9, 9]⟩ ∧
    srvWindowsOld exRx = some ⟨[9, 9, 9, 9], [9, 9, 9, 9], [0, 7, 0, 9, 0, 12, 0, 0, 1, 2, 3, 4]⟩ := by decide

/-- **The reply's MAC covers exactly what is sent**, and the client reads it back the same way: for
    every port pair, checksum, payload (shorter than 2^16 − 8 bytes) and every header the listener puts in
    front, the bytes MAC'ed are the L4 bytes on the wire; a client receiving `pre ++ l4` decodes the
    payload sent and verifies the authenticator over exactly the MAC'ed bytes. -/
theorem C13Win_reply_mac_covers_sent (sp dp cs : Nat × Nat) (payload pre : Bytes) (hlen : 8 + payload.length < 65536) :
    (srvReply sp dp cs payload).2 = (srvReply sp dp cs payload).1 ∧
    windows ⟨pre, (srvReply sp dp cs payload).1⟩ =
      some ⟨payload, payload, (srvReply sp dp cs payload).2⟩ ∧
    lengthAdmitted ⟨pre, (srvReply sp dp cs payload).1⟩ = true := by
  have hL : (8 + payload.length) / 256 % 256 * 256 + (8 + payload.length) % 256 = 8 + payload.length := by omega
  obtain ⟨hl, hd⟩ := udpDecode_cons8 sp.1 sp.2 dp.1 dp.2 ((8 + payload.length) / 256 % 256) ((8 + payload.length) % 256)
    cs.1 cs.2 payload.length payload hL
  have hd' : udpDecode (srvReply sp dp cs payload).1 =
      some ([sp.1, sp.2, dp.1, dp.2, (8 + payload.length) / 256 % 256, (8 + payload.length) % 256, cs.1, cs.2], payload) := by
    simpa [srvReply] using hd
  have hlf : udpLengthField (srvReply sp dp cs payload).1 = 8 + payload.length := by simpa [srvReply] using hl
  have hlen : (srvReply sp dp cs payload).1.length = 8 + payload.length := by simp [srvReply]; omega
  refine ⟨rfl, ?_, by simp [lengthAdmitted, Rx.buf, hlf, hlen]⟩
  simp only [windows, hd', Option.map_some]
  rfl

/-- **Pin** (regenerated from core/server/server_scion.go on every run, `harness/extract/x_c13win.go`):
    request MAC over the decoded UDP datagram; NTP, NTS decode and `ProcessRequest` on `udpLayer.Payload`;
    reply MAC over `buffer.Bytes()` (payload and UDP header serialised, nothing else yet). -/
theorem C13Win_pin_windows :
    Gen.Server.scionSrvPayloadWindows =
      "spao=udpLayer.Contents[:len(udpLayer.Contents)+len(udpLayer.Payload)] | ntp=udpLayer.Payload | nts.decode=udpLayer.Payload | nts.process=udpLayer.Payload | spao=buffer.Bytes()" := by
  rfl

end ScionTime.Props.C13Win
