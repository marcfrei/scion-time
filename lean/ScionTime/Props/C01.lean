/-
  Props/C01.lean — C01: the per-round clock correction is bounded whatever the sources report.

  Model: Model/Sync.lean (core/sync.Run), floats: Model/F64.lean; helper lemmas: Proofs/C01.lean,
  rounding lemmas: Proofs/F64.lean.

  Reading guide.  `M_ref = refCap c`, `M_peer = peerCap c` are the doubles
  `impact * float64(clk.Drift(SyncInterval))`.  "Float sense" (`FBound M x`) means
  `float64(|x|) <= M` evaluated as the code evaluates it; "exact sense" means `|x| ≤ M` over
  the rationals.  The two coincide for caps below 2^53 ns (104 days); above, `float64(|x|)`
  itself rounds and `|x|` may exceed `M` by less than one ulp (witness below).
-/
import ScionTime.Proofs.C01
import ScionTime.Gen.Sync

namespace ScionTime.Props.C01
open ScionTime.Sync ScionTime.F64

deriving instance DecidableEq for Except

/-! ### pins: structure of `Run` regenerated from /repo on every run (harness/extract/x_c01.go) -/

/-- the start-up panics of `Run`, in source order, are the model's `StartErr` messages -/
theorem C01_pin_startupMessages : Gen.Sync.startupMessages =
    [StartErr.refImpact, .peerImpact, .peerGap, .interval, .timeout, .refCap, .peerCap].map StartErr.msg :=
  rfl

/-- the loop body calls `adj.Do` exactly once and `clk.Sleep` exactly once, both as direct
    (unconditional) statements of the loop body -/
theorem C01_pin_oneDoOneSleep :
    Gen.Sync.adjDoCallsInLoop = 1 ∧ Gen.Sync.adjDoUnconditional = 1 ∧
    Gen.Sync.sleepCallsInLoop = 1 ∧ Gen.Sync.sleepUnconditional = 1 := ⟨rfl, rfl, rfl, rfl⟩

/-! ### Example configuration (the defaults of timeservice.go: 1.25, 2.5, 50 µs, 500 ms, 1 s;
    drift 10 µs per interval; two reference clocks, one peer) -/

def dflt : Cfg :=
  { refImpact := ofBits 0x3ff4000000000000, peerImpact := ofBits 0x4004000000000000,
    cutoff := 50000, timeout := 500000000, interval := 1000000000, drift := 10000,
    nRef := 2, nPeer := 1 }

example : admissible dflt = true := by decide +kernel
example : WF dflt.refImpact := (WF_ofBits 0x3ff4000000000000 : WF (ofBits 0x3ff4000000000000))
example : refCap dflt = .fin 12500 ∧ peerCap dflt = .fin 25000 := by decide +kernel

theorem C01_runFrom_length (c : Cfg) (h : List RoundInput) :
    ∀ st, (runFrom c st h).length = h.length := by
  induction h with
  | nil => intro st; rfl
  | cons i is ih => intro st; simp only [runFrom, List.length_cons, ih]

/-- an accepted configuration yields exactly one `adj.Do` argument per round -/
theorem C01_one_per_round (c : Cfg) (h : List RoundInput) (ha : admissible c = true) :
    ∃ cs, run c h = .ok cs ∧ cs.length = h.length :=
  ⟨_, run_of_admissible ha h, C01_runFrom_length c h _⟩

/-- a refused configuration panics before the loop: no correction at all -/
theorem C01_refused (c : Cfg) (h : List RoundInput) (ha : admissible c = false) :
    ∃ e, run c h = .error e := by
  unfold admissible at ha
  unfold run
  cases hs : startup c with
  | some e => exact ⟨e, rfl⟩
  | none => rw [hs] at ha; exact absurd ha (by simp)

example : (run dflt [{ ref := [3600000000000, 5], peer := [7] },
                     { ref := [], peer := [90000] }]) = .ok [12500, 12500] := by decide +kernel

/-- structural: the clamp returns its argument, or `time.Duration(±M)` -/
theorem C01_clamp_cases (M : F64) (x : Int64) :
    (F64.gt (f64OfDur (absDur x)) M = false ∧ clamp M x = x) ∨
    (F64.gt (f64OfDur (absDur x)) M = true ∧
      clamp M x = durOfF64 (F64.mul (F64.ofInt (sgn x)) M)) :=
  clamp_cases M x

/-- float sense, always: for every accepted configuration and EVERY int64 offset, the
    reference-clock contribution satisfies `float64(|corr|) <= M_ref`. -/
theorem C01_ref_bound (c : Cfg) (ha : admissible c = true) (x : Int64) :
    FBound (refCap c) (clamp (refCap c) x) :=
  clamp_fbound (WF_mul _ _) ((admissible_iff_literal c).mp ha).2.2.2.2.2.1 x

/-- exact sense, for caps below 2^53 ns: `|corr| ≤ M_ref` over the rationals. -/
theorem C01_ref_bound_exact (c : Cfg) (ha : admissible c = true)
    (h53 : toRat (refCap c) < ((2^53 : Int) : Rat)) (x : Int64) :
    (((clamp (refCap c) x).toInt.natAbs : Int) : Rat) ≤ toRat (refCap c) :=
  exact_of_FBound (refCap_pos_fin ha) h53 (C01_ref_bound c ha x)

example : clamp (refCap dflt) 12501 = 12500 ∧ clamp (refCap dflt) 12500 = 12500 ∧
    clamp (refCap dflt) (-3600000000000) = -12500 ∧ clamp (refCap dflt) Int64.minValue = -12500 := by
  decide +kernel

/-- The gap above 2^53: with the cap exactly 2^53, the offset 2^53 + 1 is NOT clamped
    (`float64(2^53+1) = 2^53` is not `> 2^53`), so `|corr| = M + 1 > M` in the exact sense
    while the float-sense bound holds; the excess is below one ulp (2) of the cap. -/
example : clamp (ofInt (2^53)) (Int64.ofInt (2^53 + 1)) = Int64.ofInt (2^53 + 1) ∧
    FBound (ofInt (2^53)) (Int64.ofInt (2^53 + 1)) := by
  unfold FBound; decide +kernel

/-- a peer offset within the cutoff contributes nothing: `peerClkOk` stays false … -/
theorem C01_cutoff (M : F64) (cutoff x : Int64) (havePeers : Bool) (h : absDur x ≤ cutoff) :
    (peerPart M cutoff havePeers x).2 = false := by
  rw [peerPart_within_cutoff _ h]

/-- … and the correction is then the reference-clock contribution alone (or 0). -/
theorem C01_cutoff_correction (c : Cfg) (haveRefs havePeers : Bool) (refOff peerOff : Int64)
    (h : absDur peerOff ≤ c.cutoff) :
    correction c haveRefs havePeers refOff peerOff =
      if haveRefs then clamp (refCap c) refOff else 0 := by
  unfold correction
  rw [peerPart_within_cutoff _ h]
  cases haveRefs <;> rfl

/-- beyond the cutoff the peer contributes its clamped offset (if peers are configured) -/
theorem C01_peer_beyond_cutoff (M : F64) (cutoff x : Int64) (havePeers : Bool)
    (h : absDur x > cutoff) : peerPart M cutoff havePeers x = (clamp M x, havePeers) :=
  peerPart_beyond_cutoff _ h

/-- float sense: whenever the peer side contributes, `float64(|contribution|) <= M_peer`. -/
theorem C01_peer_bound (c : Cfg) (ha : admissible c = true) (havePeers : Bool) (x : Int64)
    (hok : (peerPart (peerCap c) c.cutoff havePeers x).2 = true) :
    FBound (peerCap c) (peerPart (peerCap c) c.cutoff havePeers x).1 := by
  by_cases hcut : absDur x > c.cutoff
  · rw [peerPart_beyond_cutoff _ hcut]
    exact clamp_fbound (WF_mul _ _) ((admissible_iff_literal c).mp ha).2.2.2.2.2.2.2.1 x
  · unfold peerPart at hok; rw [if_neg hcut] at hok; exact absurd hok (by simp)

/-- exact sense, for a peer cap below 2^53 ns. -/
theorem C01_peer_bound_exact (c : Cfg) (ha : admissible c = true)
    (h53 : toRat (peerCap c) < ((2^53 : Int) : Rat)) (havePeers : Bool) (x : Int64)
    (hok : (peerPart (peerCap c) c.cutoff havePeers x).2 = true) :
    ((((peerPart (peerCap c) c.cutoff havePeers x).1.toInt.natAbs : Int)) : Rat) ≤ toRat (peerCap c) :=
  exact_of_FBound (peerCap_pos_fin ha) h53 (C01_peer_bound c ha havePeers x hok)

example : peerPart (peerCap dflt) dflt.cutoff true 50000 = (50000, false) ∧
    peerPart (peerCap dflt) dflt.cutoff true 50001 = (25000, true) ∧
    peerPart (peerCap dflt) dflt.cutoff true (-50001) = (-25000, true) ∧
    peerPart (peerCap dflt) dflt.cutoff true 25001 = (25001, false) := by decide +kernel

/-- the `switch`: 0, the reference value, the peer value, or the `Midpoint` of the two -/
theorem C01_combined (c : Cfg) (haveRefs havePeers : Bool) (refOff peerOff : Int64) :
    let r := clamp (refCap c) refOff
    let pp := peerPart (peerCap c) c.cutoff havePeers peerOff
    correction c haveRefs havePeers refOff peerOff =
      match haveRefs, pp.2 with
      | false, false => 0
      | true, false => r
      | false, true => pp.1
      | true, true => midpoint r pp.1 := by
  intro r pp
  unfold correction combine
  cases haveRefs <;> cases h : (peerPart (peerCap c) c.cutoff havePeers peerOff).2 <;> simp [pp, r, h]

/-- `|Midpoint a b| ≤ max |a| |b|` when both are below 2^62 in magnitude (no wrap-around of
    `y - x`); in that range `Midpoint` is `x + (y - x) quot 2` over the integers. -/
theorem C01_midpoint_bound (a b : Int64)
    (ha : a.toInt.natAbs < 2^62) (hb : b.toInt.natAbs < 2^62) :
    (midpoint a b).toInt = a.toInt + (b.toInt - a.toInt).tdiv 2 ∧
    (midpoint a b).toInt.natAbs ≤ max a.toInt.natAbs b.toInt.natAbs :=
  ⟨midpoint_toInt ha hb, midpoint_natAbs_le ha hb⟩

example : midpoint 12500 (-25000) = -6250 ∧ midpoint (-7) 8 = 0 ∧ midpoint 8 (-7) = 1 := by decide

/-- Beyond the hypothesis (a cap of 2^62 ns = 146 years or more) `y - x` wraps: the midpoint
    of 2^62 and −2^62−1 is MaxInt64, far outside both. -/
example : midpoint (Int64.ofInt (2^62)) (Int64.ofInt (-(2^62) - 1)) = Int64.maxValue := by decide

/-- **one round**: for every accepted configuration with caps below 2^62 ns, every state of
    the result slices and every round input, the argument of `adj.Do` satisfies
    `float64(|corr|) <= M_peer` (and `M_ref ≤ M_peer`). -/
theorem C01_round_bound (c : Cfg) (ha : admissible c = true) (hW : WF c.refImpact)
    (h62 : toRat (peerCap c) < ((2^62 : Int) : Rat)) (st : State) (i : RoundInput) :
    FBound (peerCap c) (round c st i).2 := by
  obtain ⟨r, p, d, mr, mp, A⟩ := admissible_real c hW ha
  have hmp : 0 < mp := by have := A.mr_pos; have := A.caps_le; grind
  rw [A.peerCap] at h62; simp only [toRat] at h62
  have hr62 : mr < ((2^62 : Int) : Rat) := by have := A.caps_le; grind
  have hle : F64.le (refCap c) (peerCap c) = true := by
    rw [A.refCap, A.peerCap]; exact le_fin_iff.mpr A.caps_le
  rcases correction_FBound c A.refCap A.peerCap A.mr_pos hmp hr62 h62
      (!st.ref.isEmpty) (!st.peer.isEmpty) (measure st.ref i.ref).2
      (measure st.peer (i.peer ++ (if i.localInTime then [localReferenceClockOffset] else []))).2 with h | h
  · exact FBound_weaken hle h
  · exact h

/-- **every round of every history** (float sense): the stale content of the result slices
    never matters, because the clamp is applied after the fault-tolerant midpoint to
    whatever int64 comes out of it. -/
theorem C01_history (c : Cfg) (ha : admissible c = true) (hW : WF c.refImpact)
    (h62 : toRat (peerCap c) < ((2^62 : Int) : Rat)) (h : List RoundInput) :
    ∃ cs, run c h = .ok cs ∧ cs.length = h.length ∧ ∀ x ∈ cs, FBound (peerCap c) x :=
  ⟨_, run_of_admissible ha h, C01_runFrom_length c h _,
    runFrom_forall c _ (fun st i => C01_round_bound c ha hW h62 st i) h (init c)⟩

/-- the same in the exact sense, for a peer cap below 2^53 ns (104 days):
    `|corr| ≤ M_peer = fl(peerImpact · drift)` in every round of every history. -/
theorem C01_history_exact (c : Cfg) (ha : admissible c = true) (hW : WF c.refImpact)
    (h53 : toRat (peerCap c) < ((2^53 : Int) : Rat)) (h : List RoundInput) :
    ∃ cs, run c h = .ok cs ∧ cs.length = h.length ∧
      ∀ x ∈ cs, ((x.toInt.natAbs : Int) : Rat) ≤ toRat (peerCap c) := by
  have h62 : toRat (peerCap c) < ((2^62 : Int) : Rat) := by
    have : ((2^53 : Int) : Rat) < ((2^62 : Int) : Rat) := by decide +kernel
    grind
  obtain ⟨cs, e, hl, hb⟩ := C01_history c ha hW h62 h
  exact ⟨cs, e, hl, fun x hx => exact_of_FBound (peerCap_pos_fin ha) h53 (hb x hx)⟩

/-- without peers the reference cap bounds every round -/
theorem C01_history_refs_only (c : Cfg) (ha : admissible c = true) (hn : c.nPeer = 0)
    (h : List RoundInput) :
    ∀ x ∈ runFrom c (init c) h, FBound (refCap c) x := by
  have hg := ((admissible_iff_literal c).mp ha).2.2.2.2.2.1
  refine runFrom_forall_inv c (fun st => st.peer = []) _ (fun st i hp => ⟨?_, ?_⟩) h (init c)
    (by simp [init, hn])
  · show (Sync.measure st.peer _).1 = []
    rw [hp]; rfl
  · have e : (round c st i).2 = correction c (!st.ref.isEmpty) (!st.peer.isEmpty)
        (Sync.measure st.ref i.ref).2 (Sync.measure st.peer (i.peer ++
          (if i.localInTime then [localReferenceClockOffset] else []))).2 := rfl
    rw [e, hp, show (!([] : List Int64).isEmpty) = false from rfl, correction_no_peers]
    split
    · exact clamp_fbound (WF_mul _ _) hg _
    · exact FBound_zero hg

example : admissible dflt = true ∧ WF dflt.refImpact ∧ toRat (peerCap dflt) < ((2^53 : Int) : Rat) :=
  ⟨by decide +kernel, (WF_ofBits 0x3ff4000000000000 : WF (ofBits 0x3ff4000000000000)), by decide +kernel⟩

/-- literal: `admissible` is exactly the conjunction of the negated panic conditions -/
theorem C01_admissible_iff (c : Cfg) : admissible c = true ↔
    F64.gt c.refImpact one = true ∧ F64.gt c.peerImpact one = true ∧
    F64.gt (F64.sub c.peerImpact one) c.refImpact = true ∧
    ¬ c.interval ≤ 0 ∧ ¬ (c.timeout < 0 ∨ c.timeout > c.interval / 2) ∧
    F64.gt (refCap c) fzero = true ∧ refCap c ≠ .inf false ∧
    F64.gt (peerCap c) fzero = true ∧ peerCap c ≠ .inf false :=
  admissible_iff_literal c

/-- over the rationals: an accepted configuration has FINITE factors `r`, `p` with `1 < r`,
    `1 < p`, `r < p − 1` (exactly, not only after rounding), positive interval, timeout in
    `[0, interval/2]`, positive drift, and finite positive caps `mr = fl(r·d) ≤ mp = fl(p·d)`.
    So none of the settings named in the property statement, and no NaN or infinite factor,
    is accepted. -/
theorem C01_admissible_sound (c : Cfg) (hW : WF c.refImpact) (ha : admissible c = true) :
    ∃ r p d mr mp, AdmissibleReal c r p d mr mp :=
  admissible_real c hW ha

/-- The caps are the real products `factor × drift` up to one rounding (relative error at most
    2^-53), and `float64(drift)` is the drift itself up to 2^53 ns: this connects `M_ref`,
    `M_peer` of the theorems above with "impact factor × configured drift × sync interval"
    of the statement (`drift = clk.Drift(SyncInterval)`). -/
theorem C01_cap_is_product (c : Cfg) (hW : WF c.refImpact) (ha : admissible c = true) :
    ∃ r p d mr mp, AdmissibleReal c r p d mr mp ∧
      (mr - r * d).abs ≤ (r * d) / pow2 53 ∧ (mp - p * d).abs ≤ (p * d) / pow2 53 ∧
      (c.drift.toInt ≤ 2^53 → d = (c.drift.toInt : Rat)) := by
  obtain ⟨r, p, d, mr, mp, A⟩ := admissible_real c hW ha
  have hd := drift_d_ge_one A.drift_f A.drift_pos
  exact ⟨r, p, d, mr, mp, A, cap_rel_err A.ref_gt_one hd A.refCap_eq,
    cap_rel_err A.peer_gt_one hd A.peerCap_eq, drift_d_exact A.drift_f A.drift_pos⟩

/-- NaN factors are refused (repaired checks) -/
theorem C01_nan_refused (c : Cfg) (h : c.refImpact = .nan ∨ c.peerImpact = .nan) :
    admissible c = false := by
  cases hh : admissible c with
  | false => rfl
  | true =>
    obtain ⟨h1, h2, _⟩ := (admissible_iff_literal c).mp hh
    rcases h with h | h
    · rw [h] at h1; simp [F64.gt, F64.lt, one_eq] at h1
    · rw [h] at h2; simp [F64.gt, F64.lt, one_eq] at h2

/-- infinite factors are refused (repaired checks) -/
theorem C01_inf_refused (c : Cfg) (b : Bool) (h : c.refImpact = .inf b ∨ c.peerImpact = .inf b) :
    admissible c = false := by
  cases hh : admissible c with
  | false => rfl
  | true =>
    exfalso
    obtain ⟨h1, h2, h3, _, _, h6, h7, h8, h9⟩ := (admissible_iff_literal c).mp hh
    rcases h with h | h
    · rw [h] at h1 h3
      cases b
      · unfold F64.gt at h3; rw [lt_inf_false] at h3; exact absurd h3 (by simp)
      · simp [F64.gt, F64.lt, one_eq] at h1
    · obtain ⟨mp, emp, _⟩ := gt_pos_fin h8 h9
      obtain ⟨_, _, e, _⟩ := mul_eq_fin emp
      rw [h] at e; cases e

/-! ### F14: the prologue as found accepted NaN (and +Inf) factors -/

def nanCfg : Cfg := { dflt with refImpact := .nan, nRef := 1, nPeer := 0 }

/-- `x <= bound → panic` never fires for NaN: the unrepaired prologue accepts the setting,
    the cap is NaN, nothing is ever clamped, and a 1 h offset reaches `adj.Do` unchanged
    (the repaired code hands out 12.5 µs with factor 1.25).  Reproduced on the real code:
    notes/C01-F14-replay.json. -/
theorem C01_F14_old_accepts_nan :
    admissibleOld nanCfg = true ∧ admissible nanCfg = false ∧
    runOld nanCfg [{ ref := [3600000000000], peer := [] }] = .ok [3600000000000] := by
  decide +kernel

theorem C01_F14_old_accepts_inf :
    admissibleOld { dflt with peerImpact := .inf false } = true ∧
    admissible { dflt with peerImpact := .inf false } = false := by
  decide +kernel

/-- on finite well-formed factors with a cap that does not overflow, old and repaired
    prologue agree (the repair only removes NaN / infinities) -/
theorem C01_old_eq_new_of_finite (c : Cfg)
    (h1 : isFinite c.refImpact = true) (h2 : isFinite c.peerImpact = true)
    (h3 : refCap c ≠ .inf false) (h4 : peerCap c ≠ .inf false) (h5 : refCap c ≠ .nan)
    (h6 : peerCap c ≠ .nan) (h7 : F64.sub c.peerImpact one ≠ .nan) :
    startupOld c = startup c := by
  have n1 : c.refImpact ≠ .nan := by intro h; rw [h] at h1; exact Bool.noConfusion h1
  have n2 : c.peerImpact ≠ .nan := by intro h; rw [h] at h2; exact Bool.noConfusion h2
  have n0 : one ≠ .nan := by rw [one_eq]; simp
  have nz : fzero ≠ .nan := by simp [fzero]
  unfold startupOld startup
  rw [not_gt_eq_le n1 n0, not_gt_eq_le n2 n0, not_gt_eq_le h7 n1, not_gt_eq_le h5 nz, not_gt_eq_le h6 nz]
  simp [h3, h4]

/-! ### Stale entries of the reused result slices (multi-round histories)

`Run` allocates `refClkOffsets` / `peerClkOffsets` once; a source that fails or is late in a round
leaves its slot as an earlier round left it, and `FaultTolerantMidpoint` is taken over the WHOLE
slice. So a failed source keeps voting with an old value. The statements below say exactly
what that can and cannot do. -/

/-- WHAT the fault-tolerant midpoint of a round is taken over: this round's in-time successes
    followed by the tail `ms[k:]` of the slice as the previous round left it (sorted by that
    round), `k` = number of successes — for every slice content and every list of successes. -/
theorem C01_stale_ftm_input (ms succ : List Int64) (hne : ms ≠ []) (hk : succ.length ≤ ms.length) :
    (Sync.measure ms succ).1 = sortOffsets (succ ++ ms.drop succ.length) ∧
    (Sync.measure ms succ).2 = ftmSorted (sortOffsets (succ ++ ms.drop succ.length)) := by
  have he : ms.isEmpty = false := by cases ms with
    | nil => exact absurd rfl hne
    | cons a as => rfl
  unfold Sync.measure collect
  simp only [he, Bool.false_eq_true, if_false, List.take_of_length_le hk, and_self]

/-- … and when every source of the side answers in time the old content is gone: the round's value
    depends on this round's answers only. -/
theorem C01_no_stale_when_all_answer (ms ms' succ : List Int64) (h : succ.length = ms.length)
    (h' : ms'.length = ms.length) : Sync.measure ms succ = Sync.measure ms' succ := by
  have hc : ∀ m : List Int64, m.length = succ.length → collect m succ = succ := by
    intro m hm
    unfold collect
    simp [hm]
  have e1 : ms.isEmpty = ms'.isEmpty := by
    cases ms <;> cases ms' <;> simp_all
  unfold Sync.measure
  rw [hc ms h.symm, hc ms' (h'.trans h.symm), e1]
  cases ms' with
  | nil =>
    have : ms = [] := by cases ms with
      | nil => rfl
      | cons a as => simp at h'
    subst this; rfl
  | cons a as => rfl

/-- A STALE ENTRY CAN CHANGE THE CORRECTION: same configuration (the defaults), same answers in
    this round (one of the two reference clocks answers 4 µs, the other fails), but the failed
    clock's slot still holds 0 in one history and 12 µs in the other: the corrections are 2 µs and
    8 µs. -/
theorem C01_stale_entry_changes_correction :
    (round { dflt with nPeer := 0 } { ref := [0, 0], peer := [] } { ref := [4000], peer := [] }).2 = 2000 ∧
    (round { dflt with nPeer := 0 } { ref := [0, 12000], peer := [] } { ref := [4000], peer := [] }).2 = 8000 := by
  decide +kernel

/-- … BUT NEVER THE BOUND: whatever the two slices hold (any lengths, any int64 values — every
    possible trace of every earlier round), the correction of the round is within the cap; in
    particular two histories that differ only in what failed sources left behind get corrections
    that may differ but are both bounded. -/
theorem C01_stale_entry_never_changes_bound (c : Cfg) (ha : admissible c = true) (hW : WF c.refImpact)
    (h62 : toRat (peerCap c) < ((2^62 : Int) : Rat)) (st st' : State) (i : RoundInput) :
    FBound (peerCap c) (round c st i).2 ∧ FBound (peerCap c) (round c st' i).2 :=
  ⟨C01_round_bound c ha hW h62 st i, C01_round_bound c ha hW h62 st' i⟩

/-- History form: any two histories followed by the same round input — the last corrections of both
    are within the cap, whatever the earlier rounds (failing, late, wild sources) left in the slices. -/
theorem C01_history_prefix_never_changes_bound (c : Cfg) (ha : admissible c = true) (hW : WF c.refImpact)
    (h62 : toRat (peerCap c) < ((2^62 : Int) : Rat)) (h h' : List RoundInput) (i : RoundInput) :
    (∀ x ∈ runFrom c (init c) (h ++ [i]), FBound (peerCap c) x) ∧
    (∀ x ∈ runFrom c (init c) (h' ++ [i]), FBound (peerCap c) x) :=
  ⟨runFrom_forall c _ (fun st i => C01_round_bound c ha hW h62 st i) _ _,
   runFrom_forall c _ (fun st i => C01_round_bound c ha hW h62 st i) _ _⟩

/-- the two-round histories behind `C01_stale_entry_changes_correction`: round 1 both clocks
    answer (0, 0) resp. (12 µs, 12 µs); round 2 one answers 4 µs, one fails. -/
example :
    runFrom { dflt with nPeer := 0 } (init { dflt with nPeer := 0 })
      [{ ref := [0, 0], peer := [] }, { ref := [4000], peer := [] }] = [0, 2000] ∧
    runFrom { dflt with nPeer := 0 } (init { dflt with nPeer := 0 })
      [{ ref := [12000, 12000], peer := [] }, { ref := [4000], peer := [] }] = [12000, 8000] := by
  decide +kernel

/-- `len(refClkOffsets)` never changes (so `st.ref.isEmpty` is `len(refClks) == 0` forever) -/
theorem C01_measure_length (ms succ : List Int64) : (Sync.measure ms succ).1.length = ms.length := by
  unfold Sync.measure
  split
  · rfl
  · simp only [sortOffsets_length, collect, List.length_append, List.length_take, List.length_drop]
    omega

/-- both indices used by `FaultTolerantMidpoint` are in range on a non-empty slice -/
theorem C01_ftm_indices_lt (n : Nat) (h : 0 < n) : (n - 1) / 3 < n ∧ n - 1 - (n - 1) / 3 < n := by
  omega

end ScionTime.Props.C01
