/-
  C13 — the forwarding branch of the SCION listener (end-host dispatcher) and extension headers.

  "Packets addressed to another end-host port are forwarded, payload unchanged, …": what follows the
  SCION header of a forwarded packet — hop-by-hop extension, end-to-end extension with the packet
  authenticator, UDP — as a function of what was received and of whether a kernel receive timestamp
  exists (`Model/ScionSrv.lean`: `Wire`, `fwdWire` = core/server/server_scion.go after the repair,
  `fwdWireOld` = as found).  Tied to the code by harness/cmd/c13 op `srv.fwd` (the forwarded
  datagram re-parsed with the SCION layers; listeners with and without rx timestamps).

  As found (F22): a packet `SCION | HBH | [E2E] | UDP` was forwarded without its hop-by-hop
  extension and with its end-to-end options (authenticator included) replaced by the dispatcher's
  timestamp option; without a receive timestamp nothing was written for the extensions while NextHdr
  kept announcing them — the datagram no longer parses.
-/
import ScionTime.Proofs.ScionSrv
import ScionTime.Gen.Scion
namespace ScionTime.C13
open ScionTime.ScionSrv

/-- `scion.OptTypeTimestamp`, the type of the option the dispatcher adds (driver and harness print it as `253:ts`). -/
theorem C13_pin_OptTypeTimestamp : Gen.Scion.OptTypeTimestamp = (253 : Int) := by decide

/-- What is forwarded is `fwdWire` of the received packet (with `C13_forward_fields`: SCION header
    fields, ports and payload are the received ones). -/
theorem C13_forward_wire_eq (cfg : Cfg) (p : Pkt) (f : Fwd) (h : handle cfg p = .forward f) :
    f.wire = fwdWire p ∧ f.pkt = p := by
  obtain ⟨rfl, _⟩ := handle_spec h
  exact ⟨rfl, rfl⟩

/-- `fwdWire` always gives a consistent NextHdr chain. -/
theorem C13_fwdWire_parses (p : Pkt) : (fwdWire p).parses = true := by
  unfold fwdWire Wire.parses
  cases hh : p.hbh <;> cases hs : p.stamp <;> cases he : p.e2e <;> simp

/-- **Every forwarded packet parses**: the NextHdr fields announce exactly the extension headers
    that were written. -/
theorem C13_forward_parses (cfg : Cfg) (p : Pkt) (f : Fwd) (h : handle cfg p = .forward f) :
    f.wire.parses = true := by
  rw [(C13_forward_wire_eq cfg p f h).1]; exact C13_fwdWire_parses p

/-- **The hop-by-hop extension is forwarded iff one was received, bytes unchanged.** -/
theorem C13_forward_hbh_preserved (cfg : Cfg) (p : Pkt) (f : Fwd) (h : handle cfg p = .forward f) :
    f.wire.hbh.map (·.2) = p.hbh := by
  rw [(C13_forward_wire_eq cfg p f h).1]
  unfold fwdWire
  cases p.hbh <;> simp

theorem recvOpts_received (p : Pkt) :
    (recvOpts p).filterMap EOpt.received? = p.opts := by
  unfold recvOpts
  induction p.opts with
  | nil => rfl
  | cons o os ih => simp [EOpt.received?, ih]

/-- **Every received end-to-end option is forwarded, type and data unchanged, in the received
    order, and nothing else but the dispatcher's own timestamp option is added**: that one iff a
    receive timestamp exists, as the last option. -/
theorem C13_forward_e2e_options (cfg : Cfg) (p : Pkt) (f : Fwd) (h : handle cfg p = .forward f)
    (hwf : p.extWF) :
    f.wire.received = p.opts ∧
    f.wire.e2e = (if p.stamp then some (recvOpts p ++ [.ownTs])
                  else if p.e2e then some (recvOpts p) else none) := by
  rw [(C13_forward_wire_eq cfg p f h).1]
  obtain ⟨hno, _⟩ := hwf
  unfold fwdWire Wire.received
  cases hs : p.stamp <;> cases he : p.e2e
  · have := hno he; simp [this]
  · simpa using recvOpts_received p
  · have := hno he; simp [this, recvOpts, EOpt.received?]
  · simp [List.filterMap_append, recvOpts_received p, EOpt.received?]

/-- **The packet authenticator reaches the end host**: the first authenticator option of the
    forwarded packet is that of the received one (so, the bytes the MAC covers being forwarded
    unchanged — SCION header fields, UDP header and payload, `C13_forward_fields` — a packet that
    verified before the dispatcher verifies behind it). -/
theorem C13_forward_authenticator_kept (cfg : Cfg) (p : Pkt) (f : Fwd) (h : handle cfg p = .forward f)
    (hwf : p.extWF) : f.wire.auth = p.auth := by
  unfold Wire.auth
  rw [(C13_forward_e2e_options cfg p f h hwf).1]
  exact hwf.2.symm

/-- non-vacuity: a dispatcher forward of `SCION | HBH | E2E(200, authenticator) | UDP`, without a
    receive timestamp and with one. -/
def exPkt (stamp : Bool) : Pkt :=
  { lastHop := 1, tc := 9, srcIA := 1, dstIA := 2, srcType := 0, dstType := 0,
    srcAddr := [10, 0, 0, 1], dstAddr := [127, 0, 13, 3], pathType := 0, path := [], rev := some (0, []),
    l4 := .udp, srcPort := 7, dstPort := 40000, udpLenOk := true, e2e := true,
    auth := some (List.replicate 28 5), mac := some (List.replicate 16 5), payload := [5, 6], ntpOk := false,
    hbh := some [201, 2, 9, 9], opts := [(200, [1, 2, 3, 4]), (2, List.replicate 28 5)], stamp := stamp }

example : (exPkt false).extWF ∧ (exPkt true).extWF := by decide +kernel

example : handle dispatcherCfg (exPkt false) = .forward
    { toAddr := [127, 0, 13, 3], toPort := 40000, pkt := exPkt false,
      wire := { next := .hbh, hbh := some (.e2e, [201, 2, 9, 9]),
                e2e := some [.recv 200 [1, 2, 3, 4], .recv 2 (List.replicate 28 5)] } } := by decide +kernel

example : (match handle dispatcherCfg (exPkt true) with
    | .forward f => f.wire.parses && f.wire.hbh == some (.e2e, [201, 2, 9, 9]) &&
        f.wire.e2e == some [.recv 200 [1, 2, 3, 4], .recv 2 (List.replicate 28 5), .ownTs] &&
        f.wire.auth == some (List.replicate 28 5)
    | _ => false) = true := by decide +kernel

/-- The forward *decision* and destination are those of `handle`; only the wire differs. -/
theorem C13_forward_old_same_decision (cfg : Cfg) (p : Pkt) :
    (∃ f, handleFwdOld cfg p = .forward f) ↔ (∃ f, handle cfg p = .forward f) := by
  unfold handleFwdOld
  cases handle cfg p <;> simp

theorem C13_forward_old_wire (cfg : Cfg) (p : Pkt) (f : Fwd) (h : handleFwdOld cfg p = .forward f) :
    f.wire = fwdWireOld p := by
  unfold handleFwdOld at h
  cases h' : handle cfg p <;> rw [h'] at h <;> simp at h
  rw [← h]

/-- **As found, (a): a packet with a hop-by-hop extension received without a kernel timestamp is
    forwarded as a datagram that does not parse** — NextHdr announces a hop-by-hop extension, the
    UDP header follows. -/
theorem C13_forward_old_garbled (p : Pkt) (hh : p.hbh.isSome = true) (hs : p.stamp = false) :
    (fwdWireOld p).parses = false ∧ (fwdWireOld p).hbh = none ∧ (fwdWireOld p).e2e = none := by
  unfold fwdWireOld recvNext Wire.parses
  simp [hh, hs]

/-- **As found, (b): with a receive timestamp such a packet loses its hop-by-hop extension and
    every end-to-end option it carried** — the authenticator included — in favour of the
    dispatcher's timestamp option. -/
theorem C13_forward_old_drops_extensions (p : Pkt) (hh : p.hbh.isSome = true) (hs : p.stamp = true) :
    (fwdWireOld p).hbh = none ∧ (fwdWireOld p).e2e = some [.ownTs] ∧
    (fwdWireOld p).received = [] ∧ (fwdWireOld p).auth = none := by
  unfold Wire.auth Wire.received fwdWireOld recvNext
  simp [hh, hs, EOpt.received?]

/-- Decided counterexamples on the listener as found: the dispatcher forwards `exPkt` (a) as a
    datagram that does not parse, (b) without the authenticator the received packet carried. -/
theorem C13_forward_old_counterexample_a :
    ∃ f, handleFwdOld dispatcherCfg (exPkt false) = .forward f ∧ f.wire.parses = false := by
  refine ⟨_, rfl, ?_⟩; decide +kernel

theorem C13_forward_old_counterexample_b :
    ∃ f, handleFwdOld dispatcherCfg (exPkt true) = .forward f ∧
      f.wire.parses = true ∧ (exPkt true).auth = some (List.replicate 28 5) ∧ f.wire.auth = none ∧
      f.wire.hbh = none := by
  refine ⟨_, rfl, ?_⟩; decide +kernel

/-- The repair changes nothing for packets without a hop-by-hop extension (the only packets the
    scion-time client and server send). -/
theorem C13_forward_old_agrees_without_hbh (p : Pkt) (hh : p.hbh = none) (hwf : p.extWF) :
    fwdWireOld p = fwdWire p := by
  obtain ⟨hno, _⟩ := hwf
  unfold fwdWireOld fwdWire recvNext
  cases hs : p.stamp <;> cases he : p.e2e <;> simp [hh]

example : (exPkt true).hbh ≠ none ∧ ({ exPkt true with hbh := none } : Pkt).extWF := by decide +kernel

end ScionTime.C13
