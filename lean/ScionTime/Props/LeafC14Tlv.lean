/-
  Kernel-checked ties (C14): the CSPTP TLV codecs of net/csptp/csptp.go — `EncodedRequestTLVLength`,
  `EncodeRequestTLV`, `DecodeRequestTLV`, `EncodedResponseTLVLength`, `EncodeResponseTLV`,
  `DecodeResponseTLV` — as regenerated from /repo's Go source on every run (Gen/LeafCsptp.lean) are
  the model of Model/CsptpCodec.lean, for every TLV (whose fixed-size arrays have their elements) and
  every byte slice (shorter than 2^62 bytes).
-/
import ScionTime.Props.LeafC14Csptp
import ScionTime.Proofs.C14Codec
namespace ScionTime.LeafTieC14Tlv
open ScionTime ScionTime.Gen.Leaf ScionTime.Wire ScionTime.LeafBytes ScionTime.Go ScionTime.GoLemmas
open ScionTime.LeafTieC14Csptp

theorem flag_eq (f : UInt32) : ((f &&& (1 : UInt32)) == (1 : UInt32)) = Csptp.hasServerStateDS f.toNat := by
  unfold Csptp.hasServerStateDS
  apply Bool.eq_iff_iff.mpr
  rw [beq_iff_eq, beq_iff_eq, ← UInt32.toNat_inj, UInt32.toNat_and]
  rfl

theorem C14_leaf_EncodedRequestTLVLength (tlv : S_RequestTLV) :
    (csptp_EncodedRequestTLVLength tlv).toInt = Csptp.encodedTLVLength tlv.FlagField.toNat := by
  unfold csptp_EncodedRequestTLVLength Csptp.encodedTLVLength Csptp.tlvShortLen
  rw [flag_eq]
  cases Csptp.hasServerStateDS tlv.FlagField.toNat <;> simp <;> decide

theorem C14_leaf_EncodedResponseTLVLength (tlv : S_ResponseTLV) :
    (csptp_EncodedResponseTLVLength tlv).toInt = Csptp.encodedTLVLength tlv.FlagField.toNat := by
  unfold csptp_EncodedResponseTLVLength Csptp.encodedTLVLength Csptp.tlvShortLen
  rw [flag_eq]
  cases Csptp.hasServerStateDS tlv.FlagField.toNat <;> simp <;> decide

def rv (t : S_RequestTLV) : Csptp.RequestTLV :=
  { type := t.Type'.toNat, length := t.Length.toNat, organizationID := beVal (bytesN t.OrganizationID),
    organizationSubType := beVal (bytesN t.OrganizationSubType), flagField := t.FlagField.toNat }

def decReqView : Option (S_RequestTLV × Bool) → Outcome Csptp.RequestTLV
  | none => .panic "index"
  | some (_, true) => .err "size"
  | some (t, false) => .ok (rv t)

theorem C14_leaf_DecodeRequestTLV (tlv : S_RequestTLV) (b : List UInt8) (hlen : b.length < 4611686018427387904) :
    decReqView (csptp_DecodeRequestTLV tlv b) = Csptp.decodeRequestTLV (bytesN b) := by
  have c14 := len_lt b hlen 14 14 (by decide)
  have cenc := fun t : S_RequestTLV => len_lt b hlen _ _ (C14_leaf_EncodedRequestTLVLength t)
  have hbl : (bytesN b).length = b.length := List.length_map _
  rw [C14.req_decode_eq, hbl]
  unfold csptp_DecodeRequestTLV
  by_cases h14 : b.length < 14
  · rw [if_pos (decide_eq_true (c14.mpr h14)), if_pos h14]; rfl
  · rw [if_neg (mt (fun h => c14.mp (of_decide_eq_true h)) h14), if_neg h14,
      fieldsOf_at0 _ _ (by rw [hbl, C14.tlvHead_layoutLen]; omega)]
    simp only [getK_below b 14 (by omega), Nat.reduceLT, Option.bind_some]
    simp only [cenc, be32, Csptp.reqOfFields, Csptp.tlvHeadLayout, fieldsAt, range2, range3, range4, List.map_cons, List.map_nil,
      Nat.reduceAdd, Nat.zero_add, bytesN, getD_bytes]
    by_cases henc : b.length < Csptp.encodedTLVLength
      (beVal [(b.getD 10 0).toNat, (b.getD 11 0).toNat, (b.getD 12 0).toNat, (b.getD 13 0).toNat])
    · simp only [henc, decide_true, if_true]; rfl
    · simp only [henc, decide_false, Bool.false_eq_true, if_false]
      simp only [decReqView, rv, bytesN, be16, be32, List.map_cons, List.map_nil]

def encView : Option (List UInt8) → Outcome (List Nat)
  | none => .panic "index"
  | some l => .ok (bytesN l)

/-- the first 14 bytes `EncodeRequestTLV` writes, field by field (the `show` in the proof below checks that they
    are what the generated definition writes) -/
def reqHead (tlv : S_RequestTLV) : List UInt8 :=
  List.flatten [b16 tlv.Type', b16 tlv.Length, arrN 3 tlv.OrganizationID, arrN 3 tlv.OrganizationSubType, b32 tlv.FlagField]

theorem reqHead_eq (tlv : S_RequestTLV) (h1 : tlv.OrganizationID.length = 3) (h2 : tlv.OrganizationSubType.length = 3) :
    bytesN (reqHead tlv) = encodeFields Csptp.tlvHeadLayout (Csptp.reqToFields (rv tlv)) := by
  simp only [reqHead, bytesN, List.flatten_cons, List.flatten_nil, List.map_append, b16_bytes, b32_bytes, arrN_bytes 3 _ h1,
    arrN_bytes 3 _ h2, List.map_nil, Csptp.tlvHeadLayout, Csptp.reqToFields, rv, encodeFields]

/-- trip counts of the generated `for i := 14; i != 36; i++` and `for i := 36; i != 54; i++` -/
theorem trip1 : Go.tripNe (14 : Int64) (36 : Int64) = 22 := by decide
theorem trip2 : Go.tripNe (36 : Int64) (54 : Int64) = 18 := by decide

/-- **EncodeRequestTLV**: index panic when the buffer is shorter than 36 bytes (54 with the
    ServerStateDS flag); otherwise the 14 header bytes, 22 (40) zero bytes, and the rest of the
    buffer untouched -/
theorem C14_leaf_EncodeRequestTLV (b : List UInt8) (tlv : S_RequestTLV) (hlen : b.length < 4611686018427387904)
    (h1 : tlv.OrganizationID.length = 3) (h2 : tlv.OrganizationSubType.length = 3) :
    encView (csptp_EncodeRequestTLV b tlv) = Csptp.encodeRequestTLV (bytesN b) (rv tlv) := by
  unfold csptp_EncodeRequestTLV
  show encView ((Go.getK? b 35).bind fun _ => GoSlice.writeSeqK b 0 (reqHead tlv) _) = _
  rw [GoSlice.writeSeqK_eq, trip1, trip2, flag_eq]
  have hl : (reqHead tlv).length = 14 := rfl
  have hhead := reqHead_eq tlv h1 h2
  rw [C14.req_encode_eq]
  unfold Csptp.requestTLVBytes
  have hflag : (rv tlv).flagField = tlv.FlagField.toNat := rfl
  rw [hflag]
  simp only [bytesN, List.length_map]
  by_cases hshort : b.length < 36
  · rw [getK_none b 35 (by omega), if_pos (by have := C14.encodedTLVLength_ge tlv.FlagField.toNat; omega)]; rfl
  · rw [getK_getD b 35 (by omega), Option.bind_some, GoSlice.writeSeqL_zero _ _ (by rw [hl]; omega), Option.bind_some, hl]
    rw [GoSlice.zeroLoop 22 14 14 _ (by decide) (by simp [hl]; omega) (by omega)]
    simp only []
    rw [GoSlice.splice_after _ _ b 14 22 hl List.length_replicate]
    rcases C14.encodedTLVLength_cases tlv.FlagField.toNat with ⟨hf, he⟩ | ⟨hf, he⟩
    · rw [hf, he]
      simp only [if_true]
      by_cases hshort2 : b.length < 54
      · rw [getK_none _ 53 (by simp [hl]; omega), if_pos hshort2]; rfl
      · rw [getK_getD _ 53 (by simp [hl]; omega), Option.bind_some, GoSlice.zeroLoop 18 36 36 _ (by decide) (by simp [hl]; omega) (by omega),
          if_neg hshort2]
        simp only [Option.bind_some, encView]
        rw [GoSlice.splice_after _ _ b 36 18 (by simp [hl]) List.length_replicate]
        simp only [bytesN, List.map_append, List.map_replicate, List.map_drop, zeros]
        rw [← bytesN, hhead]
        rfl
    · rw [hf, he, if_neg hshort]
      simp only [Bool.false_eq_true, if_false, Option.bind_some, encView]
      simp only [bytesN, List.map_append, List.map_replicate, List.map_drop, zeros, List.append_nil]
      rw [← bytesN, hhead]
      rfl

def dsv (d : S_ServerStateDS) : Csptp.ServerStateDS :=
  { gmPriority1 := d.GMPriority1.toNat, gmClockClass := d.GMClockClass.toNat, gmClockAccuracy := d.GMClockAccuracy.toNat,
    gmClockVariance := d.GMClockVariance.toNat, gmPriority2 := d.GMPriority2.toNat, gmClockID := d.GMClockID.toNat,
    stepsRemoved := d.StepsRemoved.toNat, timeSource := d.TimeSource.toNat, reserved := d.Reserved.toNat }

def rsv (t : S_ResponseTLV) : Csptp.ResponseTLV :=
  { type := t.Type'.toNat, length := t.Length.toNat, organizationID := beVal (bytesN t.OrganizationID),
    organizationSubType := beVal (bytesN t.OrganizationSubType), flagField := t.FlagField.toNat, error := t.Error.toNat,
    requestIngressTimestamp := ⟨beVal (bytesN t.RequestIngressTimestamp.Seconds), t.RequestIngressTimestamp.Nanoseconds.toNat⟩,
    requestCorrectionField := t.RequestCorrectionField.toInt, utcOffset := t.UTCOffset.toInt,
    serverStateDS := dsv t.ServerStateDS }

def decRespView : Option (S_ResponseTLV × Bool) → Outcome Csptp.ResponseTLV
  | none => .panic "index"
  | some (_, true) => .err "size"
  | some (t, false) => .ok (rsv t)

theorem C14_leaf_DecodeResponseTLV (tlv : S_ResponseTLV) (b : List UInt8) (hlen : b.length < 4611686018427387904) :
    decRespView (csptp_DecodeResponseTLV tlv b) = Csptp.decodeResponseTLV (bytesN b) := by
  have c14 := len_lt b hlen 14 14 (by decide)
  have cenc := fun t : S_ResponseTLV => len_lt b hlen _ _ (C14_leaf_EncodedResponseTLVLength t)
  have hbl : (bytesN b).length = b.length := List.length_map _
  rw [C14.resp_decode_eq, hbl]
  unfold csptp_DecodeResponseTLV C14.respDecoded Csptp.tlvHeadLen Csptp.tlvShortLen
  by_cases h14 : b.length < 14
  · rw [if_pos (decide_eq_true (c14.mpr h14)), if_pos h14]; rfl
  · rw [if_neg (mt (fun h => c14.mp (of_decide_eq_true h)) h14), if_neg h14,
      fieldsOf_at0 _ _ (by rw [hbl, C14.tlvHead_layoutLen]; omega)]
    simp only [getK_below b 14 (by omega), Nat.reduceLT, Option.bind_some]
    simp only [cenc, be32, flag_eq, Csptp.reqOfFields, Csptp.tlvHeadLayout, fieldsAt, range2, range3, range4, List.map_cons,
      List.map_nil, Nat.reduceAdd, Nat.zero_add, bytesN, getD_bytes]
    by_cases henc : b.length < Csptp.encodedTLVLength
      (beVal [(b.getD 10 0).toNat, (b.getD 11 0).toNat, (b.getD 12 0).toNat, (b.getD 13 0).toNat])
    · simp only [henc, decide_true, if_true]; rfl
    · simp only [henc, decide_false, Bool.false_eq_true, if_false]
      rcases C14.encodedTLVLength_cases
        (beVal [(b.getD 10 0).toNat, (b.getD 11 0).toNat, (b.getD 12 0).toNat, (b.getD 13 0).toNat]) with ⟨hf, hl⟩ | ⟨hf, hl⟩
      · simp only [hf, if_true, getK_below b 54 (by omega), Nat.reduceLT, Option.bind_some]
        rw [fieldsOf_at _ _ 14 (by rw [List.length_map, C14.respBody_layoutLen]; omega),
          fieldsOf_at _ _ 36 (by rw [List.length_map, C14.ds_layoutLen]; omega)]
        simp only [decRespView, rsv, dsv, bytesN, be16, be32, be64, u_i64, u16_i16, Csptp.respBodyLayout, Csptp.dsLayout, fieldsAt,
          range1, range2, range4, range6, range8, List.map_cons, List.map_nil, Nat.reduceAdd, Nat.add_zero, getD_bytes,
          Csptp.respOfFields, Csptp.dsOfFields, beVal_single]
      · simp only [hf, Bool.false_eq_true, if_false, getK_below b 36 (by omega), Nat.reduceLT, Option.bind_some]
        rw [fieldsOf_at _ _ 14 (by rw [List.length_map, C14.respBody_layoutLen]; omega)]
        simp only [decRespView, rsv, dsv, bytesN, be16, be32, be64, u_i64, u16_i16, Csptp.respBodyLayout, fieldsAt,
          range2, range4, range6, range8, List.map_cons, List.map_nil, Nat.reduceAdd, Nat.add_zero, getD_bytes,
          Csptp.respOfFields]
        rfl

/-- the 36 + 18 bytes `EncodeResponseTLV` writes, field by field (the `show` in the proof below checks that
    they are what the generated definition writes) -/
def resp36 (tlv : S_ResponseTLV) : List UInt8 :=
  List.flatten [b16 tlv.Type', b16 tlv.Length, arrN 3 tlv.OrganizationID, arrN 3 tlv.OrganizationSubType, b32 tlv.FlagField,
    b16 tlv.Error, arrN 6 tlv.RequestIngressTimestamp.Seconds, b32 tlv.RequestIngressTimestamp.Nanoseconds,
    b64 tlv.RequestCorrectionField.toUInt64, bi16 tlv.UTCOffset]

def resp18 (tlv : S_ResponseTLV) : List UInt8 :=
  List.flatten [[tlv.ServerStateDS.GMPriority1, tlv.ServerStateDS.GMClockClass, tlv.ServerStateDS.GMClockAccuracy],
    b16 tlv.ServerStateDS.GMClockVariance, [tlv.ServerStateDS.GMPriority2], b64 tlv.ServerStateDS.GMClockID,
    b16 tlv.ServerStateDS.StepsRemoved, [tlv.ServerStateDS.TimeSource, tlv.ServerStateDS.Reserved]]

theorem toU16_b0 (x : Int) : toU 16 x / 256 ^ 0 % 256 = toU 16 x % 256 := by simp

theorem resp36_eq (tlv : S_ResponseTLV) (h1 : tlv.OrganizationID.length = 3) (h2 : tlv.OrganizationSubType.length = 3)
    (h3 : tlv.RequestIngressTimestamp.Seconds.length = 6) :
    bytesN (resp36 tlv) = encodeFields Csptp.tlvHeadLayout (Csptp.respHeadFields (rsv tlv)) ++
      encodeFields Csptp.respBodyLayout (Csptp.respBodyFields (rsv tlv)) := by
  simp only [resp36, bytesN, List.flatten_cons, List.flatten_nil, List.map_append, b16_bytes, b32_bytes, b64_bytes,
    arrN_bytes 3 _ h1, arrN_bytes 3 _ h2, arrN_bytes 6 _ h3, bi16_bytes, List.map_nil, i64_u,
    Csptp.tlvHeadLayout, Csptp.respBodyLayout, Csptp.respHeadFields, Csptp.respBodyFields, rsv, encodeFields]
  simp only [beBytes, List.append_nil, List.append_assoc]

theorem resp18_eq (tlv : S_ResponseTLV) :
    bytesN (resp18 tlv) = encodeFields Csptp.dsLayout (Csptp.dsToFields (rsv tlv).serverStateDS) := by
  simp only [resp18, bytesN, List.flatten_cons, List.flatten_nil, List.map_append, b16_bytes, b64_bytes, List.map_cons, List.map_nil,
    Csptp.dsLayout, Csptp.dsToFields, rsv, dsv, encodeFields]
  simp only [beBytes, u8_b, List.cons_append, List.nil_append, List.append_nil]

/-- **EncodeResponseTLV**: index panic when the buffer is shorter than 36 bytes (54 with the
    ServerStateDS flag); otherwise the model's bytes, the rest of the buffer untouched -/
theorem C14_leaf_EncodeResponseTLV (b : List UInt8) (tlv : S_ResponseTLV)
    (h1 : tlv.OrganizationID.length = 3) (h2 : tlv.OrganizationSubType.length = 3)
    (h3 : tlv.RequestIngressTimestamp.Seconds.length = 6) :
    encView (csptp_EncodeResponseTLV b tlv) = Csptp.encodeResponseTLV (bytesN b) (rsv tlv) := by
  unfold csptp_EncodeResponseTLV
  show encView ((Go.getK? b 35).bind fun _ => GoSlice.writeSeqK b 0 (resp36 tlv) fun b =>
    (if ((tlv.FlagField &&& (1 : UInt32)) == (1 : UInt32)) then
      (Go.getK? b 53).bind fun _ => GoSlice.writeSeqK b 36 (resp18 tlv) fun b => some b
    else some b).bind fun b => some b) = _
  simp only [GoSlice.writeSeqK_eq, flag_eq]
  have hl : (resp36 tlv).length = 36 := rfl
  have hl2 : (resp18 tlv).length = 18 := rfl
  have e36 := resp36_eq tlv h1 h2 h3
  rw [C14.resp_encode_eq]
  unfold Csptp.responseTLVBytes
  have hflag : (rsv tlv).flagField = tlv.FlagField.toNat := rfl
  rw [hflag]
  simp only [bytesN, List.length_map]
  by_cases hshort : b.length < 36
  · rw [getK_none b 35 (by omega), if_pos (by have := C14.encodedTLVLength_ge tlv.FlagField.toNat; omega)]; rfl
  · rw [getK_getD b 35 (by omega), Option.bind_some, GoSlice.writeSeqL_zero _ _ (by rw [hl]; omega), Option.bind_some, hl]
    rcases C14.encodedTLVLength_cases tlv.FlagField.toNat with ⟨hf, he⟩ | ⟨hf, he⟩
    · rw [hf, he]
      simp only [if_true]
      by_cases hshort2 : b.length < 54
      · rw [getK_none _ 53 (by simp [hl]; omega), if_pos hshort2]; rfl
      · rw [getK_getD _ 53 (by simp [hl]; omega), Option.bind_some, GoSlice.writeSeqL_some _ _ _ (by simp [hl, hl2]; omega), if_neg hshort2]
        simp only [Option.bind_some, encView, hl2]
        rw [GoSlice.splice_after _ _ b 36 18 hl hl2]
        simp only [bytesN, List.map_append, List.map_drop]
        rw [← bytesN, e36, ← bytesN, resp18_eq]
    · rw [hf, he, if_neg hshort]
      simp only [Bool.false_eq_true, if_false, Option.bind_some, encView, List.append_nil]
      simp only [bytesN, List.map_append, List.map_drop]
      rw [← bytesN, e36]

/-! non-vacuity through the generated definitions: a request TLV with the ServerStateDS flag needs
    54 bytes (53 panic; without the flag 36 suffice) and decodes back; a response TLV with the flag
    round-trips including its ServerStateDS, and without it decodes with a zero one -/

def exReq (flag : UInt32) : S_RequestTLV := { Type' := 3, Length := 50, OrganizationID := [0xec, 0x46, 0x70], OrganizationSubType := [0x52, 0x65, 0x71], FlagField := flag }
def zeroReq : S_RequestTLV := { Type' := 0, Length := 0, OrganizationID := [0, 0, 0], OrganizationSubType := [0, 0, 0], FlagField := 0 }
example : ((csptp_EncodeRequestTLV (List.replicate 55 9) (exReq 1)).bind fun b => (csptp_DecodeRequestTLV zeroReq b).map fun r => (rv r.1, r.2, b.drop 52)) =
    some (rv (exReq 1), false, [0, 0, 9]) := by decide +kernel
example : csptp_EncodeRequestTLV (List.replicate 53 9) (exReq 1) = none ∧ (csptp_EncodeRequestTLV (List.replicate 36 9) (exReq 0)).isSome := by decide +kernel
def exDS : S_ServerStateDS := ⟨1, 2, 3, 0x0405, 6, 0x1112131415161718, 0x2122, 7, 8⟩
def exResp (flag : UInt32) : S_ResponseTLV :=
  { Type' := 3, Length := 50, OrganizationID := [0xec, 0x46, 0x70], OrganizationSubType := [0x52, 0x65, 0x73], FlagField := flag, Error := 1,
    RequestIngressTimestamp := ⟨[1, 2, 3, 4, 5, 6], 0x61626364⟩, RequestCorrectionField := -5, UTCOffset := -37, ServerStateDS := exDS }
def zeroResp : S_ResponseTLV :=
  { Type' := 0, Length := 0, OrganizationID := [0, 0, 0], OrganizationSubType := [0, 0, 0], FlagField := 0, Error := 0,
    RequestIngressTimestamp := ⟨[0, 0, 0, 0, 0, 0], 0⟩, RequestCorrectionField := 0, UTCOffset := 0, ServerStateDS := ⟨9, 9, 9, 9, 9, 9, 9, 9, 9⟩ }
example : ((csptp_EncodeResponseTLV (List.replicate 54 9) (exResp 1)).bind fun b => (csptp_DecodeResponseTLV zeroResp b).map fun r => (rsv r.1, r.2)) =
    some (rsv (exResp 1), false) := by decide +kernel
example : ((csptp_EncodeResponseTLV (List.replicate 54 9) (exResp 0)).bind fun b => (csptp_DecodeResponseTLV zeroResp b).map fun r => (rsv r.1).serverStateDS) =
    some Csptp.zeroDS := by decide +kernel

end ScionTime.LeafTieC14Tlv
