/-
  C07, capacity regime: the closed form of the fill.

  The harness op `srv.bulk n idbase base step d` performs `n` real `handleRequest` calls of
  `n` fresh clients with receive times `base + i*step`; the model driver takes the closed form
  `fillState` instead of replaying a million requests through the association-list model.
  This module proves the closed form equal to the replay (`C07_fill_closed_form`), up to the
  order of the association list (`fillStateRev` is the literal result), and
  `C07_order_unobservable*` (below) proves that no operation of the model observes that order.
-/
import ScionTime.Proofs.ServerFill
import ScionTime.Proofs.ServerExt
namespace ScionTime.Props.C07Fill
open ScionTime.Time64 ScionTime.Server

/-- Iterating the single-request step for `n ≤ cap` fresh clients whose receive timestamps
    do not decrease (in the order of `Time64.Before`) gives exactly the closed form: every
    client has its one exchange, `qval` = its rx, `qidx` = its arrival index, the heap array
    is the arrival order (no swap ever happens), nobody is evicted. -/
theorem C07_fill_closed_form (cap icap n idbase : Nat) (base step d : Int) (hn : n ≤ cap)
    (hmono : ∀ i j, i < j → j < n →
      before (ofTime (fillRxt base step j)) (ofTime (fillRxt base step i)) = false) :
    fillReplay cap icap n idbase base step d = fillStateRev n idbase base step d := by
  induction n with
  | zero => rfl
  | succ n ih =>
    have ih' := ih (by omega) (fun i j hij hj => hmono i j hij (by omega))
    unfold fillReplay at ih' ⊢
    rw [List.range_succ, List.foldl_append, ih']
    simp only [List.foldl_cons, List.foldl_nil]
    exact fill_step cap icap n idbase base step d (by omega) (fun i hi => hmono i n hi (by omega))

/-- The hypothesis holds for non-negative steps within one NTP era (1900-01-01 … 2036-02-07). -/
theorem C07_fill_closed_form_era (cap icap n idbase : Nat) (base step d : Int) (hn : n ≤ cap)
    (hstep : 0 ≤ step) (hlo : -2208988800 * 1000000000 ≤ base)
    (hhi : base + (n : Int) * step < (-2208988800 + 4294967296) * 1000000000) :
    fillReplay cap icap n idbase base step d = fillStateRev n idbase base step d := by
  apply C07_fill_closed_form cap icap n idbase base step d hn
  intro i j hij hj
  have h1 : (i : Int) * step ≤ (j : Int) * step := Int.mul_le_mul_of_nonneg_right (by omega) hstep
  have h2 : (j : Int) * step ≤ (n : Int) * step := Int.mul_le_mul_of_nonneg_right (by omega) hstep
  have h3 : 0 ≤ (i : Int) * step := Int.mul_nonneg (by omega) hstep
  apply ofTime_mono_in_era <;> unfold fillRxt <;> omega

/-- non-vacuity: the fill the harness performs at the real capacity (2^20 clients, 1 µs apart,
    in 2023) meets the hypotheses -/
example : (1048576 : Nat) ≤ tssCap ∧ (0 : Int) ≤ 1000 ∧
    -2208988800 * 1000000000 ≤ (1700000007000000000 : Int) ∧
    (1700000007000000000 : Int) + ((1048576 : Nat) : Int) * 1000 < (-2208988800 + 4294967296) * 1000000000 := by
  decide

/-- a small instance evaluated on the model: the replay of three requests is the closed form -/
example : (fillReplay 4 8 3 10 1700000000000000000 1000 50).items =
      (fillStateRev 3 10 1700000000000000000 1000 50).items ∧
    (fillReplay 4 8 3 10 1700000000000000000 1000 50).heap = #[10, 11, 12] := by
  decide

/-- The state the driver uses (`fillState`, entries oldest first) and the literal result of
    the replay differ only in the order of the association list: same heap, same number of
    entries, and every lookup gives the same item. -/
theorem C07_fill_state_same_lookups (n idbase : Nat) (base step d : Int) :
    (fillState n idbase base step d).heap = (fillStateRev n idbase base step d).heap ∧
    (fillState n idbase base step d).items.length = (fillStateRev n idbase base step d).items.length ∧
    ∀ k, (fillState n idbase base step d).items.find k = (fillStateRev n idbase base step d).items.find k := by
  refine ⟨rfl, by simp [fillState, fillStateRev], fun k => ?_⟩
  exact (find_reverse_of_nodup _ (fill_keys_nodup n idbase base step d) k).symm

/-! ### the order of the association list is not observable

  `SExt st st'` (Proofs/ServerExt): same heap array, both maps with pairwise distinct keys,
  the same number of entries and the same item under every key. -/

/-- `handleRequest` (repaired and original) maps `SExt`-related states to `SExt`-related
    states and returns the same reply, out-parameters and evicted client. -/
theorem C07_order_unobservable_hr (strict : Bool) (cap icap : Nat) (st st' : State) (h : SExt st st')
    (id : Nat) (req : Req) (rxt now : Int) :
    SExt (handleRequestG strict cap icap st id req rxt now).st (handleRequestG strict cap icap st' id req rxt now).st ∧
    (handleRequestG strict cap icap st id req rxt now).reply = (handleRequestG strict cap icap st' id req rxt now).reply ∧
    (handleRequestG strict cap icap st id req rxt now).rxt = (handleRequestG strict cap icap st' id req rxt now).rxt ∧
    (handleRequestG strict cap icap st id req rxt now).txt = (handleRequestG strict cap icap st' id req rxt now).txt ∧
    (handleRequestG strict cap icap st id req rxt now).evicted = (handleRequestG strict cap icap st' id req rxt now).evicted := by
  unfold handleRequestG
  rw [← h.items.find id]
  cases hc : st.items.find id with
  | some it =>
    dsimp only
    generalize uniq it.buf rxt _ _ = u
    have h1 := hrFix_ext h id it.qidx (scan it.buf req.org).mx (ofTime u.1)
    exact ⟨⟨h1.heap, h1.items.modify _ _⟩, rfl, rfl, rfl, rfl⟩
  | none =>
    simp only
    have he := evict_ext h cap (ofTime rxt)
    rw [he.1.items.len]
    split
    · exact ⟨he.1, rfl, rfl, rfl, he.2⟩
    · have hp := push_ext (he.1.cons id { buf := [], qval := ofTime rxt, qidx := 0 }
        (find_none_evict cap st (ofTime rxt) id hc)) id
      exact ⟨⟨hp.heap, hp.items.modify _ _⟩, rfl, rfl, rfl, he.2⟩

theorem C07_order_unobservable_utx (st st' : State) (h : SExt st st') (id : Nat) (rxt txt1 : Int) :
    SExt (updateTX st id rxt txt1).1 (updateTX st' id rxt txt1).1 ∧
    (updateTX st id rxt txt1).2 = (updateTX st' id rxt txt1).2 := by
  unfold updateTX
  rw [← h.items.find id]
  cases st.items.find id with
  | none => exact ⟨h, rfl⟩
  | some it =>
    simp only
    have h1 := utxFix_ext h id it.qidx
      (scan2 it.buf (ofTime rxt)).m0 (scan2 it.buf (ofTime rxt)).m1 (ofTime rxt)
    generalize (if ¬ rxt < txt1 then rxt + 1 else txt1) = txt
    split
    · exact ⟨h, rfl⟩
    · split
      · exact ⟨⟨h.heap, h.items.modify _ _⟩, rfl⟩
      · split
        · exact ⟨remove_ext h _ _, rfl⟩
        · exact ⟨⟨h1.heap, h1.items.modify _ _⟩, rfl⟩

theorem C07_order_unobservable_run (cap icap : Nat) (st st' : State) (h : SExt st st') (ops : List Op) :
    SExt (run cap icap st ops) (run cap icap st' ops) := by
  induction ops generalizing st st' with
  | nil => exact h
  | cons op ops ih =>
    refine ih _ _ ?_
    cases op with
    | hr id req rxt now => exact (C07_order_unobservable_hr true cap icap st st' h id req rxt now).1
    | utx id rxt txt1 => exact (C07_order_unobservable_utx st st' h id rxt txt1).1

/-- the driver's closed form and the literal result of the replay are related -/
theorem C07_fill_state_ext (n idbase : Nat) (base step d : Int) :
    SExt (fillState n idbase base step d) (fillStateRev n idbase base step d) where
  heap := rfl
  items :=
    { find := (C07_fill_state_same_lookups n idbase base step d).2.2
      len := (C07_fill_state_same_lookups n idbase base step d).2.1
      nd := fill_keys_nodup n idbase base step d
      nd' := by
        unfold fillStateRev Map.keys
        rw [List.map_reverse]
        exact List.pairwise_reverse.2 ((fill_keys_nodup n idbase base step d).imp Ne.symm) }

/-- What the correspondence at the real capacity rests on: any history that starts from the
    driver's closed form proceeds exactly as from the state the `n` real requests produce —
    related states after every further operation, and the same answer to the next request. -/
theorem C07_fill_then_history (cap icap n idbase : Nat) (base step d : Int) (hn : n ≤ cap)
    (hmono : ∀ i j, i < j → j < n →
      before (ofTime (fillRxt base step j)) (ofTime (fillRxt base step i)) = false)
    (ops : List Op) (id : Nat) (req : Req) (rxt now : Int) :
    let a := run cap icap (fillState n idbase base step d) ops
    let b := run cap icap (fillReplay cap icap n idbase base step d) ops
    SExt a b ∧
    (handleRequest cap icap a id req rxt now).reply = (handleRequest cap icap b id req rxt now).reply ∧
    (handleRequest cap icap a id req rxt now).evicted = (handleRequest cap icap b id req rxt now).evicted ∧
    (handleRequest cap icap a id req rxt now).st.heap = (handleRequest cap icap b id req rxt now).st.heap := by
  intro a b
  have hab : SExt a b := by
    show SExt (run cap icap (fillState n idbase base step d) ops) (run cap icap (fillReplay cap icap n idbase base step d) ops)
    rw [C07_fill_closed_form cap icap n idbase base step d hn hmono]
    exact C07_order_unobservable_run cap icap _ _ (C07_fill_state_ext n idbase base step d) ops
  have ho := C07_order_unobservable_hr true cap icap a b hab id req rxt now
  exact ⟨hab, ho.2.1, ho.2.2.2.2, ho.1.heap⟩

/-- non-vacuity on the model: a full table of 3, closed form vs replay, then a newcomer older
    than the least recently active client (stateless) and one at least as recent (evicts) -/
example :
    (handleRequest 3 8 (fillState 3 10 1700000000000000000 1000 50) 99 zeroReq 1699999999999999999 1700000000000005000).evicted = none ∧
    (handleRequest 3 8 (fillReplay 3 8 3 10 1700000000000000000 1000 50) 99 zeroReq 1699999999999999999 1700000000000005000).evicted = none ∧
    (handleRequest 3 8 (fillState 3 10 1700000000000000000 1000 50) 99 zeroReq 1700000000000000000 1700000000000005000).evicted = some 10 ∧
    (handleRequest 3 8 (fillReplay 3 8 3 10 1700000000000000000 1000 50) 99 zeroReq 1700000000000000000 1700000000000005000).evicted = some 10 := by
  decide

end ScionTime.Props.C07Fill
