/-
  C06, client identity: "timestamps recorded for one client are never served to another"
  is proved in Props/C06 for the identity string handed to `handleRequest` /
  `updateTXTimestamp` (`C06_no_cross_client`). This module covers the step before it: the
  listeners' construction of that string is injective on what identifies a client on the
  wire — (ISD-AS, host address) for SCION, host address for IP — so two distinct clients
  never share a key of the store.
-/
import ScionTime.Proofs.ClientId
import ScionTime.Gen.Server
namespace ScionTime.Props.C06Ident
open ScionTime.ClientId

/-! ### pins: the expressions in the source are the modelled ones -/

theorem C06_pin_clientIdScion_operands :
    Gen.Server.clientIdScionOperands = ["scionLayer.SrcIA.String()", "\",\"", "srcAddr.String()"] := rfl

theorem C06_pin_clientIdScion_sep : Gen.Server.clientIdScionSep = sep := by decide

theorem C06_pin_clientIdScion_srcAddr :
    Gen.Server.clientIdScionSrcAddr = "netip.AddrFromSlice(scionLayer.RawSrcAddr)" := rfl

theorem C06_pin_clientIdIp_operands :
    Gen.Server.clientIdIpOperands = ["srcAddr.Addr().String()"] := rfl

theorem C06_pin_clientIdIp_srcAddr :
    Gen.Server.clientIdIpSrcAddr = "conn.ReadMsgUDPAddrPort(buf, oob)" := rfl

/-- in both listeners the variable defined by `clientID := …` (defined once, never
    reassigned) is the first argument of the single `handleRequest` and of the single
    `updateTXTimestamp` call (harness/extract/x_c06.go) -/
theorem C06_pin_clientID_passed :
    Gen.Server.fact_clientID_passed_runIPServer = true ∧
    Gen.Server.fact_clientID_passed_runSCIONServer = true := by decide

/-- The SCION identity is injective on (IA text, host text) as soon as the IA texts contain
    no separator character; nothing is assumed about the host texts. -/
theorem C06_clientIdScionL_injective (ia₁ ia₂ h₁ h₂ : List Char)
    (n₁ : sepChar ∉ ia₁) (n₂ : sepChar ∉ ia₂)
    (e : clientIdScionL ia₁ h₁ = clientIdScionL ia₂ h₂) : ia₁ = ia₂ ∧ h₁ = h₂ :=
  split_at_sep sepChar ia₁ ia₂ h₁ h₂ n₁ n₂ e

/-- the same on `String`s, the type the code uses -/
theorem C06_clientIdScion_injective (ia₁ ia₂ h₁ h₂ : String)
    (n₁ : sepChar ∉ ia₁.toList) (n₂ : sepChar ∉ ia₂.toList)
    (e : clientIdScion ia₁ h₁ = clientIdScion ia₂ h₂) : ia₁ = ia₂ ∧ h₁ = h₂ := by
  have e' := congrArg String.toList e
  rw [clientIdScion_toList, clientIdScion_toList] at e'
  have := C06_clientIdScionL_injective _ _ _ _ n₁ n₂ e'
  exact ⟨String.toList_inj.mp this.1, String.toList_inj.mp this.2⟩

/-- non-vacuity: the hypotheses hold for real IA texts, and distinct pairs get distinct keys -/
example : sepChar ∉ "1-ff00:0:110".toList ∧
    clientIdScion "1-ff00:0:1" "10::1" ≠ clientIdScion "1-ff00:0:110" "::1" := by decide

/-- The IP identity is the host text itself. -/
theorem C06_clientIdIp_injective (h₁ h₂ : String) (e : clientIdIp h₁ = clientIdIp h₂) : h₁ = h₂ := e

/-- Without the separator the construction is not injective, even on comma-free IA texts:
    the hex AS group and a compressed IPv6 host run into each other (seeded change C06-6). -/
theorem C06_clientIdScionNoSep_not_injective :
    ∃ ia₁ h₁ ia₂ h₂ : String, sepChar ∉ ia₁.toList ∧ sepChar ∉ ia₂.toList ∧
      (ia₁, h₁) ≠ (ia₂, h₂) ∧ clientIdScionNoSep ia₁ h₁ = clientIdScionNoSep ia₂ h₂ :=
  ⟨"1-ff00:0:1", "10::1", "1-ff00:0:110", "::1", by decide, by decide, by decide, by decide⟩

/-- `addr.IA.String()` contains no `,` — the hypothesis of the injectivity theorem holds for
    every 64-bit ISD-AS value. -/
theorem C06_iaText_no_sep (ia : Nat) : sepChar ∉ iaText ia := by
  have hs := not_mem_toDigits_of_ne_digitChar sepChar (fun _ => Nat.digitChar_ne sepChar (by decide))
  have d10 := hs 10 (by decide)
  have d16 := hs 16 (by decide)
  have ne1 : sepChar ≠ '-' := by decide
  have ne2 : sepChar ≠ ':' := by decide
  unfold iaText asText
  split <;> simp only [List.mem_append, List.mem_cons, not_or] <;> simp [d10, d16, ne1, ne2]

/-- `addr.IA.String()` (as modelled by `iaText`, compared with the library on every run) is
    injective on 64-bit ISD-AS values: decimal ISD, `-`, then a decimal AS (no `:`) or three
    hex groups separated by `:`. -/
theorem C06_iaText_injective (a b : Nat) (ha : a < 18446744073709551616) (hb : b < 18446744073709551616)
    (h : iaText a = iaText b) : a = b := iaText_inj a b ha hb h

/-- The SCION identity is injective on (ISD-AS value, host text): two requests get the same
    key of the timestamp store only if they come from the same ISD-AS and the same host text. -/
theorem C06_clientIdScion_injective_on_ia_host (ia₁ ia₂ : Nat) (h₁ h₂ : List Char)
    (b₁ : ia₁ < 18446744073709551616) (b₂ : ia₂ < 18446744073709551616)
    (e : clientIdScionL (iaText ia₁) h₁ = clientIdScionL (iaText ia₂) h₂) : ia₁ = ia₂ ∧ h₁ = h₂ := by
  have := C06_clientIdScionL_injective _ _ _ _ (C06_iaText_no_sep ia₁) (C06_iaText_no_sep ia₂) e
  exact ⟨C06_iaText_injective _ _ b₁ b₂ this.1, this.2⟩

example : clientIdScionL (iaText 0x0001ff0000000001) "10::1".toList ≠
    clientIdScionL (iaText 0x0001ff0000000110) "::1".toList := by decide

example : String.ofList (iaText 0x0001ff0000000110) = "1-ff00:0:110" := by decide
example : String.ofList (iaText 0x004700000000fc00) = "71-64512" := by decide

end ScionTime.Props.C06Ident
