/-
  Kernel-checked ties for leaf functions: the Lean definitions that the leaf translator
  regenerates from /repo's Go source on every run (Gen/Leaf.lean) are equal to the
  hand-written models the property theorems are about. A change to one of these Go functions
  changes the generated definition and breaks the corresponding theorem here.
-/
import ScionTime.Gen.Leaf
import ScionTime.Model.Time64
import ScionTime.Proofs.Time64Conv
namespace ScionTime.LeafTie
open ScionTime ScionTime.Gen.Leaf ScionTime.GoLemmas

/-- view of a generated `S_Time64` as the model's timestamp -/
def t64 (x : S_Time64) : Time64.T64 := { sec := x.Seconds.toNat, frac := x.Fraction.toNat }

theorem C04_leaf_Time64_Before (a b : S_Time64) :
    ntp_Time64_Before a b = Time64.before (t64 a) (t64 b) :=
  u32_lt_or_eq_and_lt a.Seconds b.Seconds a.Seconds b.Seconds a.Fraction b.Fraction

theorem C04_leaf_Time64_After (a b : S_Time64) :
    ntp_Time64_After a b = Time64.after (t64 a) (t64 b) :=
  u32_lt_or_eq_and_lt b.Seconds a.Seconds a.Seconds b.Seconds b.Fraction a.Fraction

/-! ### The two conversions themselves

`ntp.Time64FromTime` and `ntp.TimeFromTime64` as regenerated from the Go source — over Go's
wrapping `int64`/`uint32` arithmetic, with `time.Time` operations from Model/GoPrelude.lean — are
the integer models `Time64.ofTime` / `Time64.toTime` that every C04 theorem is about, for every
instant whose Unix seconds lie within ±2^62 (encode) resp. ±2^61 (decode; year ±7·10^10). The
range hypothesis only excludes wrap-around of the int64 seconds arithmetic. -/

theorem C04_leaf_Time64FromTime (t : Int)
    (h : -4611686018427387904 ≤ t / 1000000000 ∧ t / 1000000000 < 4611686018427387904) :
    t64 (ntp_Time64FromTime t) = Time64.ofTime t := by
  have hu : (Go.Time.unix t).toInt = t / 1000000000 :=
    Int64.toInt_ofInt_of_le (by omega) (by omega)
  have hn : (Go.Time.nanosecond t).toInt = t % 1000000000 :=
    Int64.toInt_ofInt_of_le (by omega) (by omega)
  have hs : (Go.shl64 (Go.Time.nanosecond t) 32).toInt = t % 1000000000 * 4294967296 := by
    rw [toInt_shl64_32 _ (by omega) (by omega), hn]
  have hE : (-2208988800 : Int64).toInt = -2208988800 := by decide
  have hG : (1000000000 : Int64).toInt = 1000000000 := by decide
  unfold ntp_Time64FromTime t64 Time64.ofTime Time64.unixSec Time64.nanosecond
  simp only [Time64.epoch, Time64.era, Time64.nsPerSec, Time64.T64.mk.injEq]
  rw [toNat_narrow32, toNat_narrow32, toInt_sub_eq hu hE (by omega),
    toInt_div_nonneg hs hG (by omega) (by omega)]
  constructor
  · rfl
  · omega

/-- premises satisfiable: 10 s after the 2036 era rollover -/
example : -4611686018427387904 ≤ (2085978506000000000 : Int) / 1000000000 ∧
    (2085978506000000000 : Int) / 1000000000 < 4611686018427387904 := by omega

theorem C04_leaf_TimeFromTime64 (x : S_Time64) (t0 : Int)
    (h : -2305843009213693952 ≤ t0 / 1000000000 ∧ t0 / 1000000000 < 2305843009213693952) :
    ntp_TimeFromTime64 x t0 = Time64.toTime (t64 x) t0 := by
  have hu : (Go.Time.unix t0).toInt = t0 / 1000000000 :=
    Int64.toInt_ofInt_of_le (by omega) (by omega)
  have hG : (1000000000 : Int64).toInt = 1000000000 := by decide
  have hS := x.Seconds.toNat_lt
  have hF := x.Fraction.toNat_lt
  have h_ns := toInt_mul_eq (toInt_widen32 x.Fraction) hG (by omega)
  unfold ntp_TimeFromTime64 Time64.toTime Time64.mkTime Time64.decNs Time64.unixSec t64 Go.unixTime
  simp only [Time64.nsPerSec, Time64.era]
  rw [toInt_shr64_32, h_ns, decSec_toInt hu (toInt_widen32 x.Seconds) h (by omega) rfl]

/-- premises satisfiable: reference 10 s after the 2036 era rollover -/
example : -2305843009213693952 ≤ (2085978506000000000 : Int) / 1000000000 ∧
    (2085978506000000000 : Int) / 1000000000 < 2305843009213693952 := by omega

end ScionTime.LeafTie
