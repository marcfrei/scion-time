/-
  Kernel-checked ties (C14 / C11): `(*ServerCookie).Encode` and `(*EncryptedServerCookie).Encode` of
  net/ntske/cookies.go as regenerated from /repo's Go source on every run (Gen/LeafNtske.lean;
  `make([]byte, n)` with a run-time length, `binary.BigEndian.PutUint16(b[k:], v)` and
  `copy(b[k:], src)` on the buffer made in the function) are the model's `scEncode` / `ecEncode`
  (Model/Cookies.lean), for every cookie whose byte strings are shorter than 2^61 bytes. They never
  panic: the buffer is sized exactly.
-/
import ScionTime.Gen.LeafNtske
import ScionTime.Model.Cookies
import ScionTime.Proofs.LeafCookieEnc
namespace ScionTime.LeafTieC14Cookies
open ScionTime ScionTime.Gen.Leaf ScionTime.GoLemmas ScionTime.Nts
open ScionTime.LeafTlv (toInt_add_nat)

def bytesN (b : List UInt8) : List Nat := b.map UInt8.toNat

/-- `cookieLen` as the lengths of the nine pieces in the order they are written, each in the shape
    `piece + rest` that `putU16?_cursor` and `copyL?_cursor` take the room behind the cursor in -/
theorem tlv_size (a b : Nat) : 14 + b + a = 2 + (2 + (2 + (2 + (2 + (a + (2 + (2 + (b + 0)))))))) := by omega

/-- the common shape of both encoders, over the three tags -/
theorem encode_shape (t0 t1 t2 num : UInt16) (x y : List UInt8) (L : Int64)
    (hlen : L.toInt = ↑(14 + y.length + x.length)) :
    ((Go.makeBytesN? L).bind fun b =>
     (Go.putU16? b 0 t0).bind fun b =>
     (Go.putU16? b 2 2).bind fun b =>
     (Go.putU16? b 4 num).bind fun b =>
     (Go.putU16? b 6 t1).bind fun b =>
     (Go.putU16? b 8 (Go.len x).toUInt64.toUInt16).bind fun b =>
     (Go.copyL? b 10 x).bind fun b =>
     (Go.putU16? b (Go.len x + 10) t2).bind fun b =>
     (Go.putU16? b (Go.len x + 10 + 2) (Go.len y).toUInt64.toUInt16).bind fun b =>
     (Go.copyL? b (Go.len x + 10 + 4) y).bind fun b =>
     some b).map bytesN =
    some (encodeTLV t0.toNat t1.toNat t2.toNat ⟨num.toNat, bytesN x, bytesN y⟩) := by
  -- the offsets behind `x`, which Go computes in `int`, stay inside the buffer
  have hx4 : 10 + x.length + 2 + 2 < 9223372036854775808 := by
    have := Int64.toInt_lt L
    omega
  have hp : (Go.len x + 10).toInt = ↑(10 + x.length) :=
    toInt_len_add x rfl (Nat.lt_of_le_of_lt (Nat.le_add_right _ 4) hx4)
  have hp2 : (Go.len x + 10 + 2).toInt = ↑(10 + x.length + 2) :=
    toInt_add_nat hp (k := 2) rfl (Nat.lt_of_le_of_lt (Nat.le_add_right _ 2) hx4)
  have hp4 : (Go.len x + 10 + 4).toInt = ↑(10 + x.length + 2 + 2) := toInt_add_nat hp (k := 4) rfl hx4
  rw [tlv_size] at hlen
  refine Option.map_eq_some_iff.mpr ⟨u16be t0 ++ u16be 2 ++ u16be num ++ u16be t1 ++
    u16be (Go.len x).toUInt64.toUInt16 ++ x ++ u16be t2 ++ u16be (Go.len y).toUInt64.toUInt16 ++ y, ?_, ?_⟩
  · refine bind_of_eq_some (makeBytesN?_eq hlen) ?_
    refine bind_of_eq_some (putU16?_cursor [] _ 0 t0 rfl) ?_
    refine bind_of_eq_some (putU16?_cursor _ _ 2 2 rfl) ?_
    refine bind_of_eq_some (putU16?_cursor _ _ 4 num rfl) ?_
    refine bind_of_eq_some (putU16?_cursor _ _ 6 t1 rfl) ?_
    refine bind_of_eq_some (putU16?_cursor _ _ 8 _ rfl) ?_
    refine bind_of_eq_some (copyL?_cursor _ x _ 10 rfl) ?_
    refine bind_of_eq_some (putU16?_cursor _ _ _ t2 ?_) ?_
    · simpa only [List.length_append, length_u16be, List.length_nil] using hp
    refine bind_of_eq_some (putU16?_cursor _ _ _ _ ?_) ?_
    · simpa only [List.length_append, length_u16be, List.length_nil] using hp2
    refine bind_of_eq_some (copyL?_cursor _ y _ _ ?_) (congrArg some (List.append_nil _))
    simpa only [List.length_append, length_u16be, List.length_nil] using hp4
  · simp only [bytesN, List.map_append, map_toNat_u16be, toNat_len16, encodeTLV, List.length_map]
    rfl

theorem cookieLen_toInt (a b : List UInt8) (ha : a.length < 2305843009213693952) (hb : b.length < 2305843009213693952) :
    (3 * 4 + 2 + Go.len a + Go.len b).toInt = ↑(14 + a.length + b.length) :=
  have hab : 14 + a.length + b.length < 9223372036854775808 :=
    Nat.lt_trans (Nat.add_lt_add (Nat.add_lt_add_left ha 14) hb) (by decide)
  toInt_add_nat (toInt_add_nat (m := 14) rfl (Int64.toInt_ofNat_of_lt (Nat.lt_trans ha (by decide)))
    (Nat.lt_of_le_of_lt (Nat.le_add_right _ _) hab)) (Int64.toInt_ofNat_of_lt (Nat.lt_trans hb (by decide))) hab

theorem C14_leaf_ServerCookie_Encode (c : S_ServerCookie)
    (h1 : c.S2C.length < 2305843009213693952) (h2 : c.C2S.length < 2305843009213693952) :
    (ntske_ServerCookie_Encode c).map bytesN = some (scEncode ⟨c.Algo.toNat, bytesN c.S2C, bytesN c.C2S⟩) :=
  encode_shape 0x101 0x201 0x301 c.Algo c.S2C c.C2S _ (cookieLen_toInt c.C2S c.S2C h2 h1)

theorem C14_leaf_EncryptedServerCookie_Encode (c : S_EncryptedServerCookie)
    (h1 : c.Nonce.length < 2305843009213693952) (h2 : c.Ciphertext.length < 2305843009213693952) :
    (ntske_EncryptedServerCookie_Encode c).map bytesN = some (ecEncode ⟨c.ID.toNat, bytesN c.Nonce, bytesN c.Ciphertext⟩) :=
  encode_shape 0x401 0x501 0x601 c.ID c.Nonce c.Ciphertext _
    (Nat.add_right_comm 14 _ _ ▸ cookieLen_toInt c.Nonce c.Ciphertext h1 h2)

/-- non-vacuity through the generated definition -/
example : ntske_ServerCookie_Encode ⟨15, [1, 2, 3], [4, 5]⟩ =
    some [1, 1, 0, 2, 0, 15, 2, 1, 0, 3, 1, 2, 3, 3, 1, 0, 2, 4, 5] := by decide

end ScionTime.LeafTieC14Cookies
