/-
  Int64 over the integers: arithmetic shift right, no-wrap conditions for `+ - * /2` and negation.
-/
namespace ScionTime.Int64Arith

/-- `x >> n` on int64 is floor division by `2^n`, for negative values too. -/
theorem toInt_shiftRight (x k : Int64) (n : Nat) (hk : (k.toBitVec.smod 64).toNat = n) :
    (x >>> k).toInt = x.toInt / 2 ^ n := by
  rw [← Int64.toInt_toBitVec, Int64.toBitVec_shiftRight, BitVec.toInt_sshiftRight', hk,
    Int64.toInt_toBitVec, Int.shiftRight_eq_div_pow, Int.natCast_pow]
  rfl

theorem bmod_id (n : Int) (h1 : -9223372036854775808 ≤ n) (h2 : n ≤ 9223372036854775807) :
    n.bmod (2 ^ 64) = n := by
  apply Int.bmod_eq_of_le <;> omega

theorem toInt_sub_of_fits (a b : Int64) (h1 : -9223372036854775808 ≤ a.toInt - b.toInt)
    (h2 : a.toInt - b.toInt ≤ 9223372036854775807) : (a - b).toInt = a.toInt - b.toInt := by
  rw [Int64.toInt_sub, bmod_id _ h1 h2]

theorem toInt_add_of_fits (a b : Int64) (h1 : -9223372036854775808 ≤ a.toInt + b.toInt)
    (h2 : a.toInt + b.toInt ≤ 9223372036854775807) : (a + b).toInt = a.toInt + b.toInt := by
  rw [Int64.toInt_add, bmod_id _ h1 h2]

theorem toInt_mul_of_fits (a b : Int64) (h1 : -9223372036854775808 ≤ a.toInt * b.toInt)
    (h2 : a.toInt * b.toInt ≤ 9223372036854775807) : (a * b).toInt = a.toInt * b.toInt := by
  rw [Int64.toInt_mul, bmod_id _ h1 h2]

/-- every value but `MinInt64` has its negation -/
theorem neg_toInt {d : Int64} (h : d ≠ Int64.minValue) :
    d.toInt ≠ -9223372036854775808 ∧ (-d).toInt = -d.toInt := by
  have hne : d.toInt ≠ -9223372036854775808 := fun hh => h (Int64.toInt_inj.mp (by rw [hh]; decide))
  have hl := Int64.le_toInt d
  have hu := Int64.toInt_lt d
  exact ⟨hne, by rw [Int64.toInt_neg, bmod_id _ (by omega) (by omega)]⟩

/-- `/ 2` on int64 never wraps. -/
theorem toInt_half (a : Int64) : (a / 2).toInt = a.toInt.tdiv 2 :=
  Int64.toInt_div_of_ne_right a 2 (by decide)

end ScionTime.Int64Arith
