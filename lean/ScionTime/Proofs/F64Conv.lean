/-
  Proofs/F64Conv.lean — the float expressions of base/unixutil/freq.go and of
  `(*SystemClock).Drift`, written with the operations of Model/F64.lean: each is the truncation
  of an explicitly rounded rational, and that rational is close to the exact one.
  Both models of these functions (Model/FreqDrift.lean, Model/F64P_UnixutilFloat.lean) unfold
  to these expressions.
-/
import ScionTime.Proofs.F64
namespace ScionTime.F64

/-- `2^-1075 ≤ 2^-100`, the right side as the literal the `grind` steps take -/
theorem eta_le : pow2 (-1075) ≤ 1 / 1267650600228229401496703205376 := by
  rw [show (1 : Rat) / 1267650600228229401496703205376 = pow2 (-100) by rw [pow2_neg]; congr 1]
  exact pow2_mono (by decide)

/-- `2^-900 ≤ 2^-30` -/
theorem pow2_m900_le : pow2 (-900) ≤ 1 / 1073741824 := by
  rw [show (1 : Rat) / 1073741824 = pow2 (-30) by rw [pow2_neg]; congr 1]
  exact pow2_mono (by decide)

theorem trunc_near {r : Rat} {x : Int} (h : (r - (x : Rat)).abs < 1) :
    (trunc r - x).natAbs ≤ 1 := by
  rw [abs_lt_iff] at h
  have h1 := trunc_mono (p := ((x - 1 : Int) : Rat)) (q := r) (by rw [Rat.intCast_sub, Rat.intCast_one]; grind)
  have h2 := trunc_mono (p := r) (q := ((x + 1 : Int) : Rat)) (by rw [Rat.intCast_add, Rat.intCast_one]; grind)
  rw [trunc_intCast] at h1 h2
  omega

theorem trunc_near_half {r : Rat} {x : Int} (h : (r - (x : Rat)).abs < 1 / 2) :
    (0 ≤ x → x - 1 ≤ trunc r ∧ trunc r ≤ x) ∧ (x ≤ 0 → x ≤ trunc r ∧ trunc r ≤ x + 1) := by
  have key : ∀ (r : Rat) (x : Int), (r - (x : Rat)).abs < 1 / 2 → 0 ≤ x →
      x - 1 ≤ trunc r ∧ trunc r ≤ x := by
    intro r x h hx
    have n := trunc_near (r := r) (x := x) (by grind)
    rw [abs_lt_iff] at h
    exact ⟨by omega, trunc_le_of_lt hx (by grind)⟩
  refine ⟨key r x h, fun hx => ?_⟩
  -- the other side by symmetry: truncation is odd
  have := key (-r) (-x)
    (by rw [Rat.intCast_neg, show -r - -(x : Rat) = -(r - (x : Rat)) by grind, Rat.abs_neg]; exact h)
    (by omega)
  rw [trunc_neg] at this
  omega

/-- `ScaledPPMFromFreq (FreqFromScaledPPM x)` is the truncation of a value within
    `(|x| + 1) / 2^52` of `x` (two roundings of relative size `2^-53`). -/
theorem ppm_freq_ppm {x : Int} (h52 : x.natAbs ≤ 2 ^ 52) :
    ∃ r : Rat, toInt64 (mul (div (ofInt x) (.fin 65536000000)) (.fin 65536000000)) = trunc r ∧
      (r - (x : Rat)).abs ≤ ((x : Rat).abs + 1) / 4503599627370496 := by
  have hA := intCast_abs_le h52
  simp only [Nat.reducePow, Rat.natCast_ofNat] at hA
  have h : x.natAbs ≤ 2 ^ 53 := by omega
  have hη := eta_le
  obtain ⟨a1, a2⟩ := abs_bounds (x : Rat)
  have hmax : (9007199254740993 : Rat) ≤ maxFin := by
    refine Rat.le_trans ?_ (pow2_le_maxFin (K := 54) (by decide))
    rw [show pow2 54 = 18014398509481984 by decide]; grind
  have hq : ((x : Rat) / 65536000000).abs ≤ (x : Rat).abs / 65536000000 :=
    abs_le_iff.2 (by grind)
  obtain ⟨fq, vq⟩ := toRat_div (isFinite_ofInt_exact h) (b := .fin 65536000000) rfl
    (by rw [toRat_fin]; decide)
    (by rw [toRat_ofInt_exact h, toRat_fin]; exact Rat.le_trans hq (by grind))
  rw [toRat_ofInt_exact h, toRat_fin] at vq
  have e1 := rnd_err_le hq
  generalize rnd ((x : Rat) / 65536000000) = f at *
  have hfs : (f * 65536000000).abs ≤ (x : Rat).abs + 1 := by
    rw [abs_le_iff] at e1 ⊢; grind
  have e2 := rnd_err_le hfs
  refine ⟨rnd (f * 65536000000), ?_, ?_⟩
  · rw [← vq]; exact toInt64_mul fq rfl (by rw [vq, toRat_fin]; grind)
  · rw [abs_le_iff] at e1 e2 ⊢; grind

/-- `FreqFromScaledPPM (ScaledPPMFromFreq f)` for a finite `f` whose scaled value
    `p = f·65536e6` is at most `2^52` in magnitude: finite, and its scaled value is within
    `1 + (|p| + 2) / 2^52` of `p` (1 from the truncation to an integer, the rest from three
    roundings). The truncation is towards zero, so on the side away from zero only the rounding
    noise `(|p| + 2) / 2^52` remains: the round trip never overshoots in magnitude. -/
theorem freq_ppm_freq {f : F64} (hf : isFinite f = true)
    (h : (toRat f * 65536000000).abs ≤ 4503599627370496) :
    isFinite (div (ofInt (toInt64 (mul f (.fin 65536000000)))) (.fin 65536000000)) = true ∧
    (toRat (div (ofInt (toInt64 (mul f (.fin 65536000000)))) (.fin 65536000000)) * 65536000000
        - toRat f * 65536000000).abs
      ≤ 1 + ((toRat f * 65536000000).abs + 2) / 4503599627370496 ∧
    (0 ≤ toRat f * 65536000000 →
      toRat (div (ofInt (toInt64 (mul f (.fin 65536000000)))) (.fin 65536000000)) * 65536000000
          - toRat f * 65536000000
        ≤ ((toRat f * 65536000000).abs + 2) / 4503599627370496) ∧
    (toRat f * 65536000000 ≤ 0 →
      toRat f * 65536000000
          - toRat (div (ofInt (toInt64 (mul f (.fin 65536000000)))) (.fin 65536000000)) * 65536000000
        ≤ ((toRat f * 65536000000).abs + 2) / 4503599627370496) := by
  have hη := eta_le
  rw [toInt64_mul hf rfl (by rw [toRat_fin]; grind), toRat_fin]
  generalize toRat f * 65536000000 = p at *
  obtain ⟨a1, a2⟩ := abs_bounds p
  have hr := rnd_abs_le_of_rep (rep_pow2 (K := 52) (by decide))
    (show p.abs ≤ pow2 52 by rw [show pow2 52 = 4503599627370496 by decide]; exact h)
  rw [show pow2 52 = 4503599627370496 by decide] at hr
  have e1 := rnd_err_le (q := p) Rat.le_refl
  have et := trunc_err (rnd p)
  have hr0 : (0 ≤ p → 0 ≤ rnd p) ∧ (p ≤ 0 → rnd p ≤ 0) := ⟨rnd_nonneg, rnd_nonpos⟩
  generalize rnd p = r at *
  rw [abs_le_iff] at hr e1
  rw [abs_lt_iff] at et
  have hS : ((trunc r : Int) : Rat).abs ≤ p.abs + 2 := abs_le_iff.2 (by grind)
  have hs : (trunc r).natAbs ≤ 2 ^ 53 :=
    Nat.le_trans (natAbs_le_of_abs_le (n := 4503599627370498) (Rat.le_trans hS (by simp; grind)))
      (by decide)
  have ht : (0 ≤ r → ((trunc r : Int) : Rat) ≤ r) ∧ (r ≤ 0 → r ≤ ((trunc r : Int) : Rat)) :=
    ⟨fun h => (trunc_of_nonneg h).2.1, fun h => (trunc_of_nonpos h).2.1⟩
  generalize trunc r = S at *
  obtain ⟨b1, b2⟩ := abs_bounds (S : Rat)
  have hq : ((S : Rat) / 65536000000).abs ≤ (p.abs + 2) / 65536000000 :=
    abs_le_iff.2 (by grind)
  have hmax : (131072 : Rat) ≤ maxFin := by
    have := pow2_le_maxFin (K := 17) (by decide); rwa [show pow2 17 = 131072 by decide] at this
  obtain ⟨fq, vq⟩ := toRat_div (isFinite_ofInt_exact hs) (b := .fin 65536000000) rfl
    (by rw [toRat_fin]; decide)
    (by rw [toRat_ofInt_exact hs, toRat_fin]; exact Rat.le_trans hq (by grind))
  rw [toRat_ofInt_exact hs, toRat_fin] at vq
  have e2 := rnd_err_le hq
  rw [vq]
  generalize rnd ((S : Rat) / 65536000000) = g at *
  rw [abs_le_iff] at e2 hS
  exact ⟨fq, abs_le_iff.2 (by grind), fun h0 => by grind, fun h0 => by grind⟩

theorem beq_zero_eq_false {c : F64} (hf : isFinite c = true) (h : toRat c ≠ 0) :
    beq c (.zero false) = false := by
  cases hb : beq c (.zero false) with
  | false => rfl
  | true => exact absurd ((beq_iff_of_finite hf rfl).1 hb) h

theorem abs_mul_le {a b A B : Rat} (ha : a.abs ≤ A) (hb : b.abs ≤ B) : (a * b).abs ≤ A * B := by
  rw [abs_mul]
  have h1 := Rat.mul_le_mul_of_nonneg_right ha (@Rat.abs_nonneg b)
  have h2 := Rat.mul_le_mul_of_nonneg_left hb (Rat.le_trans (@Rat.abs_nonneg a) ha)
  exact Rat.le_trans h1 h2

theorem abs_sub_mul_le {D Sv c C κ ε : Rat} (hε : 0 ≤ ε) (hc : c.abs ≤ C)
    (h : (Sv - D).abs ≤ D.abs * κ + ε) : (Sv * c - D * c).abs ≤ (D * c).abs * κ + ε * C := by
  have e : Sv * c - D * c = (Sv - D) * c := by grind
  rw [e, abs_mul, abs_mul]
  have h1 := Rat.mul_le_mul_of_nonneg_right h (@Rat.abs_nonneg c)
  have h2 := Rat.mul_le_mul_of_nonneg_left hc hε
  grind

/-- `timemath.Duration(duration.Seconds() * c)` for a finite drift `c` with
    `2^-900 ≤ |c| ≤ 1024` and an int64 `duration` with `|c·duration| ≤ 2^62`: the truncation of a
    value within relative `2^-50` of `c·duration` (four roundings of relative size `2^-53`;
    the lower bound on `|c|` keeps the underflow slack of each negligible).
    `4611686018427387904` is 2^62, `1125899906842624` is 2^50. -/
theorem drift_product {c : F64} {d : Int} (hf : isFinite c = true)
    (h1 : pow2 (-900) ≤ (toRat c).abs) (h2 : (toRat c).abs ≤ 1024) (hd : d.natAbs ≤ 2 ^ 63)
    (hE : (toRat c * (d : Rat)).abs ≤ 4611686018427387904) :
    ∃ R : Rat, toDuration (mul (durationSeconds d) c) = trunc R ∧
      (R - toRat c * (d : Rat)).abs ≤ (toRat c * (d : Rat)).abs / 1125899906842624 := by
  obtain ⟨fS, _, vS⟩ := durationSeconds_val hd
  have bS := secondsVal_abs_le hd
  obtain ⟨fM, vM⟩ := toRat_mul fS hf
    (by rw [vS]; exact Rat.le_trans (abs_mul_le bS h2) (Rat.le_trans (by grind) maxInt64F_le_maxFin))
  rw [vS] at vM
  generalize toRat c = v at *
  -- `9223372036854774784` = (2^53 − 1)·2^10, the largest double below 2^63 (`rep_maxInt64F`)
  suffices key : (rnd (secondsVal d * v) * 1000000000).abs ≤ 9223372036854774784 ∧
      (rnd (rnd (secondsVal d * v) * 1000000000) - v * (d : Rat)).abs
        ≤ (v * (d : Rat)).abs / 1125899906842624 from
    ⟨_, by rw [toDuration_val fM (by rw [vM]; exact key.1), vM], key.2⟩
  by_cases hd0 : d = 0
  · subst hd0
    rw [secondsVal_zero, Rat.zero_mul, rnd_zero, Rat.zero_mul, rnd_zero, Rat.intCast_zero,
      Rat.mul_zero, Rat.sub_self, Rat.abs_zero, Rat.div_def, Rat.zero_mul]
    exact ⟨by grind, Rat.le_refl⟩
  · have hη0 := Rat.le_of_lt (pow2_pos (-1075))
    -- the underflow slack is negligible against `|c·d| ≥ 2^-900` (`1152921504606846976` is 2^60)
    have hη : 4000000000000 * pow2 (-1075) ≤ (v * (d : Rat)).abs / 1152921504606846976 := by
      have e : pow2 (-1075) = pow2 (-900) * pow2 (-175) := by rw [← pow2_add]; rfl
      have hP := pow2_pos (-900)
      have : pow2 (-900) ≤ (v * (d : Rat)).abs := by
        rw [abs_mul]
        have := Rat.mul_le_mul_of_nonneg_left (one_le_abs_intCast hd0) (Rat.le_trans (Rat.le_of_lt hP) h1)
        grind
      rw [e, show pow2 (-175) = 1 / 47890485652059026823698344598447161988085597568237568 by
        rw [pow2_neg]; congr 1]
      grind
    have l2 := abs_sub_mul_le (C := 1024) (show 0 ≤ 3 * pow2 (-1075) by grind) h2 (secondsVal_err d)
    have hxE : v * (d : Rat) = (d : Rat) / 1000000000 * v * 1000000000 := by grind
    rw [hxE] at hη hE ⊢
    generalize (d : Rat) / 1000000000 * v = x at *
    generalize secondsVal d * v = y at *
    rw [abs_mul_of_nonneg_right x (show (0 : Rat) ≤ 1000000000 by grind)] at hη hE ⊢
    obtain ⟨a1, a2⟩ := abs_bounds x
    have hy : y.abs ≤ (x.abs + x.abs / 1125899906842624) :=
      abs_le_iff.2 (by rw [abs_le_iff] at l2; grind)
    have e3 := rnd_err_le hy
    generalize rnd y = Mv at *
    rw [abs_le_iff] at l2 e3
    have hM : (Mv * 1000000000).abs
        ≤ x.abs * 1000000000 + x.abs * 1000000000 / 1125899906842624 :=
      abs_le_iff.2 (by grind)
    have e4 := rnd_err_le hM
    rw [abs_le_iff] at e4
    exact ⟨Rat.le_trans hM (by grind), abs_le_iff.2 (by grind)⟩

/-- The same with the drift as `NewSystemClock` stores it, `dr.Seconds()` for a
    `time.Duration` `1 ns/s ≤ dr ≤ 1 s/s`: over an interval `d ≥ 0` whose exact allowance
    `dr·d/10^9` is at most `4·10^18` ns, the value truncated is within relative `2^-49` of it
    (`Seconds()` adds two roundings). -/
theorem drift_product_seconds {dr d : Int} (hdr1 : 1 ≤ dr) (hdr2 : dr ≤ 1000000000) (hd0 : 0 ≤ d)
    (hd : d.natAbs ≤ 2 ^ 63) (hE : (dr : Rat) / 1000000000 * (d : Rat) ≤ 4000000000000000000) :
    beq (durationSeconds dr) (.zero false) = false ∧
    ∃ R : Rat, toDuration (mul (durationSeconds d) (durationSeconds dr)) = trunc R ∧
      (R - (dr : Rat) / 1000000000 * (d : Rat)).abs
        ≤ (dr : Rat) / 1000000000 * (d : Rat) / 562949953421312 := by
  have hD0 : (0 : Rat) ≤ (d : Rat) := Rat.intCast_nonneg.2 hd0
  have hDR : 1 / 1000000000 ≤ (dr : Rat) / 1000000000 ∧ (dr : Rat) / 1000000000 ≤ 1 := by
    have h1 : (1 : Rat) ≤ (dr : Rat) := by simpa using Rat.intCast_le_intCast.mpr hdr1
    have h2 : (dr : Rat) ≤ 1000000000 := by simpa using Rat.intCast_le_intCast.mpr hdr2
    grind
  -- the drift field `s = dr.Seconds()` is within relative 2^-51 of `D = dr/10^9`
  obtain ⟨fS, _, vS⟩ := durationSeconds_val (d := dr) (by omega)
  have l1 := secondsVal_err dr
  have hη := eta_le
  generalize (dr : Rat) / 1000000000 = D at *
  generalize secondsVal dr = s at *
  have hDa : D.abs = D := Rat.abs_of_nonneg (by grind)
  have l1' : (s - D).abs ≤ D.abs * (1 / 2251799813685248) + 0 := by rw [hDa] at l1 ⊢; grind
  have l2 := abs_sub_mul_le (c := (d : Rat)) Rat.le_refl Rat.le_refl l1'
  have hpos : 0 ≤ D * (d : Rat) := Rat.mul_nonneg (by grind) hD0
  rw [hDa, abs_le_iff] at l1'
  rw [Rat.abs_of_nonneg hpos, abs_le_iff] at l2
  have hlo := pow2_m900_le
  have hs0 : 0 ≤ s := by grind
  have hE0 : 0 ≤ s * (d : Rat) := Rat.mul_nonneg hs0 hD0
  obtain ⟨R, hR, e⟩ := drift_product (c := durationSeconds dr) (d := d) fS
    (by rw [vS, Rat.abs_of_nonneg hs0]; grind) (by rw [vS, Rat.abs_of_nonneg hs0]; grind) hd
    (by rw [vS, Rat.abs_of_nonneg hE0]; grind)
  rw [vS, Rat.abs_of_nonneg hE0, abs_le_iff] at e
  refine ⟨beq_zero_eq_false fS (by rw [vS]; grind), R, hR, abs_le_iff.2 ?_⟩
  generalize D * (d : Rat) = DD at *
  generalize s * (d : Rat) = DS at *
  grind

end ScionTime.F64
