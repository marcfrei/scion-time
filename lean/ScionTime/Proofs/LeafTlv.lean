/-
  For the ties of the generated cookie encoders and decoders (net/ntske/cookies.go): int64 arithmetic on
  values known to be natural numbers, positions of a TLV record in a buffer, and how `Go.Out.bind` /
  `Go.Ctl.bindR` distribute, so that a generated loop body can be brought to a normal form by
  rewriting.
-/
import ScionTime.Model.GoPrelude2
import ScionTime.Model.Cookies
import ScionTime.Proofs.GoPrelude
namespace ScionTime.LeafTlv
open ScionTime ScionTime.GoLemmas ScionTime.Nts

theorem toInt_add_nat {a c : Int64} {m k : Nat} (ha : a.toInt = m) (hc : c.toInt = k)
    (h : m + k < 9223372036854775808) : (a + c).toInt = ((m + k : Nat) : Int) := by
  rw [toInt_add_of_fits a c (by omega) (by omega), ha, hc, Int.natCast_add]

theorem toInt_sub_nat {a c : Int64} {m k : Nat} (ha : a.toInt = m) (hc : c.toInt = k) (h : k ≤ m) :
    (a - c).toInt = ((m - k : Nat) : Int) := by
  have := Int64.toInt_lt a
  rw [toInt_sub_of_fits a c (by omega) (by omega), ha, hc, Int.natCast_sub h]

theorem lt_iff_nat {a c : Int64} {m k : Nat} (ha : a.toInt = m) (hc : c.toInt = k) : a < c ↔ m < k := by
  rw [Int64.lt_iff_toInt_lt, ha, hc, Int.ofNat_lt]

/- Three steps of the TLV loops' arithmetic, stated apart: `omega` inside those proofs would have to
   go through their whole context. -/
theorem hdr_le {L p : Nat} (h : ¬ L - p < 4) : p + 4 ≤ L := by omega

theorem next_le {L p l : Nat} (h4 : p + 4 ≤ L) (h3 : l ≤ L - p - 4) : p + 4 + l ≤ L := by omega

theorem fuel_next {L p l n : Nat} (hn : L - p < n + 1) (hin : p + 4 + l ≤ L) : L - (p + 4 + l) < n := by omega

theorem tlvLoop_short (T0 T1 T2 n : Nat) (rest : List Nat) (st : TlvSt) (h0 : rest ≠ []) (h4 : rest.length < 4) :
    tlvLoop true T0 T1 T2 (n + 1) rest st = .err .cookieData := by
  rcases rest with _ | ⟨a, _ | ⟨b, _ | ⟨c, _ | ⟨d, v⟩⟩⟩⟩
  · exact absurd rfl h0
  · rfl
  · rfl
  · rfl
  · exact absurd h4 (Nat.not_lt.2 (Nat.le_add_left 4 _))

theorem ofOption_some {α : Type} (cls : String) (a : α) : Go.Out.ofOption cls (some a) = .ok a := rfl

theorem bind_ok {α β : Type} (a : α) (k : α → Go.Out β) : (Go.Out.ok a).bind k = k a := rfl

theorem bindR_ok {α σ ρ : Type} (a : α) (k : α → Go.Ctl σ (Go.Out ρ)) : Go.Ctl.bindR (.ok a) k = k a := rfl

theorem bindR_ite {α σ ρ : Type} (c : Prop) [Decidable c] (x y : Go.Out α) (k : α → Go.Ctl σ (Go.Out ρ)) :
    Go.Ctl.bindR (if c then x else y) k = if c then Go.Ctl.bindR x k else Go.Ctl.bindR y k := by
  split <;> rfl

theorem bindR_bind {α β σ ρ : Type} (x : Go.Out α) (f : α → Go.Out β) (k : β → Go.Ctl σ (Go.Out ρ)) :
    Go.Ctl.bindR (x.bind f) k = Go.Ctl.bindR x fun a => Go.Ctl.bindR (f a) k := by
  cases x <;> rfl

end ScionTime.LeafTlv
