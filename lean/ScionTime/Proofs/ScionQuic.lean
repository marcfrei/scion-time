/-
  `readPkt` of net/scion/quic.go (Model/ScionQuic.lean): what each of its results has been tested for.
-/
import ScionTime.Model.ScionQuic
import ScionTime.Proofs.Ite
namespace ScionTime.ScionQuic
open ScionTime.ClientNtp (t4Ip t16Ip)

/-- What `readPkt bufLen d` has tested when it gives this result. -/
def Step.Checked (bufLen : Nat) (d : Dgram) : Step → Prop
  | .ignore => True
  | .deliver p => d.decodeOk = true ∧ 2 ≤ d.decoded.length ∧ lastLayer d.decoded = some .udp ∧
      (d.src.type = t4Ip ∨ d.src.type = t16Ip) ∧
      p = ⟨d.payload.take bufLen, d.srcIA, d.src.raw, d.srcPort, d.pathType, d.pathRaw⟩
  | .panic => False

theorem readPkt_spec {bufLen : Nat} {d : Dgram} {s : Step} (h : readPkt bufLen d = s) :
    s.Checked bufLen d := by
  subst h
  unfold readPkt readPktWith
  refine ite_ind (fun _ => trivial) fun h1 => ite_ind (fun _ => trivial) fun h2 => ?_
  simp only [Bool.not_eq_true', Bool.not_eq_false, Bool.and_eq_true, decide_eq_true_eq,
    beq_iff_eq] at h1 h2
  cases hs : srcAddr d.src with
  | unsupported => exact trivial
  | svc => exact trivial
  | ip b =>
    unfold srcAddr at hs
    split at hs
    · cases hs; exact ⟨h1, h2.1, h2.2, .inl ‹_›, rfl⟩
    · split at hs
      · cases hs; exact ⟨h1, h2.1, h2.2, .inr ‹_›, rfl⟩
      · split at hs <;> cases hs

end ScionTime.ScionQuic
