/-
  Lemmas about the capacity-modelled slices of the leaf translator's prelude
  (Model/GoPrelude2.lean, `Go.Slice`): what each operation does to the live elements. Core Lean only.
-/
import ScionTime.Model.GoPrelude2
import ScionTime.Proofs.GoPrelude
namespace ScionTime.GoSlice
open ScionTime ScionTime.GoLemmas ScionTime.Go

variable {α : Type}

theorem ofNat_toInt (n : Nat) (h : n < 4611686018427387904) : (Int64.ofNat n).toInt = n :=
  Int64.toInt_ofNat_of_lt (by omega)

theorem len_toInt (s : Slice α) (h : s.arr.length < 4611686018427387904) : s.len'.toInt = s.len := by
  have := s.ok
  exact ofNat_toInt _ (by omega)

theorem cap_toInt (s : Slice α) (h : s.arr.length < 4611686018427387904) : s.cap.toInt = s.arr.length :=
  ofNat_toInt _ h

theorem live_length (s : Slice α) : s.live.length = s.len := by
  have := s.ok
  simp [Slice.live]; omega

/-- `s[:n]` within capacity -/
theorem to?_some (s : Slice α) (n : Int64) (k : Nat) (hn : n.toInt = k) (hk : k ≤ s.arr.length) :
    ∃ s', s.to? n = some s' ∧ s'.arr = s.arr ∧ s'.len = k := by
  unfold Slice.to?
  have h : 0 ≤ n.toInt ∧ n.toInt ≤ s.arr.length := by omega
  rw [dif_pos h]
  exact ⟨_, rfl, rfl, by simp only; omega⟩

theorem set_take_succ (l : List α) (k : Nat) (v : α) (h : k < l.length) : (l.set k v).take (k + 1) = l.take k ++ [v] := by
  rw [List.take_add_one, List.take_set_of_le (Nat.le_refl k)]
  simp [h]

/-- `append` below capacity -/
theorem append?_some (s : Slice α) (x : α) (h : s.len < s.arr.length) :
    ∃ s', s.append? x = some s' ∧ s'.live = s.live ++ [x] ∧ s'.len = s.len + 1 ∧ s'.arr.length = s.arr.length := by
  unfold Slice.append?
  rw [dif_pos h]
  refine ⟨_, rfl, ?_, rfl, by simp⟩
  exact set_take_succ _ _ _ h

/-- `copy(dst, src[m:])` when the `n` elements of `src` from `m` on fit into `dst` -/
theorem copy_front (dst src : Slice α) (b : Int64) (m n : Nat) (hb : b.toInt = m) (hm : m + n = src.len)
    (hn : n ≤ dst.len) :
    ∃ d', dst.copy? 0 src b = some d' ∧ d'.len = dst.len ∧ d'.arr.length = dst.arr.length ∧
      d'.arr.take n = src.live.drop m := by
  have hd := dst.ok
  have hs := src.ok
  unfold Slice.copy?
  have h0 : (0 : Int64).toInt = 0 := by decide
  rw [if_pos (by rw [h0, hb]; omega)]
  simp only [h0, hb, Int.toNat_zero, Int.toNat_natCast, Nat.sub_zero, List.take_zero, List.nil_append, Nat.zero_add]
  have hmin : min dst.len (src.len - m) = n := by omega
  simp only [hmin]
  have hlen : ((src.arr.drop m).take n ++ dst.arr.drop n).length = dst.arr.length := by
    simp; omega
  rw [dif_pos (by rw [hlen]; exact hd)]
  refine ⟨_, rfl, rfl, hlen, ?_⟩
  simp only [Slice.live]
  rw [List.take_left' (by simp; omega), List.drop_take]
  congr 1
  omega

/-- `copy(s[0:], s[1:])` followed by `s[:len-1]`: the oldest element is dropped -/
theorem copy_shift (s : Slice α) (h1 : 1 ≤ s.len) :
    ∃ s', s.copy? 0 s 1 = some s' ∧ s'.len = s.len ∧ s'.arr.length = s.arr.length ∧
      s'.arr.take (s.len - 1) = s.live.drop 1 :=
  copy_front s s 1 1 (s.len - 1) (by decide) (by omega) (by omega)

/-- `copy(dst, src)` with `len(dst) = len(src)`: the live elements of `src` -/
theorem copy_all (dst src : Slice α) (h : dst.len = src.len) :
    ∃ d', dst.copy? 0 src 0 = some d' ∧ d'.len = dst.len ∧ d'.arr.length = dst.arr.length ∧ d'.live = src.live := by
  obtain ⟨d', h1, h2, h3, h4⟩ := copy_front dst src 0 0 src.len (by decide) (by omega) (by omega)
  refine ⟨d', h1, h2, h3, ?_⟩
  rw [Slice.live, h2, h, h4, List.drop_zero]

/-- sorting in the insertion-sort regime -/
theorem sortBy?_some (key : α → Int64) (s : Slice α) (h12 : s.len ≤ 12) :
    ∃ s', s.sortBy? key = some s' ∧ s'.len = s.len ∧ s'.arr.length = s.arr.length ∧
      s'.live = Slice.sortByKey key s.live := by
  have hok := s.ok
  unfold Slice.sortBy?
  rw [if_pos (Or.inl h12)]
  have hlen : (Slice.sortByKey key s.live ++ s.arr.drop s.len).length = s.arr.length := by
    rw [List.length_append, Slice.length_sortByKey, live_length, List.length_drop]; omega
  simp only []
  rw [dif_pos (by rw [hlen]; exact hok)]
  exact ⟨_, rfl, rfl, hlen, List.take_left' (by rw [Slice.length_sortByKey, live_length])⟩

/-- `s[i]` in range is the live element -/
theorem get?_live (s : Slice α) (i : Int64) (k : Nat) (hi : i.toInt = k) (hk : k < s.len) :
    s.get? i = s.live[k]? := by
  unfold Slice.get? Slice.live
  rw [if_pos (by omega)]
  have : i.toInt.toNat = k := by omega
  rw [this, List.getElem?_take_of_lt hk]

theorem live_of (s : Slice α) (arr : List α) (k : Nat) (ha : s.arr = arr) (hl : s.len = k) : s.live = arr.take k := by
  simp [Slice.live, ha, hl]

/-- `s[k] = v0; s[k+1] = v1; …` as the generated encoders do it -/
def writeSeq (s : Slice α) : Nat → List α → Option (Slice α)
  | _, [] => some s
  | k, v :: vs => (s.setK? k v).bind fun s' => writeSeq s' (k + 1) vs

/-- the same on a plain list (`[]byte` parameters) -/
def writeSeqL (l : List α) : Nat → List α → Option (List α)
  | _, [] => some l
  | k, v :: vs => (Go.setK? l k v).bind fun l' => writeSeqL l' (k + 1) vs

theorem splice_after (pre w b : List α) (n m : Nat) (hn : pre.length = n) (hm : w.length = m) :
    (pre ++ b.drop n).take n ++ w ++ (pre ++ b.drop n).drop (n + m) = pre ++ w ++ b.drop (n + m) := by
  subst hn hm
  rw [List.take_left, ← List.drop_drop, List.drop_left, List.drop_drop]

theorem writeSeqL_some : ∀ (vals : List α) (l : List α) (k : Nat), k + vals.length ≤ l.length →
    writeSeqL l k vals = some (l.take k ++ vals ++ l.drop (k + vals.length))
  | [], l, k, _ => by simp [writeSeqL]
  | v :: vs, l, k, h => by
    simp only [List.length_cons] at h
    have hk : k < l.length := by omega
    simp only [writeSeqL, Go.setK?, if_pos hk, Option.bind_some]
    rw [writeSeqL_some vs (l.set k v) (k + 1) (by simp; omega)]
    rw [set_take_succ _ _ _ hk, List.drop_set_of_lt (by omega)]
    simp only [List.append_assoc, List.singleton_append, List.length_cons]
    congr 4
    omega

theorem writeSeqL_zero (vals l : List α) (h : vals.length ≤ l.length) :
    writeSeqL l 0 vals = some (vals ++ l.drop vals.length) := by
  rw [writeSeqL_some vals l 0 (by omega), List.take_zero, List.nil_append, Nat.zero_add]

theorem writeSeq_arr : ∀ (vals : List α) (s : Slice α) (k : Nat), k + vals.length ≤ s.len →
    ∃ s', writeSeq s k vals = some s' ∧ s'.len = s.len ∧ writeSeqL s.arr k vals = some s'.arr
  | [], s, _, _ => ⟨s, rfl, rfl, rfl⟩
  | v :: vs, s, k, h => by
    have hok := s.ok
    simp only [List.length_cons] at h
    obtain ⟨s', h1, h2, h3⟩ := writeSeq_arr vs ⟨s.arr.set k v, s.len, by simpa using s.ok⟩ (k + 1) (by simp only; omega)
    refine ⟨s', ?_, h2, ?_⟩
    · simp only [writeSeq, Slice.setK?, if_pos (show k < s.len by omega), Option.bind_some, h1]
    · simp only [writeSeqL, Go.setK?, if_pos (show k < s.arr.length by omega), Option.bind_some, h3]

theorem writeSeq_zero (vals : List α) (s : Slice α) (h : vals.length ≤ s.len) :
    ∃ s', writeSeq s 0 vals = some s' ∧ s'.len = s.len ∧ s'.arr = vals ++ s.arr.drop vals.length := by
  have hok := s.ok
  obtain ⟨s', h1, h2, h3⟩ := writeSeq_arr vals s 0 (by omega)
  rw [writeSeqL_zero vals s.arr (by omega)] at h3
  exact ⟨s', h1, h2, (Option.some.inj h3).symm⟩

theorem writeSeqL_short (vals : List α) (l : List α) (k : Nat) (v : α) (h : l.length ≤ k) :
    writeSeqL l k (v :: vals) = none := by
  simp only [writeSeqL, Go.setK?]
  rw [if_neg (by omega)]
  rfl

theorem bindO_some {α σ ρ : Type} (a : α) (k : α → Go.Ctl σ (Option ρ)) : Go.Ctl.bindO (some a) k = k a := rfl
theorem bindO_none {α σ ρ : Type} (k : α → Go.Ctl σ (Option ρ)) : Go.Ctl.bindO (none : Option α) k = .ret none := rfl

theorem setG?_at (b : List α) (i : Int64) (k : Nat) (v : α) (hi : i.toInt = k) (hk : k < b.length) :
    Go.setG? b i v = some (b.set k v) := by
  unfold Go.setG?
  rw [if_pos (by omega)]
  have : i.toInt.toNat = k := by omega
  rw [this]

theorem succ_toInt (i : Int64) (k : Nat) (hi : i.toInt = k) (hk : k + 1 < 4611686018427387904) :
    (i + 1).toInt = (k + 1 : Nat) := by
  have h1 : (1 : Int64).toInt = 1 := by decide
  rw [toInt_add_of_fits _ _ (by omega) (by omega), hi, h1]
  omega

/-- `for i := k; i != k+n; i++ { b[i] = 0 }` as generated: the `n` bytes from `k` are zeroed, or an
    index panic if the buffer ends before -/
theorem zeroLoop (n : Nat) : ∀ (i : Int64) (k : Nat) (b : List UInt8), i.toInt = k → k + n ≤ b.length →
    k + n < 4611686018427387904 →
    Go.forCount (ρ := Option (List UInt8)) n i b (fun i b =>
        Go.Ctl.bindO (Go.setG? b i (0 : UInt8)) fun _s =>
        let b : (List UInt8) := _s
        Go.Ctl.next b) = .inl (b.take k ++ List.replicate n 0 ++ b.drop (k + n)) := by
  induction n with
  | zero => intro i k b _ _ _; simp [Go.forCount]
  | succ n ih =>
    intro i k b hi hk hbig
    rw [Go.forCount]
    simp only [setG?_at b i k 0 hi (by omega), bindO_some]
    rw [ih (i + 1) (k + 1) (b.set k 0) (succ_toInt i k hi (by omega)) (by simp; omega) (by omega)]
    rw [set_take_succ _ _ _ (by omega), List.drop_set_of_lt (by omega)]
    congr 1
    simp only [List.append_assoc, List.singleton_append, List.replicate_succ]
    congr 3
    omega

theorem zeroLoop_short (n : Nat) : ∀ (i : Int64) (k : Nat) (b : List UInt8), i.toInt = k → k ≤ b.length → b.length < k + n →
    k + n < 4611686018427387904 →
    Go.forCount (ρ := Option (List UInt8)) n i b (fun i b =>
        Go.Ctl.bindO (Go.setG? b i (0 : UInt8)) fun _s =>
        let b : (List UInt8) := _s
        Go.Ctl.next b) = .inr none := by
  induction n with
  | zero => intro i k b _ h1 h2 _; omega
  | succ n ih =>
    intro i k b hi hk hshort hbig
    rw [Go.forCount]
    by_cases hlt : k < b.length
    · simp only [setG?_at b i k 0 hi hlt, bindO_some]
      rw [ih (i + 1) (k + 1) (b.set k 0) (succ_toInt i k hi (by omega)) (by simp; omega) (by simp; omega) (by omega)]
    · have hset : Go.setG? b i (0 : UInt8) = none := by
        unfold Go.setG?
        rw [if_neg (by omega)]
      simp only [hset, bindO_none]

/-- consecutive writes followed by the rest of the function `cont` -/
def writeSeqK {β : Type} (l : List α) : Nat → List α → (List α → Option β) → Option β
  | _, [], cont => cont l
  | k, v :: vs, cont => (Go.setK? l k v).bind fun l' => writeSeqK l' (k + 1) vs cont

theorem writeSeqK_eq {β : Type} : ∀ (vals : List α) (l : List α) (k : Nat) (cont : List α → Option β),
    writeSeqK l k vals cont = (writeSeqL l k vals).bind cont
  | [], l, k, cont => rfl
  | v :: vs, l, k, cont => by
    simp only [writeSeqK, writeSeqL]
    cases Go.setK? l k v with
    | none => rfl
    | some l' => simp only [Option.bind_some]; exact writeSeqK_eq vs l' (k + 1) cont

end ScionTime.GoSlice
