/-
  Mutual exclusion ⇒ linearizability (Model/Mutex.lean): invariants of the interleaving
  semantics and their preservation by every scheduler choice. Core Lean only.
-/
import ScionTime.Model.Mutex
namespace ScionTime.Mutex

variable {σ ι : Type}

/-- invariant: the shared state is the sequential execution of the completed operations in
    lock-acquisition order, plus the micro-steps the current holder has already done -/
def Inv (sem : ι → Body σ) (init : σ) (s : Sys σ ι) : Prop :=
  match s.holder with
  | none => (∀ th ∈ s.threads, th.cur = none) ∧ s.shared = seqResult sem init s.log
  | some i =>
    ∃ th prev op done rem, s.threads[i]? = some th ∧ th.cur = some rem ∧
      (∀ j th', j ≠ i → s.threads[j]? = some th' → th'.cur = none) ∧
      s.log = prev ++ [(i, op)] ∧ sem op = done ++ rem ∧
      s.shared = runOp done (seqResult sem init prev)

theorem inv_free {sem : ι → Body σ} {init : σ} {s : Sys σ ι} (h : Inv sem init s)
    (hf : s.holder = none) : s.shared = seqResult sem init s.log := by
  unfold Inv at h
  rw [hf] at h
  exact h.2

theorem inv_held {sem : ι → Body σ} {init : σ} {s : Sys σ ι} {i : Nat} (h : Inv sem init s)
    (hh : s.holder = some i) :
    ∃ th prev op done rem, s.threads[i]? = some th ∧ th.cur = some rem ∧
      (∀ j th', j ≠ i → s.threads[j]? = some th' → th'.cur = none) ∧
      s.log = prev ++ [(i, op)] ∧ sem op = done ++ rem ∧
      s.shared = runOp done (seqResult sem init prev) := by
  unfold Inv at h
  rw [hh] at h
  exact h

theorem seqResult_append (sem : ι → Body σ) (init : σ) (l : List (Nat × ι)) (e : Nat × ι) :
    seqResult sem init (l ++ [e]) = runOp (sem e.2) (seqResult sem init l) := by
  simp [seqResult, List.foldl_append]

theorem runOp_append (a b : Body σ) (s : σ) : runOp (a ++ b) s = runOp b (runOp a s) := by
  simp [runOp, List.foldl_append]

theorem step_cases (sem : ι → Body σ) (s s' : Sys σ ι) (i : Nat) (hs : step sem s i = some s') :
    ∃ th, s.threads[i]? = some th ∧ i < s.threads.length ∧
      ((∃ op rest, th.cur = none ∧ th.todo = op :: rest ∧ s.holder = none ∧
          s' = { s with holder := some i,
                        threads := s.threads.set i { todo := rest, cur := some (sem op) },
                        log := s.log ++ [(i, op)] }) ∨
       (th.cur = some [] ∧ s.holder = some i ∧
          s' = { s with holder := none, threads := s.threads.set i { th with cur := none } }) ∨
       (∃ f fs, th.cur = some (f :: fs) ∧ s.holder = some i ∧
          s' = { s with shared := f s.shared,
                        threads := s.threads.set i { th with cur := some fs } })) := by
  unfold step at hs
  cases hth : s.threads[i]? with
  | none => simp [hth] at hs
  | some th =>
    refine ⟨th, rfl, (List.getElem?_eq_some_iff.mp hth).1, ?_⟩
    simp only [hth] at hs
    cases hcur : th.cur with
    | none =>
      simp only [hcur] at hs
      cases htodo : th.todo with
      | nil => simp [htodo] at hs
      | cons op rest =>
        cases hh : s.holder with
        | some k => simp [htodo, hh] at hs
        | none =>
          simp only [htodo, hh, Option.some.injEq] at hs
          exact Or.inl ⟨op, rest, rfl, rfl, rfl, hs.symm⟩
    | some rem =>
      simp only [hcur] at hs
      cases rem with
      | nil =>
        by_cases hh : s.holder = some i
        · simp only [if_pos hh] at hs
          exact Or.inr (Or.inl ⟨rfl, hh, (Option.some.inj hs).symm⟩)
        · simp [hh] at hs
      | cons f fs =>
        by_cases hh : s.holder = some i
        · simp only [if_pos hh] at hs
          exact Or.inr (Or.inr ⟨f, fs, rfl, hh, (Option.some.inj hs).symm⟩)
        · simp [hh] at hs

theorem step_inv (sem : ι → Body σ) (init : σ) (s s' : Sys σ ι) (i : Nat) (h : Inv sem init s)
    (hs : step sem s i = some s') : Inv sem init s' := by
  obtain ⟨th, hth, hi, c | c | c⟩ := step_cases sem s s' i hs
  · obtain ⟨op, rest, _, _, hh, rfl⟩ := c
    unfold Inv at h ⊢
    simp only [hh] at h
    obtain ⟨hall, hsh⟩ := h
    refine ⟨{ todo := rest, cur := some (sem op) }, s.log, op, [], sem op, ?_, rfl, ?_, rfl, by simp, ?_⟩
    · simp [hi]
    · intro j th' hj hget
      rw [List.getElem?_set_ne (Ne.symm hj)] at hget
      exact hall th' (List.mem_of_getElem? hget)
    · simpa [runOp] using hsh
  · obtain ⟨hcur, hh, rfl⟩ := c
    obtain ⟨th0, prev, op, done, rem, hget, hc, hoth, hlog, hop, hsh⟩ := inv_held h hh
    cases hget.symm.trans hth
    cases hc.symm.trans hcur
    unfold Inv
    simp only
    constructor
    · intro th' hmem
      rcases List.mem_iff_getElem?.mp hmem with ⟨j, hj⟩
      by_cases hji : j = i
      · subst hji
        simp [hi] at hj; rw [← hj]
      · rw [List.getElem?_set_ne (Ne.symm hji)] at hj
        exact hoth j th' hji hj
    · rw [hlog, seqResult_append, hsh, hop]; simp
  · obtain ⟨f, fs, hcur, hh, rfl⟩ := c
    obtain ⟨th0, prev, op, done, rem, hget, hc, hoth, hlog, hop, hsh⟩ := inv_held h hh
    cases hget.symm.trans hth
    cases hc.symm.trans hcur
    unfold Inv
    simp only [hh]
    refine ⟨{ th with cur := some fs }, prev, op, done ++ [f], fs, ?_, rfl, ?_, hlog, by simp [hop], ?_⟩
    · simp [hi]
    · intro j th' hj hget'
      rw [List.getElem?_set_ne (Ne.symm hj)] at hget'
      exact hoth j th' hj hget'
    · rw [runOp_append, ← hsh]; rfl

theorem run_preserves (sem : ι → Body σ) {Q : Sys σ ι → Prop}
    (hstep : ∀ s s' i, Q s → step sem s i = some s' → Q s') (sched : List Nat) (s : Sys σ ι)
    (h : Q s) : Q (run sem s sched) := by
  induction sched generalizing s with
  | nil => exact h
  | cons i is ih =>
    unfold run
    cases hs : step sem s i with
    | none => exact ih s h
    | some s' => exact ih s' (hstep s s' i h hs)

theorem start_inv (sem : ι → Body σ) (init : σ) (progs : List (List ι)) : Inv sem init (start init progs) := by
  unfold Inv start
  simp only
  refine ⟨?_, rfl⟩
  intro th hmem
  rcases List.mem_map.mp hmem with ⟨p, _, rfl⟩
  rfl

/-- program order: what thread `i` has logged so far, followed by what it still has to start, is
    its program -/
def ProgOrder (progs : List (List ι)) (s : Sys σ ι) : Prop :=
  s.threads.length = progs.length ∧
  ∀ i th, s.threads[i]? = some th →
    some (((s.log.filter (fun e => e.1 == i)).map (·.2)) ++ th.todo) = progs[i]?

theorem step_progOrder (sem : ι → Body σ) (progs : List (List ι)) (s s' : Sys σ ι) (i : Nat)
    (h : ProgOrder progs s) (hs : step sem s i = some s') : ProgOrder progs s' := by
  obtain ⟨th, hth, hi, c⟩ := step_cases sem s s' i hs
  -- a micro-step inside a critical section changes neither `todo` nor the log
  have key : ∀ th2 : Thread σ ι, th2.todo = th.todo → ∀ sh ho,
      ProgOrder progs { s with shared := sh, holder := ho, threads := s.threads.set i th2 } := by
    intro th2 htd sh ho
    refine ⟨by simpa using h.1, ?_⟩
    intro j th' hget
    by_cases hji : j = i
    · subst hji
      simp [hi] at hget; subst hget
      rw [htd]; exact h.2 j th hth
    · simp only at hget
      rw [List.getElem?_set_ne (Ne.symm hji)] at hget
      exact h.2 j th' hget
  rcases c with ⟨op, rest, _, htodo, _, rfl⟩ | ⟨_, _, rfl⟩ | ⟨f, fs, _, _, rfl⟩
  · refine ⟨by simpa using h.1, ?_⟩
    intro j th' hget
    by_cases hji : j = i
    · subst hji
      simp [hi] at hget; subst hget
      have := h.2 j th hth
      rw [htodo] at this
      simpa [List.filter_cons] using this
    · simp only at hget
      rw [List.getElem?_set_ne (Ne.symm hji)] at hget
      have := h.2 j th' hget
      simpa [List.filter_cons, Ne.symm hji] using this
  · exact key { th with cur := none } rfl _ _
  · exact key { th with cur := some fs } rfl _ _

theorem start_progOrder (init : σ) (progs : List (List ι)) : ProgOrder progs (start (σ := σ) init progs) := by
  refine ⟨by simp [start], ?_⟩
  intro i th hget
  simp only [start, List.getElem?_map] at hget
  cases hp : progs[i]? with
  | none => simp [hp] at hget
  | some p =>
    simp [hp] at hget; subst hget
    simp [start]
end ScionTime.Mutex
