/-
  Proofs/CollectRounds.lean — the product of measurement rounds (Model/CollectRounds.lean):
  every round of every global schedule satisfies the single-round invariant `Collect.Inv` with
  respect to ITS OWN arguments. Helper lemmas for Props/C16Rounds.
-/
import ScionTime.Model.CollectRounds
import ScionTime.Proofs.Collect
namespace ScionTime.CollectRounds
open ScionTime.Collect

/-- a step of a goroutine (anything but a tick) does not move the clock -/
theorem step_now {s s' : St} {c : Choice} (h : step s c = some s') (hc : isTick c = false) :
    s'.now = s.now := by
  cases step_sound h with
  | tick => simp [isTick] at hc
  | recv m =>
    obtain ⟨_, _, e⟩ := collectorRecv_eq { s with sending := s.sending.erase m } m
    rw [e]
  | finish | abort | cancel | observeCancel | retFull | drain => rfl

/-- time passing over a round in which nothing can run, not beyond its earliest timer (a tick of
    the product seen from one round), preserves the round's invariant -/
theorem inv_idle {t0 d : Int} {ms0 : List Msg} {ids : List Nat} {s : St} (h : Inv t0 d ms0 ids s)
    (t : Int) (hb : busy s = false) (hall : ∀ u ∈ timers s, t ≤ u) :
    Inv t0 d ms0 ids { s with now := t } :=
  ⟨⟨h.slice.len, h.slice.len0, h.slice.iEq, h.slice.jEq, h.slice.iLe, h.slice.front, h.slice.tail⟩,
    h.cons, ⟨h.drain.cnt, h.drain.loopDr⟩, timeInv_idle h.time t hb hall, h.nIds⟩

/-- the invariant of the product: every round carries the shared clock, was entered with
    `len(ms) = len(refclks)`, and satisfies the single-round invariant for its own arguments -/
def RoundInv (now : Int) (r : Round) : Prop :=
  r.st.now = now ∧ r.spec.ms0.length = r.spec.senders.length ∧
  Inv r.t0 r.spec.deadline r.spec.ms0 (r.spec.senders.map (·.id)) r.st

def MInv (m : Multi) : Prop := ∀ r ∈ m.rounds, RoundInv m.now r

theorem minv_init (t : Int) : MInv (minit t) := by
  intro r hr; simp [minit] at hr

theorem minv_step {m m' : Multi} {c : MChoice} (h : MInv m) (hs : mstep m c = some m') : MInv m' := by
  cases c with
  | start spec =>
    simp only [mstep] at hs
    split at hs
    · rename_i hc
      cases hs
      intro r hr
      simp only [List.mem_append, List.mem_singleton] at hr
      rcases hr with hr | rfl
      · exact h r hr
      · exact ⟨rfl, hc.2, inv_init _ _ _ _ hc.2⟩
    · cases hs
  | inRound k c =>
    simp only [mstep] at hs
    split at hs
    · cases hs
    · rename_i hnt
      split at hs
      · rename_i r hk
        split at hs
        · rename_i s' hst
          cases hs
          intro r' hr'
          have hmem : r ∈ m.rounds := List.mem_of_getElem? hk
          obtain ⟨h1, h2, h3⟩ := h r hmem
          rcases List.mem_or_eq_of_mem_set hr' with hr' | rfl
          · exact h r' hr'
          · refine ⟨?_, h2, inv_step h3 (step_sound hst)⟩
            simp only
            rw [step_now hst (by simpa using hnt)]; exact h1
        · cases hs
      · cases hs
  | tick t =>
    simp only [mstep] at hs
    split at hs
    · rename_i hc
      cases hs
      intro r' hr'
      simp only [List.mem_map] at hr'
      obtain ⟨r, hr, rfl⟩ := hr'
      obtain ⟨h1, h2, h3⟩ := h r hr
      have hb : busy r.st = false := by
        have := hc.1
        simp only [mbusy, List.any_eq_true, not_exists, not_and, Bool.not_eq_true] at this
        exact this r hr
      have hall : ∀ u ∈ timers r.st, t ≤ u := by
        intro u hu
        have := List.all_eq_true.mp hc.2.2 u (List.mem_flatMap.mpr ⟨r, hr, hu⟩)
        simpa using this
      exact ⟨rfl, h2, inv_idle h3 t hb hall⟩
    · cases hs

theorem minv_run {m m' : Multi} {sched : List MChoice} (h : MInv m) (hr : mrun m sched = some m') : MInv m' := by
  fun_induction mrun m sched with
  | case1 m => cases hr; exact h
  | case2 m c rest m1 hs ih => exact ih (minv_step h hs) hr
  | case3 m c rest hs => cases hr

theorem round_inv {t : Int} {sched : List MChoice} {m : Multi}
    (hr : mrun (minit t) sched = some m) {r : Round} (hmem : r ∈ m.rounds) :
    r.st.now = m.now ∧ Inv r.t0 r.spec.deadline r.spec.ms0 (r.spec.senders.map (·.id)) r.st ∧
      r.st.n = r.spec.senders.length := by
  obtain ⟨hnow, _, h⟩ := minv_run (minv_init t) hr r hmem
  exact ⟨hnow, h, by rw [← h.nIds, List.length_map]⟩

end ScionTime.CollectRounds
