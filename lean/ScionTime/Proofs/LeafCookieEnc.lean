/-
  Encoders that fill a buffer made in the function front to back (net/ntske/cookies.go). The buffer is
  `w ++ zeros`, `w` being what has been written; a write at offset `w.length` appends to `w` and cannot
  panic, the room it needs being part of the shape of the buffer.
-/
import ScionTime.Model.GoPrelude2
import ScionTime.Model.Cookies
import ScionTime.Proofs.GoPrelude
import ScionTime.Proofs.LeafTlv
namespace ScionTime.GoLemmas
open ScionTime
open ScionTime.LeafTlv (toInt_add_nat)

/-- the two bytes `binary.BigEndian.PutUint16` writes -/
def u16be (v : UInt16) : List UInt8 := [(v >>> 8).toUInt8, v.toUInt8]

theorem length_u16be (v : UInt16) : (u16be v).length = 2 := rfl

theorem map_toNat_u16be (v : UInt16) : (u16be v).map UInt8.toNat = Nts.be16 v.toNat := by
  simp [u16be, Nts.be16, Nat.shiftRight_eq_div_pow]

theorem toNat_len16 {α} (l : List α) : ((Go.len l).toUInt64.toUInt16).toNat = l.length % 65536 := by
  simp [Go.len]

theorem bind_of_eq_some {α β} {o : Option α} {f : α → Option β} {a : α} {r : Option β} (h : o = some a)
    (hf : f a = r) : o.bind f = r := by
  rw [h, Option.bind_some, hf]

/-- `len(s) + c`: the cursor behind `s` copied at cursor `c` -/
theorem toInt_len_add {α} (s : List α) {c : Int64} {k : Nat} (hc : c.toInt = k)
    (h : k + s.length < 9223372036854775808) : (Go.len s + c).toInt = ↑(k + s.length) :=
  Int64.add_comm _ _ ▸ toInt_add_nat hc (Int64.toInt_ofNat_of_lt (Nat.lt_of_le_of_lt (Nat.le_add_left _ _) h)) h

theorem makeBytesN?_eq {L : Int64} {n : Nat} (h : L.toInt = n) : Go.makeBytesN? L = some (List.replicate n 0) := by
  unfold Go.makeBytesN?
  rw [h, if_pos (Int.natCast_nonneg n), Int.toNat_natCast]

theorem splice_cursor {α} (w s : List α) (z : α) (m : Nat) :
    (w ++ List.replicate (s.length + m) z).take w.length ++ s ++
      (w ++ List.replicate (s.length + m) z).drop (w.length + s.length) = w ++ s ++ List.replicate m z := by
  rw [List.take_left, List.drop_length_add_append, List.drop_replicate, Nat.add_sub_cancel_left]

theorem putU16?_cursor (w : List UInt8) (m : Nat) (off : Int64) (v : UInt16) (hoff : off.toInt = w.length) :
    Go.putU16? (w ++ List.replicate (2 + m) 0) off v = some (w ++ u16be v ++ List.replicate m 0) := by
  unfold Go.putU16?
  rw [hoff, Int.toNat_natCast, if_pos ⟨Int.natCast_nonneg _, by simp⟩]
  exact congrArg some (splice_cursor w (u16be v) 0 m)

theorem copyL?_cursor (w src : List UInt8) (m : Nat) (off : Int64) (hoff : off.toInt = w.length) :
    Go.copyL? (w ++ List.replicate (src.length + m) 0) off src = some (w ++ src ++ List.replicate m 0) := by
  unfold Go.copyL?
  rw [hoff, Int.toNat_natCast, if_pos ⟨Int.natCast_nonneg _, by simp⟩]
  simp only [List.length_append, List.length_replicate, Nat.add_sub_cancel_left, Nat.min_eq_right (Nat.le_add_right _ _),
    List.take_length]
  exact congrArg some (splice_cursor w src 0 m)

end ScionTime.GoLemmas
