/-
  Helper lemmas for C15: permutation invariants of the sticky loop, of the picks of
  crypto.Sample applied to the candidate list, and of the fill loop.
-/
import ScionTime.Model.Multipath
import ScionTime.Proofs.Reservoir
namespace ScionTime.Multipath
open ScionTime.Sample List

/-- `ps[j] = ps[last]; ps = ps[:last]` removes exactly `ps[j]` (as a multiset) -/
theorem swapRemove_perm (ps : List Path) (j : Nat) (h : j < ps.length) :
    (ps[j] :: swapRemove ps j).Perm ps := by
  unfold swapRemove
  rcases hl : ps.getLast? with _ | last
  · simp at hl; subst hl; simp at h
  · obtain ⟨init, rfl⟩ := getLast?_eq_some_iff.mp hl
    simp only [length_append, length_cons, length_nil] at h
    simp only [set_append]
    by_cases hj : j < init.length
    · simp only [hj, ↓reduceIte, dropLast_concat, getElem_append_left hj]
      exact (set_perm init j last hj).trans (perm_append_singleton last init).symm
    · obtain rfl : j = init.length := by omega
      simp only [Nat.lt_irrefl, ↓reduceIte, Nat.sub_self, set_cons_zero, dropLast_concat,
        getElem_concat_length]
      exact (perm_append_singleton last init).symm

theorem swapRemove_length (ps : List Path) (j : Nat) (h : j < ps.length) :
    (swapRemove ps j).length + 1 = ps.length := by
  have := (swapRemove_perm ps j h).length_eq
  simpa using this

def assignedOf (sps : List (Option Path)) : List Path := sps.filterMap id

/-- what one iteration of the first loop does: either nothing is taken (the client does not
    look for its previous path, or no candidate has that fingerprint), or the first candidate
    with the client's previous fingerprint is taken out of the candidate list -/
theorem stickyStep_cases (f : Bool) (c : Client) (ps : List Path) :
    ((wantsSticky f c = false ∨ ps.findIdx? (fun p => p.2 == c.ipath) = none) ∧
      stickyStep f c ps = (none, ps)) ∨
    (∃ j, ∃ h : j < ps.length, wantsSticky f c = true ∧
      ps.findIdx? (fun p => p.2 == c.ipath) = some j ∧
      stickyStep f c ps = (some ps[j], swapRemove ps j)) := by
  unfold stickyStep
  cases hw : wantsSticky f c with
  | false => exact .inl ⟨.inl rfl, rfl⟩
  | true =>
    cases hj : ps.findIdx? (fun p => p.2 == c.ipath) with
    | none => exact .inl ⟨.inr rfl, rfl⟩
    | some j =>
      have hlt : j < ps.length := (findIdx?_eq_some_iff_getElem.mp hj).1
      exact .inr ⟨j, hlt, rfl, rfl, by simp [getElem?_eq_getElem hlt]⟩

theorem stickyStep_perm (f : Bool) (c : Client) (ps : List Path) :
    ((stickyStep f c ps).1.toList ++ (stickyStep f c ps).2).Perm ps := by
  rcases stickyStep_cases f c ps with ⟨_, h⟩ | ⟨j, hj, _, _, h⟩
  · rw [h]; simp
  · rw [h]; simpa using swapRemove_perm ps j hj

theorem stickyLoop_length (f : Bool) : ∀ (cs : List Client) (ps : List Path),
    (stickyLoop f cs ps).1.length = cs.length
  | [], _ => rfl
  | c :: cs, ps => by simp [stickyLoop, stickyLoop_length f cs]

theorem assignedOf_cons (a : Option Path) (sps : List (Option Path)) :
    assignedOf (a :: sps) = a.toList ++ assignedOf sps := by
  cases a <;> rfl

/-- assigned ++ remaining candidates is a permutation of the offered list -/
theorem stickyLoop_perm (f : Bool) : ∀ (cs : List Client) (ps : List Path),
    (assignedOf (stickyLoop f cs ps).1 ++ (stickyLoop f cs ps).2).Perm ps
  | [], ps => by simp [stickyLoop, assignedOf]
  | c :: cs, ps => by
    simp only [stickyLoop, assignedOf_cons, append_assoc]
    exact (Perm.append_left _ (stickyLoop_perm f cs _)).trans (stickyStep_perm f c ps)

theorem stickyStep_tail_length (f : Bool) (c : Client) (ps : List Path) :
    (stickyStep f c ps).2.length + (ps.drop (stickyStep f c ps).2.length).length = ps.length := by
  rcases stickyStep_cases f c ps with ⟨_, h2⟩ | ⟨j, hj, _, _, h2⟩
  · rw [h2]; simp
  · rw [h2]
    have := swapRemove_length ps j hj
    simp only [length_drop]; omega

theorem stickyLoop_tail_length (f : Bool) : ∀ (cs : List Client) (ps tail : List Path),
    (stickyLoop f cs ps).2.length + (stickyLoopTail f cs ps tail).length = ps.length + tail.length
  | [], _, _ => by simp [stickyLoop, stickyLoopTail]
  | c :: cs, ps, tail => by
    have h := stickyStep_tail_length f c ps
    have ih := stickyLoop_tail_length f cs (stickyStep f c ps).2 (ps.drop (stickyStep f c ps).2.length ++ tail)
    simp only [stickyLoop, stickyLoopTail]
    simp only [length_append] at ih
    omega

/-- crypto.Sample with `pick = ps[dst] = ps[src]`: `k' = min k n` and the first `k'` entries of
    the list afterwards are a sub-multiset of the candidates: they are the entries at the
    positions of a reservoir, which are distinct. -/
theorem sample_perm {α : Type} [Inhabited α] (ps : List α) (K : Nat) (c : Bool) (s : Stream)
    (k' : Nat) (picks : List (Nat × Nat)) (rest : Stream)
    (h : sample (K : Int) (ps.length : Int) c s = .ok (k', picks, rest)) :
    k' = min K ps.length ∧ ∃ r, ((applyPicks ps picks).take k' ++ r).Perm ps := by
  obtain ⟨hk, js, hjs, hres⟩ := sample_take_eq ps default K c s k' picks rest h
  obtain ⟨_, hnd, hlt⟩ := outcomes_inv k' _ _ (mem_map.mpr ⟨js, hjs, rfl⟩)
  obtain ⟨r, hr⟩ := exists_perm_append_of_subset _ (List.range ps.length) hnd
    (fun y hy => mem_range.mpr (by have := hlt y hy; omega))
  refine ⟨hk, r.map fun i => ps.getD i default, ?_⟩
  rw [hres, ← map_append]
  have := (hr.map fun i => ps.getD i default).symm
  rwa [← eq_map_range_getD] at this

theorem countSome_add_countNone (sps : List (Option Path)) :
    countSome sps + countNone sps = sps.length := by
  induction sps with
  | nil => rfl
  | cons a sps ih => cases a <;> simp [countSome, countNone] at * <;> omega

theorem countSome_eq_length_assignedOf (sps : List (Option Path)) :
    countSome sps = (assignedOf sps).length := by
  induction sps with
  | nil => rfl
  | cons a sps ih => cases a <;> simpa [countSome, assignedOf] using ih

theorem fill_length (sps : List (Option Path)) (qs : List Path) :
    (fill sps qs).length = sps.length := by
  fun_induction fill sps qs <;> simp [*]

/-- the fill loop keeps every earlier assignment and hands out the sampled paths in order -/
theorem fill_assigned (sps : List (Option Path)) (qs : List Path) (h : qs.length ≤ countNone sps) :
    assignedOf (fill sps qs) ~ assignedOf sps ++ qs := by
  fun_induction fill sps qs with
  | case1 qs =>
    have : qs = [] := by simpa [countNone] using h
    subst this; exact Perm.refl _
  | case2 p sps qs ih => exact (ih (by simpa [countNone] using h)).cons p
  | case3 sps q qs ih =>
    exact ((ih (by simp [countNone] at *; omega)).cons q).trans perm_middle.symm
  | case4 sps ih => simpa [assignedOf_cons] using ih (Nat.zero_le _)

theorem fill_keeps (sps : List (Option Path)) (qs : List Path) (i : Nat) (p : Path)
    (h : sps[i]? = some (some p)) : (fill sps qs)[i]? = some (some p) := by
  fun_induction fill sps qs generalizing i with
  | case1 => cases h
  | case2 p' sps qs ih =>
    cases i with
    | zero => exact h
    | succ i => exact ih i h
  | case3 sps q qs ih | case4 sps ih =>
    cases i with
    | zero => cases h
    | succ i => exact ih i h

theorem offeredPaths_length (offered : List Fp) : (offeredPaths offered).length = offered.length := by
  simp [offeredPaths]

theorem assignFrom_ok {st : List (Option Path) × List Path} {c : Bool} {s rest : Stream}
    {sps : List (Option Path)} {reset : List Bool} (h : assignFrom st c s = (.ok sps rest, reset)) :
    ∃ n picks, sample (countNone st.1 : Nat) st.2.length c s = .ok (n, picks, rest) ∧
      0 < countSome st.1 + n ∧ sps = fill st.1 ((applyPicks st.2 picks).take n) ∧
      reset = st.1.map Option.isNone := by
  unfold assignFrom at h
  simp only at h
  have hcn := countSome_add_countNone st.1
  have hk : ((st.1.length : Int) - (countSome st.1 : Nat)) = ((countNone st.1 : Nat) : Int) := by omega
  rw [hk] at h
  split at h
  · simp at h
  · simp at h
  · rename_i n picks rest' hs
    split at h
    · simp at h
    · simp only [Prod.mk.injEq, AssignRes.ok.injEq] at h
      obtain ⟨⟨rfl, rfl⟩, rfl⟩ := h
      exact ⟨n, picks, hs, by omega, rfl, rfl⟩

theorem assign_ok_spec (f : Bool) (cs : List Client) (offered : List Fp) (c : Bool) (s : Stream)
    (sps : List (Option Path)) (rest : Stream) (reset : List Bool)
    (h : assign f cs offered c s = (.ok sps rest, reset)) :
    sps.length = cs.length ∧
    (∃ r, (assignedOf sps ++ r).Perm (offeredPaths offered)) ∧
    countSome sps = min cs.length offered.length ∧ 0 < countSome sps ∧
    reset = (stickyLoop f cs (offeredPaths offered)).1.map Option.isNone ∧
    (∀ (i : Nat) (p : Path), (stickyLoop f cs (offeredPaths offered)).1[i]? = some (some p) → sps[i]? = some (some p)) := by
  obtain ⟨n, picks, hs, hpos, rfl, rfl⟩ :=
    assignFrom_ok (st := stickyLoop f cs (offeredPaths offered)) h
  have hlen := stickyLoop_length f cs (offeredPaths offered)
  have hperm := stickyLoop_perm f cs (offeredPaths offered)
  generalize stickyLoop f cs (offeredPaths offered) = st at *
  obtain ⟨hn, r, hr⟩ := sample_perm st.2 (countNone st.1) c s n picks rest hs
  have hcn := countSome_add_countNone st.1
  have hfa := fill_assigned st.1 ((applyPicks st.2 picks).take n) (by rw [length_take]; omega)
  -- sizes: the sticky paths and the candidates make up the offered list; `n` more are assigned
  have hpl := hperm.length_eq
  rw [length_append, offeredPaths_length, ← countSome_eq_length_assignedOf] at hpl
  have hsz : countSome (fill st.1 ((applyPicks st.2 picks).take n)) = countSome st.1 + n := by
    rw [countSome_eq_length_assignedOf, hfa.length_eq, length_append,
      ← countSome_eq_length_assignedOf, length_take, applyPicks_length]
    omega
  refine ⟨by rw [fill_length]; exact hlen, ⟨r, ?_⟩, by omega, by omega, rfl,
    fun i p hi => fill_keeps _ _ i p hi⟩
  refine ((Perm.append_right r hfa).trans ?_).trans hperm
  rw [append_assoc]
  exact Perm.append_left _ hr

/-- the candidate list when client `i`'s turn comes in the first loop -/
def candidatesAt (f : Bool) (cs : List Client) (ps : List Path) (i : Nat) : List Path :=
  (stickyLoop f (cs.take i) ps).2

theorem stickyLoop_get (f : Bool) : ∀ (cs : List Client) (ps : List Path) (i : Nat),
    (stickyLoop f cs ps).1[i]? = cs[i]?.map fun c => (stickyStep f c (candidatesAt f cs ps i)).1
  | [], _, _ => by simp [stickyLoop]
  | c :: cs, ps, 0 => by simp [stickyLoop, candidatesAt]
  | c :: cs, ps, i + 1 => by
    have ih := stickyLoop_get f cs (stickyStep f c ps).2 i
    simp only [stickyLoop, getElem?_cons_succ, candidatesAt, take_succ_cons] at *
    exact ih

theorem stickyLoop_nil (f : Bool) : ∀ (cs : List Client),
    stickyLoop f cs [] = (cs.map fun _ => none, [])
  | [] => rfl
  | c :: cs => by
    have h : stickyStep f c [] = (none, []) := by
      unfold stickyStep; split <;> simp
    simp [stickyLoop, h, stickyLoop_nil f cs]

theorem values_length (sps : List (Option Path)) (succ : List (Option Int))
    (h : sps.length ≤ succ.length) : (values sps succ).length = countSome sps := by
  induction sps generalizing succ with
  | nil => simp [values, countSome]
  | cons p sps ih =>
    cases succ with
    | nil => simp at h
    | cons r succ =>
      have := ih succ (by simpa using h)
      cases p <;> simpa [values, countSome] using this

end ScionTime.Multipath
