/-
  `handleRequest` and `updateTX` preserve heap order.
-/
import ScionTime.Proofs.ServerOps
import ScionTime.Proofs.ServerHeapOrd
namespace ScionTime.Server
open ScionTime.Time64

/-- the whole heap array is in heap order w.r.t. the items' qvals -/
def HeapOk (st : State) : Prop := HeapOrd st st.heap.size

theorem qv_setBuf (m : Map) (id : Nat) (g : List Entry → List Entry) (k : Nat) :
    qv (setBuf m id g) k = qv m k := by
  unfold qv
  rw [find_setBuf]
  by_cases e : id = k
  · subst e
    simp only [if_true]
    cases Map.find m id <;> rfl
  · rw [if_neg e]

theorem kv_setBuf (st : State) (id : Nat) (g : List Entry → List Entry) (x : Nat) :
    kv { st with items := setBuf st.items id g } x = kv st x := by
  unfold kv
  exact qv_setBuf _ _ _ _

theorem heapOk_setBuf (st : State) (id : Nat) (g : List Entry → List Entry) (h : HeapOk st) :
    HeapOk { st with items := setBuf st.items id g } := by
  unfold HeapOk at *
  exact heapOrd_congr (fun x _ => kv_setBuf st id g x) h

theorem heapOk_handleRequestG (strict : Bool) (cap icap : Nat) (hcap : 1 ≤ cap) (st : State)
    (h : WF st) (ho : HeapOk st) (id : Nat) (req : Req) (rxt now : Int) :
    HeapOk (handleRequestG strict cap icap st id req rxt now).st := by
  unfold handleRequestG
  simp only
  split
  · rename_i it hit
    apply heapOk_setBuf
    generalize uniq it.buf rxt _ _ = u
    obtain ⟨q', _, hq'⟩ := hr_fix_spec st h id it hit (scan it.buf req.org).mx (ofTime u.1)
    rcases hq' with ⟨_, e, _⟩ | ⟨_, e, _⟩
    · rw [e]; exact ho
    · rw [e]; exact fixQval_heap st h ho id it hit _
  · rename_i hnone
    obtain ⟨w1, n1, _⟩ := evict_keeps (P := fun _ => True) cap hcap st h (ofTime rxt) id hnone
    have o1 : HeapOk (evict cap st (ofTime rxt)).1 := by
      unfold evict
      split
      · rename_i hc
        simp only [Bool.and_eq_true, decide_eq_true_eq] at hc
        exact popMin_heap st h (by have := h.len; omega) ho
      · exact ho
    generalize (evict cap st (ofTime rxt)) = ev at w1 n1 o1 ⊢
    split
    · exact o1
    · exact heapOk_setBuf _ id _
        (push_heap ev.1 w1 o1 id { buf := [], qval := ofTime rxt, qidx := 0 } n1)

theorem heapOk_updateTX (st : State) (h : WF st) (ho : HeapOk st) (id : Nat) (rxt txt1 : Int) :
    HeapOk (updateTX st id rxt txt1).1 := by
  unfold updateTX
  simp only
  split
  · exact ho
  · rename_i it hit
    generalize (if ¬ rxt < txt1 then rxt + 1 else txt1) = txt
    split
    · exact ho
    · split
      · exact heapOk_setBuf st id _ ho
      · split
        · exact remove_heap st h ho id it hit
        · apply heapOk_setBuf
          obtain ⟨q', _, hq'⟩ := utx_fix_spec st h id it hit
            (scan2 it.buf (ofTime rxt)).m0 (scan2 it.buf (ofTime rxt)).m1 (ofTime rxt)
          rcases hq' with ⟨_, e⟩ | ⟨_, _, _, _, e⟩
          · rw [e]; exact ho
          · rw [e]; exact fixQval_heap st h ho id it hit _

theorem root_le (st : State) (n : Nat) (ho : HeapOrd st n) : ∀ c, c < n → le64 (kv st 0) (kv st c) := by
  intro c
  induction c using Nat.strongRecOn with
  | _ c ih =>
    intro hc
    by_cases h0 : c = 0
    · subst h0; exact le64_refl _
    · have hp : (c - 1) / 2 < c := by omega
      exact le64_trans (ih _ hp (by omega)) (ho c (by omega) hc)

end ScionTime.Server
