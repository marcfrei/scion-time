/-
  Proofs/Collect.lean — step relation and invariants of the collection transition system
  (helper lemmas for Props/C16).
-/
import ScionTime.Model.Collect
namespace ScionTime.Collect

/-- `step` in relational form: one constructor per enabled step, with its enabling conditions. -/
inductive Step : St → Choice → St → Prop
  | finish (s : St) (x : Sender) (hx : x ∈ s.measuring) (hd : x.due ≤ s.now) :
      Step s (.finish x.id)
        { s with measuring := s.measuring.erase x, sending := s.sending ++ [{ id := x.id, ok := x.ok }] }
  | abort (s : St) (x : Sender) (hx : x ∈ s.measuring) (ha : x.aware = true) (hc : s.ctxDone = true) :
      Step s (.abort x.id)
        { s with measuring := s.measuring.erase x, sending := s.sending ++ [{ id := x.id, ok := false }] }
  | cancel (s : St) (hc : s.ctxDone = false) (hd : s.deadline = s.now) :
      Step s .cancel { s with ctxDone := true }
  | recv (s : St) (m : Msg) (hp : s.phase = .loop) (hm : m ∈ s.sending) (hi : s.i ≠ s.n) :
      Step s (.recv m.id) (collectorRecv { s with sending := s.sending.erase m } m)
  | observeCancel (s : St) (hp : s.phase = .loop) (hi : s.i ≠ s.n) (hc : s.ctxDone = true) :
      Step s .observeCancel { s with phase := .done (s.n - s.i), retAt := s.now }
  | retFull (s : St) (hp : s.phase = .loop) (hi : s.i = s.n) :
      Step s .retFull { s with phase := .done (s.n - s.i), retAt := s.now }
  | drain (s : St) (m : Msg) (left : Nat) (hp : s.phase = .done left) (hm : m ∈ s.sending) (hl : left ≠ 0) :
      Step s (.drain m.id)
        { s with sending := s.sending.erase m, phase := .done (left - 1), drained := s.drained ++ [m] }
  | tick (s : St) (t : Int) (hb : busy s = false) (hlt : s.now < t) (hmem : t ∈ timers s)
      (hall : ∀ u ∈ timers s, t ≤ u) :
      Step s (.tick t) { s with now := t }

/-- a successful `findSender` / `findMsg`: an element of the list with the id looked for -/
theorem find?_id_some {α} {f : α → Nat} {l : List α} {id : Nat} {x : α}
    (h : l.find? (fun x => f x == id) = some x) : x ∈ l ∧ f x = id :=
  ⟨List.mem_of_find?_eq_some h, by simpa using List.find?_some h⟩

theorem step_sound {s s' : St} {c : Choice} (h : step s c = some s') : Step s c s' := by
  cases c with
  | finish id =>
    simp only [step] at h
    split at h
    · rename_i x hf
      obtain ⟨hx, rfl⟩ := find?_id_some (f := Sender.id) hf
      obtain ⟨hd, h⟩ := Option.ite_none_right_eq_some.mp h
      cases h
      exact Step.finish s x hx hd
    · cases h
  | abort id =>
    simp only [step] at h
    split at h
    · rename_i x hf
      obtain ⟨hx, rfl⟩ := find?_id_some (f := Sender.id) hf
      obtain ⟨hd, h⟩ := Option.ite_none_right_eq_some.mp h
      cases h
      exact Step.abort s x hx hd.1 hd.2
    · cases h
  | cancel =>
    obtain ⟨hd, h⟩ := Option.ite_none_right_eq_some.mp h
    cases h
    exact Step.cancel s (by simpa using hd.1) hd.2
  | recv id =>
    simp only [step] at h
    split at h
    · rename_i m hp hf
      obtain ⟨hm, rfl⟩ := find?_id_some (f := Msg.id) hf
      obtain ⟨hi, h⟩ := Option.ite_none_right_eq_some.mp h
      cases h
      exact Step.recv s m hp hm hi
    · cases h
  | observeCancel =>
    simp only [step] at h
    split at h
    · rename_i hp
      obtain ⟨hc, h⟩ := Option.ite_none_right_eq_some.mp h
      cases h
      exact Step.observeCancel s hp hc.1 hc.2
    · cases h
  | retFull =>
    simp only [step] at h
    split at h
    · rename_i hp
      obtain ⟨hc, h⟩ := Option.ite_none_right_eq_some.mp h
      cases h
      exact Step.retFull s hp hc
    · cases h
  | drain id =>
    simp only [step] at h
    split at h
    · rename_i left m hp hf
      obtain ⟨hm, rfl⟩ := find?_id_some (f := Msg.id) hf
      obtain ⟨hl, h⟩ := Option.ite_none_right_eq_some.mp h
      cases h
      exact Step.drain s m left hp hm hl
    · cases h
  | tick t =>
    obtain ⟨hc, h⟩ := Option.ite_none_right_eq_some.mp h
    cases h
    exact Step.tick s t (by simpa using hc.1) hc.2.1 hc.2.2.1
      fun u hu => by simpa using List.all_eq_true.mp hc.2.2.2 u hu

theorem take_set_succ {α} (l : List α) (j : Nat) (a : α) (h : j < l.length) :
    (l.set j a).take (j + 1) = l.take j ++ [a] := by
  rw [List.take_succ_eq_append_getElem (by simpa using h), List.getElem_set_self,
    List.take_set_of_le (Nat.le_refl j)]

theorem drop_succ_of_drop_eq {α} {l l0 : List α} {j : Nat} (h : l.drop j = l0.drop j) :
    l.drop (j + 1) = l0.drop (j + 1) := by
  have := congrArg (List.drop 1) h
  simpa [List.drop_drop, Nat.add_comm] using this

/-- the collector's view: counters, result slice, ghost log -/
structure SliceInv (ms0 : List Msg) (s : St) : Prop where
  len : s.ms.length = s.n
  len0 : ms0.length = s.n
  iEq : s.i = s.received.length
  jEq : s.j = (s.received.filter (·.ok)).length
  iLe : s.i ≤ s.n
  front : s.ms.take s.j = s.received.filter (·.ok)
  tail : s.ms.drop s.j = ms0.drop s.j

theorem SliceInv.jLe {ms0 s} (h : SliceInv ms0 s) : s.j ≤ s.i := by
  rw [h.jEq, h.iEq]; exact List.length_filter_le _ _

/-- the receive case writes the result slice and the counters only -/
theorem collectorRecv_eq (s : St) (m : Msg) : ∃ ms j,
    collectorRecv s m = { s with ms := ms, j := j, i := s.i + 1, received := s.received ++ [m] } :=
  ⟨(collectorRecv s m).ms, (collectorRecv s m).j, by
    by_cases hok : m.ok = true <;> by_cases hj : s.j ≠ s.ms.length <;> simp [collectorRecv, hok, hj]⟩

theorem sliceInv_recv {ms0 s} (h : SliceInv ms0 s) (m : Msg) (l : List Msg) (hi : s.i ≠ s.n) :
    SliceInv ms0 (collectorRecv { s with sending := l } m) := by
  have hj : s.j < s.ms.length := by have := h.jLe; have := h.iLe; have := h.len; omega
  unfold collectorRecv
  cases hok : m.ok
  · simp only [Bool.false_eq_true, if_false]
    exact { len := h.len, len0 := h.len0,
            iEq := by simp [h.iEq],
            jEq := by simp [List.filter_append, hok, h.jEq],
            iLe := by have := h.iLe; simp only; omega,
            front := by simp [List.filter_append, hok, h.front],
            tail := h.tail }
  · have hne : s.j ≠ s.ms.length := by omega
    simp only [if_true, hne, ne_eq, not_false_eq_true]
    exact { len := by simp [h.len], len0 := h.len0,
            iEq := by simp [h.iEq],
            jEq := by simp [List.filter_append, hok, h.jEq],
            iLe := by have := h.iLe; simp only; omega,
            front := by
              simp only [List.filter_append, List.filter_cons, hok, if_true, List.filter_nil]
              rw [take_set_succ _ _ _ hj, h.front],
            tail := by
              simp only
              rw [List.drop_set_of_lt (Nat.lt_succ_self _)]
              exact drop_succ_of_drop_eq h.tail }

theorem sliceInv_step {ms0 s s' c} (h : SliceInv ms0 s) (hs : Step s c s') : SliceInv ms0 s' := by
  cases hs with
  | recv m hp hm hi => exact sliceInv_recv h m _ hi
  | finish | abort | cancel | observeCancel | retFull | drain | tick =>
    -- the new state differs in fields the invariant does not read, but the structure is indexed by
    -- the state: it is rebuilt field by field, here and for the other invariants below
    exact ⟨h.len, h.len0, h.iEq, h.jEq, h.iLe, h.front, h.tail⟩

/-- conservation: every sender is in exactly one place -/
def allIds (s : St) : List Nat :=
  s.received.map (·.id) ++ s.drained.map (·.id) ++ s.sending.map (·.id) ++ s.measuring.map (·.id)

theorem perm_of_mem_map {α β} [DecidableEq α] (f : α → β) {x : α} {l : List α} (hx : x ∈ l) :
    (l.map f).Perm (f x :: (l.erase x).map f) := by
  have := (List.perm_cons_erase hx).map f
  simpa using this

theorem allIds_step {ids : List Nat} {s s' c} (h : (allIds s).Perm ids) (hs : Step s c s') :
    (allIds s').Perm ids := by
  refine List.Perm.trans ?_ h
  cases hs with
  | cancel | observeCancel | retFull | tick => exact List.Perm.refl _
  | finish x hx | abort x hx =>
    have hp := perm_of_mem_map (·.id) hx
    simp only [allIds, List.map_append, List.map_cons, List.map_nil, List.append_assoc,
      List.singleton_append]
    exact List.Perm.append_left _ (List.Perm.append_left _ (List.Perm.append_left _ hp.symm))
  | recv m hp hm hi =>
    obtain ⟨_, _, e⟩ := collectorRecv_eq { s with sending := s.sending.erase m } m
    have hp' := perm_of_mem_map (·.id) hm
    simp only [e, allIds, List.map_append, List.map_cons,
      List.map_nil, List.append_assoc, List.singleton_append]
    refine List.Perm.append_left _ ?_
    refine List.Perm.trans List.perm_middle.symm ?_
    refine List.Perm.append_left _ ?_
    rw [← List.cons_append]
    exact List.Perm.append_right _ hp'.symm
  | drain m left hp hm hl =>
    have hp' := perm_of_mem_map (·.id) hm
    simp only [allIds, List.map_append, List.map_cons, List.map_nil, List.append_assoc,
      List.singleton_append]
    refine List.Perm.append_left _ (List.Perm.append_left _ ?_)
    exact List.Perm.append_right _ hp'.symm

/-- the drain goroutine's counter -/
structure DrainInv (s : St) : Prop where
  cnt : ∀ left, s.phase = .done left → left + s.drained.length + s.received.length = s.n
  loopDr : s.phase = .loop → s.drained = []

theorem drainInv_step {ms0 s s' c} (hsl : SliceInv ms0 s) (h : DrainInv s) (hs : Step s c s') :
    DrainInv s' := by
  cases hs with
  | finish | abort | cancel | tick => exact ⟨h.cnt, h.loopDr⟩
  | recv m hp hm hi =>
    obtain ⟨_, _, e⟩ := collectorRecv_eq { s with sending := s.sending.erase m } m
    rw [e]
    exact ⟨fun left hd => (nomatch hp.symm.trans hd), fun _ => h.loopDr hp⟩
  | observeCancel hp | retFull hp =>
    refine ⟨fun left hd => ?_, fun hl => by cases hl⟩
    simp only [Phase.done.injEq] at hd
    have := h.loopDr hp; have := hsl.iEq; have := hsl.iLe
    simp only [*, List.length_nil] at *
    omega
  | drain m left hp hm hl =>
    refine ⟨fun left' hd => ?_, fun hl => by cases hl⟩
    simp only [Phase.done.injEq] at hd
    have := h.cnt left hp
    simp only [List.length_append, List.length_singleton]
    omega

/-- virtual time: the collector is never in its loop later than the deadline -/
structure TimeInv (t0 d : Int) (s : St) : Prop where
  dl : s.deadline = d
  inLoop : s.phase = .loop → s.now ≤ max d t0
  ret : ∀ left, s.phase = .done left → s.retAt ≤ max d t0

/-- time passing while nothing can run, not beyond the earliest timer: a collector still in its
    loop has a context that is not yet cancelled (else it could run), so the deadline is a
    pending timer and the new instant is not later -/
theorem timeInv_idle {t0 d s} (h : TimeInv t0 d s) (t : Int) (hb : busy s = false)
    (hall : ∀ u ∈ timers s, t ≤ u) : TimeInv t0 d { s with now := t } := by
  refine ⟨h.dl, fun hp => ?_, h.ret⟩
  simp only at hp ⊢
  have hnd : s.ctxDone = false := by
    cases hc : s.ctxDone with
    | false => rfl
    | true => simp [busy, hp, hc] at hb
  have := hall _ (show s.deadline ∈ timers s by simp [timers, hnd])
  have := h.dl
  omega

theorem timeInv_step {t0 d s s' c} (h : TimeInv t0 d s) (hs : Step s c s') : TimeInv t0 d s' := by
  cases hs with
  | finish | abort | cancel => exact ⟨h.dl, h.inLoop, h.ret⟩
  | recv m hp hm hi =>
    obtain ⟨_, _, e⟩ := collectorRecv_eq { s with sending := s.sending.erase m } m
    rw [e]
    exact ⟨h.dl, fun _ => h.inLoop hp, fun left hd => nomatch hp.symm.trans hd⟩
  | observeCancel hp | retFull hp => exact ⟨h.dl, (fun hl => by cases hl), fun _ _ => h.inLoop hp⟩
  | drain m left hp hm hl => exact ⟨h.dl, (fun hl => by cases hl), fun _ _ => h.ret left hp⟩
  | tick t hb hlt hmem hall => exact timeInv_idle h t hb hall

/-- all invariants together -/
structure Inv (t0 d : Int) (ms0 : List Msg) (ids : List Nat) (s : St) : Prop where
  slice : SliceInv ms0 s
  cons : (allIds s).Perm ids
  drain : DrainInv s
  time : TimeInv t0 d s
  nIds : ids.length = s.n

theorem step_n {s s' c} (hs : Step s c s') : s'.n = s.n := by
  cases hs with
  | recv m hp hm hi =>
    obtain ⟨_, _, e⟩ := collectorRecv_eq { s with sending := s.sending.erase m } m
    rw [e]
  | finish | abort | cancel | observeCancel | retFull | drain | tick => rfl

theorem inv_step {t0 d ms0 ids s s' c} (h : Inv t0 d ms0 ids s) (hs : Step s c s') : Inv t0 d ms0 ids s' :=
  ⟨sliceInv_step h.slice hs, allIds_step h.cons hs, drainInv_step h.slice h.drain hs,
   timeInv_step h.time hs, by rw [step_n hs]; exact h.nIds⟩

theorem inv_init (t0 d : Int) (senders : List Sender) (ms0 : List Msg)
    (hlen : ms0.length = senders.length) :
    Inv t0 d ms0 (senders.map (·.id)) (init t0 d senders ms0) := by
  refine ⟨⟨rfl, rfl, rfl, rfl, Nat.zero_le _, rfl, rfl⟩, by simp [allIds, init],
    ⟨(fun left hd => by cases hd), fun _ => rfl⟩,
    ⟨rfl, fun _ => by simp only [init]; omega, fun left hd => by cases hd⟩, by simp [init, hlen]⟩

theorem inv_run_from {t0 d ms0 ids} {s s' : St} {sched : List Choice} (h : Inv t0 d ms0 ids s)
    (hr : run s sched = some s') : Inv t0 d ms0 ids s' := by
  fun_induction run s sched with
  | case1 s => cases hr; exact h
  | case2 s c rest s1 hs ih => exact ih (inv_step h (step_sound hs)) hr
  | case3 s c rest hs => cases hr

theorem inv_run {t0 d : Int} {senders : List Sender} {ms0 : List Msg}
    (hlen : ms0.length = senders.length) {sched : List Choice} {s : St}
    (hr : run (init t0 d senders ms0) sched = some s) :
    Inv t0 d ms0 (senders.map (·.id)) s ∧ s.n = senders.length := by
  have h := inv_run_from (inv_init t0 d senders ms0 hlen) hr
  exact ⟨h, by rw [← h.nIds, List.length_map]⟩

theorem inv_count {t0 d ms0 ids s} (h : Inv t0 d ms0 ids s) :
    s.received.length + s.drained.length + s.sending.length + s.measuring.length = s.n := by
  have := h.cons.length_eq
  simp only [allIds, List.length_append, List.length_map] at this
  rw [← h.nIds]; omega

theorem Inv.received_nodup {t0 d ms0 ids s} (h : Inv t0 d ms0 ids s) (hnd : ids.Nodup) :
    (s.received.map (·.id)).Nodup ∧ ((s.ms.take s.j).map (·.id)).Nodup := by
  have hall : (allIds s).Nodup := h.cons.nodup_iff.mpr hnd
  unfold allIds at hall
  have hrec := (List.nodup_append.mp (List.nodup_append.mp (List.nodup_append.mp hall).1).1).1
  refine ⟨hrec, ?_⟩
  rw [h.slice.front]
  exact List.Nodup.sublist (List.Sublist.map _ List.filter_sublist) hrec

theorem Inv.drain_exact {t0 d ms0 ids s} (h : Inv t0 d ms0 ids s) {left : Nat}
    (hp : s.phase = .done left) : left = s.sending.length + s.measuring.length := by
  have := inv_count h
  have := h.drain.cnt left hp
  omega

theorem Inv.progress {t0 d ms0 ids s} (h : Inv t0 d ms0 ids s) (hs : s.sending ≠ []) :
    ∃ c, (step s c).isSome ∧
      ((∃ id, c = .recv id) ∨ c = .retFull ∨ (∃ id, c = .drain id)) := by
  obtain ⟨m, rest, hm⟩ := List.exists_cons_of_ne_nil hs
  have hf : findMsg s.sending m.id = some m := by simp [findMsg, hm]
  cases hp : s.phase with
  | loop =>
    by_cases hi : s.i = s.n
    · exact ⟨.retFull, by simp [step, hp, hi], Or.inr (Or.inl rfl)⟩
    · exact ⟨.recv m.id, by simp [step, hp, hf, hi], Or.inl ⟨_, rfl⟩⟩
  | done left =>
    have : left ≠ 0 := by rw [h.drain_exact hp, hm]; simp
    exact ⟨.drain m.id, by simp [step, hp, hf, this], Or.inr (Or.inr ⟨_, rfl⟩)⟩

theorem Inv.all_accounted {t0 d ms0 ids s} (h : Inv t0 d ms0 ids s) (hm : s.measuring = [])
    (hs : s.sending = []) :
    s.received.length + s.drained.length = s.n ∧ ∀ left, s.phase = .done left → left = 0 := by
  have hc := inv_count h
  rw [hm, hs] at hc
  refine ⟨hc, fun left hp => ?_⟩
  have := h.drain_exact hp
  rw [hm, hs] at this; exact this

/-- one step of the guard: accepted − left is the change of the guard word, which stays 0 or 1 -/
theorem guardStep_count (g : Nat) (hg : g ≤ 1) (e : GuardEv) :
    (guardStep g e).1 ≤ 1 ∧
    (if (guardStep g e).2 == .accepted then 1 else 0) + g =
      (if (guardStep g e).2 == .left then 1 else 0) + (guardStep g e).1 := by
  have : g = 0 ∨ g = 1 := by omega
  rcases this with rfl | rfl <;> cases e <;> decide

end ScionTime.Collect
