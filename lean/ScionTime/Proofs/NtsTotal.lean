/-
  Totality lemmas (C08 fragment): with the bounds checks of the `fix:` commits the decoders
  never reach a Go panic and never run out of fuel (the fuel is the input length + 1).
-/
import ScionTime.Proofs.NtsWalk
import ScionTime.Proofs.CookieCodec
namespace ScionTime.Nts

@[simp] theorem Safe_ok {α} (a : α) : (Res.ok a).Safe = True := rfl
@[simp] theorem Safe_err {α} (e : Err) : (Res.err e : Res α).Safe = True := rfl
@[simp] theorem Safe_panic {α} (p : Pan) : (Res.panic p : Res α).Safe = False := rfl
@[simp] theorem Safe_hang {α} : (Res.hang : Res α).Safe = False := rfl

theorem Safe_bind {α β} (x : Res α) (f : α → Res β) (hx : x.Safe) (hf : ∀ a, x = .ok a → (f a).Safe) :
    (x >>= f).Safe := by
  cases x with
  | ok a => exact hf a rfl
  | err e => trivial
  | panic _ | hang => exact hx.elim

theorem Safe_bind_len {α} (n : Nat) (x : Res α) (f : α → Res Bytes) (hx : x.Safe)
    (hf : ∀ a, x = .ok a → (f a).Safe ∧ ∀ r, f a = .ok r → r.length ≤ n) :
    (x >>= f).Safe ∧ ∀ r, (x >>= f) = .ok r → r.length ≤ n := by
  cases x with
  | ok a => exact hf a rfl
  | err e => exact ⟨trivial, fun r h => by cases h⟩
  | panic _ | hang => exact hx.elim

theorem tlvLoop_safe (t0 t1 t2 : Nat) :
    ∀ (fuel : Nat) (rest : Bytes) (st : TlvSt), rest.length < fuel → (tlvLoop true t0 t1 t2 fuel rest st).Safe := by
  intro fuel
  induction fuel with
  | zero => intro rest st h; omega
  | succ fuel ih =>
    intro rest st h
    match rest, h with
    | [], _ | [_], _ | [_, _], _ | [_, _, _], _ => simp [tlvLoop]
    | a :: b :: c :: d :: v, h =>
      by_cases hc : v.length < u16 c d ∨ (u16 a b = t0 ∧ u16 c d < 2)
      · rw [tlvLoop_refused _ _ _ _ _ _ _ _ _ _ hc]; trivial
      · rw [tlvLoop_cons _ _ _ _ _ _ _ _ _ _ _ (by omega) (by omega)]
        exact ih _ _ (by simp only [List.length_drop, List.length_cons] at h ⊢; omega)

theorem decodeTLV_safe (t0 t1 t2 : Nat) (b : Bytes) : (decodeTLV true t0 t1 t2 b).Safe := by
  have := tlvLoop_safe t0 t1 t2 (b.length + 1) b {} (by omega)
  unfold decodeTLV
  cases h : tlvLoop true t0 t1 t2 (b.length + 1) b {} with
  | ok st =>
    simp only
    cases st.num <;> cases st.x <;> cases st.y <;> simp
  | err e => simp
  | panic _ | hang => rw [h] at this; exact this.elim

theorem unpackAuth_safe (body : Bytes) (h : 4 ≤ body.length) : (unpackAuth body).Safe := by
  match body, h with
  | _ :: _ :: _ :: _ :: _, _ => simp [unpackAuth]

theorem decLoop_safe (total : Nat) :
    ∀ (fuel : Nat) (rest : Bytes) (fu : Bool) (d : Decoded), rest.length < fuel → (decLoop true total fuel rest fu d).Safe := by
  intro fuel
  induction fuel with
  | zero => intro rest fu d h; omega
  | succ fuel ih =>
    intro rest fu d h
    by_cases h28 : rest.length < 28
    · rw [decLoop_short _ _ _ _ _ _ h28]; trivial
    · obtain ⟨a, b, c, e, body, rfl⟩ := cons4_of_length rest (by omega)
      rw [decLoop_cons_checked _ _ _ _ _ _ _ _ _ (by omega)]
      by_cases hc : u16 c e < 4 ∨ (a :: b :: c :: e :: body).length < u16 c e
      · rw [if_pos hc]; trivial
      · rw [if_neg hc]
        have hb := extLen_bounds hc
        simp only [List.length_cons] at h h28 hb
        by_cases ht : u16 a b = extAuthenticator
        · rw [if_pos ht]
          exact Safe_bind _ _ (unpackAuth_safe body (by omega)) fun _ _ => trivial
        · rw [if_neg ht]
          exact ih _ _ _ (by simp only [List.length_drop, List.length_cons]; omega)

theorem decodePacket_safe (b : Bytes) : (decodePacket b).Safe := by
  have := decLoop_safe b.length (b.length + 1) (b.drop ntpPacketLen) false {} (by simp; omega)
  unfold decodePacket decodePacketG
  cases h : decLoop true b.length (b.length + 1) (b.drop ntpPacketLen) false {} with
  | ok r =>
    obtain ⟨fu, fa, d⟩ := r
    simp only
    split
    · simp
    · split <;> simp
  | err e => simp
  | panic _ | hang => rw [h] at this; exact this.elim

theorem ptLoop_safe :
    ∀ (fuel : Nat) (rest : Bytes) (cs : List Bytes), rest.length < fuel → (ptLoop true fuel rest cs).Safe := by
  intro fuel
  induction fuel with
  | zero => intro rest cs h; omega
  | succ fuel ih =>
    intro rest cs h
    by_cases h28 : rest.length < 28
    · rw [ptLoop_short _ _ _ _ h28]; trivial
    · obtain ⟨a, b, c, e, body, rfl⟩ := cons4_of_length rest (by omega)
      rw [ptLoop_cons_checked _ _ _ _ _ _ _ (by omega)]
      by_cases hc : u16 c e < 4 ∨ (a :: b :: c :: e :: body).length < u16 c e
      · rw [if_pos hc]; trivial
      · rw [if_neg hc]
        have hb := extLen_bounds hc
        simp only [List.length_cons] at h h28 hb
        exact ih _ _ (by simp only [List.length_drop, List.length_cons]; omega)

theorem open_then_safe {α : Type} (A : AEAD) (key n ct : Bytes) (ad : Option Bytes) (f : Bytes → Res α)
    (hf : ∀ pt, (f pt).Safe) :
    (if !keyOk key then .err .keySize else if true && n.length ≠ 16 then .err .nonceLen
      else openC A key n ct ad >>= f : Res α).Safe := by
  split
  · trivial
  · split
    · trivial
    · rename_i hn
      have hn' : n.length = 16 := by simpa using hn
      simp only [openC, hn', ne_eq, not_true_eq_false, if_false]
      cases A.openF key n ct ad with
      | some pt => exact hf pt
      | none => trivial

theorem authenticate_safe (A : AEAD) (b key : Bytes) (d : Decoded) : (authenticateG true A b key d).Safe :=
  open_then_safe A key d.nonce d.ct _ _ fun pt => ptLoop_safe _ _ _ (by omega)

theorem decryptCookie_safe (A : AEAD) (ec : Triple) (key : Bytes) : (decryptCookie A ec key).Safe :=
  open_then_safe A key ec.x ec.y none _ fun pt => decodeTLV_safe _ _ _ pt

end ScionTime.Nts
