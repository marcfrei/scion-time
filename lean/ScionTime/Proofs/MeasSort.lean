/-
  Helper lemmas for the measurement variant of C02.
-/
import ScionTime.Model.Measurements
import ScionTime.Proofs.Sort
namespace ScionTime.Measurements
open ScionTime.Timemath

theorem getD_map_offset (s : List M) (i : Nat) :
    (s.map M.offset).getD i 0 = (s.getD i zeroM).offset :=
  getD_map M.offset s i zeroM

theorem offsets_sorted_perm {ms post : List M} (h : SortedPerm ms post) :
    post.map M.offset = sort64 (ms.map M.offset) :=
  sort64_unique (h.1.map _) (List.pairwise_map.mpr h.2)

theorem ftm_of_sortedPerm {ms post : List M} (hn : ms ≠ []) (h : SortedPerm ms post) :
    ftm ms post = .ok (ftmSel post) := by
  unfold ftm
  rw [if_neg (mt List.isEmpty_iff.mp hn), if_pos ((isSortedPerm_iff ms post).mpr h)]

theorem median_of_sortedPerm {ms post : List M} (hn : ms ≠ []) (h : SortedPerm ms post) :
    median ms post = .ok (medianSel post) := by
  unfold median
  rw [if_neg (mt List.isEmpty_iff.mp hn), if_pos ((isSortedPerm_iff ms post).mpr h)]

theorem timeSub_bounds {a b : Int} (hab : a ≤ b) :
    0 ≤ (timeSub b a).toInt ∧ (timeSub b a).toInt ≤ b - a := by
  unfold timeSub
  split
  · rw [Int64.toInt_maxValue]; omega
  · rw [if_neg (by omega), Int64.toInt_ofInt_of_le (by omega) (by omega)]; omega

end ScionTime.Measurements
