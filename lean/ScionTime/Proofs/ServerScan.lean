/-
  Lemmas about the loops of Model/Server.lean over one client's buffer: the scan loops of
  `handleRequest` and `updateTX`, the swap-with-last removal, the uniqueness loop.
-/
import ScionTime.Proofs.ServerMap
namespace ScionTime.Server
open ScionTime.Time64

theorem ofTime_ne_of_near (r d : Int) (h0 : 0 < d) (h1 : d < 1000000000) :
    ofTime r ≠ ofTime (r + d) := by
  intro h
  have := (later_ofTime r (r + d) (by omega) (by omega)).1
  rw [← h, Int.sub_self] at this
  exact absurd this (by decide)

/-- invariant of the scan loop of `handleRequest` after the prefix `pre` -/
structure ScanInv (org : T64) (pre : List Entry) (a : Scan) : Prop where
  o_some : ∀ i, a.o = some i → (pre[i]?).map (·.rx) = some org
  o_none : a.o = none → ∀ e ∈ pre, e.rx ≠ org
  mn_some : ∀ i v, a.mn = some (i, v) → (pre[i]?).map (·.rx) = some v
  mn_none : a.mn = none → pre = []
  mx_some : ∀ i v, a.mx = some (i, v) → (pre[i]?).map (·.rx) = some v ∧ ∀ e ∈ pre, le64 e.rx v
  mx_none : a.mx = none → pre = []

theorem lt_of_map_getElem? {buf : List Entry} {i : Nat} {v : T64}
    (h : (buf[i]?).map (·.rx) = some v) : i < buf.length := by
  rcases Nat.lt_or_ge i buf.length with c | c
  · exact c
  · rw [List.getElem?_eq_none c] at h; cases h

theorem map_getElem?_append {pre : List Entry} {e : Entry} {i : Nat} {v : T64}
    (h : (pre[i]?).map (·.rx) = some v) : ((pre ++ [e])[i]?).map (·.rx) = some v := by
  rw [List.getElem?_append_left (lt_of_map_getElem? h)]; exact h

theorem mem_of_getElem?_map {buf : List Entry} {i : Nat} {v : T64}
    (h : (buf[i]?).map (·.rx) = some v) : ∃ e ∈ buf, e.rx = v := by
  cases hx : buf[i]? with
  | none => simp [hx] at h
  | some x => exact ⟨x, List.mem_of_getElem? hx, by simpa [hx] using h⟩

theorem ScanInv.mx_mem {org : T64} {buf : List Entry} {a : Scan} (h : ScanInv org buf a)
    (hpos : 1 ≤ buf.length) : ∃ i v, a.mx = some (i, v) ∧ ∃ x ∈ buf, x.rx = v := by
  cases hm : a.mx with
  | none => have := h.mx_none hm; subst this; simp at hpos
  | some p =>
    obtain ⟨x, hx, hxe⟩ := mem_of_getElem?_map (h.mx_some p.1 p.2 hm).1
    exact ⟨p.1, p.2, rfl, x, hx, hxe⟩

theorem forall_mem_concat {α} {p : α → Prop} {l : List α} {a : α} (h1 : ∀ y ∈ l, p y) (h2 : p a) :
    ∀ y ∈ l ++ [a], p y := by
  intro y hy
  rcases List.mem_append.1 hy with hy | hy
  · exact h1 y hy
  · rw [List.mem_singleton.1 hy]; exact h2

theorem forall_mem_set {α} {p : α → Prop} {l : List α} {a : α} (i : Nat) (h1 : ∀ y ∈ l, p y)
    (h2 : p a) : ∀ y ∈ l.set i a, p y :=
  fun y hy => (List.mem_or_eq_of_mem_set hy).elim (h1 y) (fun e => e ▸ h2)

theorem hit_step {v : T64} {pre : List Entry} {o : Option Nat} (e : Entry)
    (hs : ∀ i, o = some i → (pre[i]?).map (·.rx) = some v) (hn : o = none → ∀ y ∈ pre, y.rx ≠ v) :
    (∀ i, (if e.rx = v then some pre.length else o) = some i →
      ((pre ++ [e])[i]?).map (·.rx) = some v) ∧
    ((if e.rx = v then some pre.length else o) = none → ∀ y ∈ pre ++ [e], y.rx ≠ v) := by
  by_cases he : e.rx = v
  · rw [if_pos he]
    exact ⟨fun i hi => by cases hi; simp [he], fun h => nomatch h⟩
  · rw [if_neg he]
    exact ⟨fun i hi => map_getElem?_append (hs i hi), fun h => forall_mem_concat (hn h) he⟩

theorem scanInv_step (org : T64) (pre : List Entry) (e : Entry) (a : Scan)
    (h : ScanInv org pre a) : ScanInv org (pre ++ [e]) (scanStep org pre.length e a) := by
  have hlast : ((pre ++ [e])[pre.length]?).map (·.rx) = some e.rx := by simp
  have ho := hit_step e h.o_some h.o_none
  refine ⟨ho.1, ho.2, ?_, ?_, ?_, ?_⟩
  · intro i v hi
    unfold scanStep at hi; simp only at hi
    split at hi
    · cases hi; exact hlast
    · rename_i m v' hm
      split at hi
      · cases hi; exact hlast
      · cases hi; exact map_getElem?_append (h.mn_some _ _ hm)
  · intro hn
    unfold scanStep at hn; simp only at hn
    split at hn
    · cases hn
    · split at hn <;> cases hn
  · intro i v hi
    unfold scanStep at hi; simp only at hi
    split at hi
    · rename_i hm
      cases hi
      have := h.mx_none hm; subst this
      exact ⟨hlast, forall_mem_concat (by simp) (le64_refl _)⟩
    · rename_i m v' hm
      obtain ⟨h1, h2⟩ := h.mx_some _ _ hm
      split at hi
      · rename_i hb
        cases hi
        have hv : le64 v' e.rx := by simpa [le64] using hb
        exact ⟨hlast, forall_mem_concat (fun x hx => le64_trans (h2 x hx) hv) (le64_refl _)⟩
      · rename_i hb
        cases hi
        simp at hb
        exact ⟨map_getElem?_append h1, forall_mem_concat h2 (le64_of_before hb)⟩
  · intro hn
    unfold scanStep at hn; simp only at hn
    split at hn
    · cases hn
    · split at hn <;> cases hn

theorem scanAux_inv (org : T64) : ∀ (l pre : List Entry) (a : Scan),
    ScanInv org pre a → ScanInv org (pre ++ l) (scanAux org l pre.length a) := by
  intro l
  induction l with
  | nil => intro pre a h; simpa [scanAux] using h
  | cons e l ih =>
    intro pre a h
    unfold scanAux
    have := ih (pre ++ [e]) _ (scanInv_step org pre e a h)
    simpa using this

theorem scan_inv (buf : List Entry) (org : T64) : ScanInv org buf (scan buf org) := by
  have := scanAux_inv org buf [] ⟨none, none, none⟩
    ⟨(by intro i h; cases h), (by intro _ e he; cases he), (by intro i v h; cases h), (fun _ => rfl),
     (by intro i v h; cases h), (fun _ => rfl)⟩
  simpa [scan] using this

/-- `buf[x] = buf[len-1]; len--` -/
def swapRemove (l : List Entry) (x : Nat) : List Entry :=
  (l.set x (l.getD (l.length - 1) defaultEntry)).dropLast

theorem set_perm_eraseIdx {α} (l : List α) (x : Nat) (a : α) (h : x < l.length) :
    (l.set x a).Perm (a :: l.eraseIdx x) := by
  rw [List.set_eq_take_append_cons_drop, if_pos h, List.eraseIdx_eq_take_drop_succ]
  exact List.perm_middle

theorem swapRemove_perm (l : List Entry) (x : Nat) (hx : x < l.length) :
    (swapRemove l x).Perm (l.eraseIdx x) := by
  have hne : l ≠ [] := by intro e; simp [e] at hx
  obtain ⟨init, last, rfl⟩ : ∃ init last, l = init ++ [last] :=
    ⟨_, _, (List.dropLast_concat_getLast hne).symm⟩
  unfold swapRemove
  simp only [List.length_append, List.length_cons, List.length_nil] at hx ⊢
  rcases Nat.lt_or_ge x init.length with c | c
  · rw [List.set_append_left _ _ c, List.eraseIdx_append_of_lt_length c]
    simpa using (set_perm_eraseIdx init x last c).trans (List.perm_append_comm (l₁ := [last]))
  · have : x = init.length := by omega
    subst this
    rw [List.eraseIdx_append_of_length_le (Nat.le_refl _)]
    simp

theorem mem_swapRemove {l : List Entry} {x : Nat} (hx : x < l.length) {e : Entry}
    (he : e ∈ swapRemove l x) : ∃ j, ∃ h : j < l.length, j ≠ x ∧ l[j] = e := by
  rw [(swapRemove_perm l x hx).mem_iff, List.mem_eraseIdx_iff_getElem] at he
  exact he

theorem length_swapRemove (l : List Entry) (x : Nat) (hx : x < l.length) :
    (swapRemove l x).length = l.length - 1 := by
  rw [(swapRemove_perm l x hx).length_eq, List.length_eraseIdx]; simp [hx]

theorem nodup_swapRemove (l : List Entry) (x : Nat) (hx : x < l.length)
    (hn : (l.map (·.rx)).Nodup) : ((swapRemove l x).map (·.rx)).Nodup := by
  rw [((swapRemove_perm l x hx).map _).nodup_iff]
  exact List.Nodup.sublist ((List.eraseIdx_sublist l x).map _) hn

theorem rx_ne_of_mem_swapRemove {l : List Entry} {x : Nat} (hx : x < l.length)
    (hn : (l.map (·.rx)).Nodup) {e : Entry} (he : e ∈ swapRemove l x) : e ∈ l ∧ e.rx ≠ l[x].rx := by
  obtain ⟨j, hj, hne, hje⟩ := mem_swapRemove hx he
  refine ⟨hje ▸ List.getElem_mem hj, fun heq => ?_⟩
  rw [← hje] at heq
  exact hne ((List.getElem_inj (h₀ := by simpa using hj) (h₁ := by simpa using hx) hn).1
    (by simpa using heq))

/-- invariant of the scan loop of `updateTX` after the prefix `pre` -/
structure Scan2Inv (rxt64 : T64) (pre : List Entry) (a : Scan2) : Prop where
  x_some : ∀ i, a.x = some i → (pre[i]?).map (·.rx) = some rxt64
  x_none : a.x = none → ∀ e ∈ pre, e.rx ≠ rxt64
  m0_none : a.m0 = none → pre = []
  m0_some : ∀ i v, a.m0 = some (i, v) → ∀ e ∈ pre, le64 e.rx v
  m1_none : ∀ i v, a.m0 = some (i, v) → a.m1 = none → ∀ e ∈ pre, e.rx = v
  m1_some : ∀ i v i' v', a.m0 = some (i, v) → a.m1 = some (i', v') → ∀ e ∈ pre, e.rx = v ∨ le64 e.rx v'

theorem Scan2Inv.found {rxt64 : T64} {buf : List Entry} {a : Scan2} (h : Scan2Inv rxt64 buf a)
    {x : Nat} (hx : a.x = some x) :
    ∃ hxl : x < buf.length, buf[x].rx = rxt64 ∧ buf.getD x defaultEntry = buf[x] := by
  have hxs := h.x_some x hx
  have hxl := lt_of_map_getElem? hxs
  rw [List.getElem?_eq_getElem hxl] at hxs
  exact ⟨hxl, by simpa using hxs, by rw [List.getD_eq_getElem?_getD, List.getElem?_eq_getElem hxl]; rfl⟩

theorem scan2_x (rxt64 : T64) (i : Nat) (e : Entry) (a : Scan2) :
    (scan2Step rxt64 i e a).x = if e.rx = rxt64 then some i else a.x := by
  unfold scan2Step
  simp only
  split
  · rfl
  · split
    · rfl
    · split
      · rfl
      · split <;> rfl

theorem Scan2Inv.of_max {rxt64 : T64} {pre : List Entry} {x : Option Nat} {i0 : Nat} {v0 : T64}
    {m1 : Option (Nat × T64)} (hs : ∀ i, x = some i → (pre[i]?).map (·.rx) = some rxt64)
    (hn : x = none → ∀ e ∈ pre, e.rx ≠ rxt64) (h0 : ∀ e ∈ pre, le64 e.rx v0)
    (h1 : match m1 with
      | none => ∀ e ∈ pre, e.rx = v0
      | some (_, v1) => ∀ e ∈ pre, e.rx = v0 ∨ le64 e.rx v1) :
    Scan2Inv rxt64 pre ⟨x, some (i0, v0), m1⟩ := by
  refine ⟨hs, hn, ?_, ?_, ?_, ?_⟩
  · intro h
    cases h
  · intro i v hi
    cases hi
    exact h0
  · intro i v hi hm
    cases hi
    cases hm
    exact h1
  · intro i v i' v' hi hm
    cases hi
    cases hm
    exact h1

theorem scan2Inv_step (rxt64 : T64) (pre : List Entry) (e : Entry) (a : Scan2)
    (h : Scan2Inv rxt64 pre a) : Scan2Inv rxt64 (pre ++ [e]) (scan2Step rxt64 pre.length e a) := by
  obtain ⟨ax, am0, am1⟩ := a
  have X := hit_step e h.x_some h.x_none
  cases am0 with
  | none =>
    have := h.m0_none rfl
    subst this
    simp only [scan2Step]
    exact .of_max X.1 X.2 (forall_mem_concat (by simp) (le64_refl _)) (forall_mem_concat (by simp) rfl)
  | some p =>
    obtain ⟨m, v0⟩ := p
    have old := h.m0_some m v0 rfl
    by_cases hb : before e.rx v0 = true
    · -- max0 stays, `e` competes for max1
      have hble := forall_mem_concat old (le64_of_before hb)
      cases am1 with
      | none =>
        simp only [scan2Step, hb, Bool.not_true, Bool.false_eq_true, if_false]
        exact .of_max X.1 X.2 hble
          (forall_mem_concat (fun y hy => Or.inl (h.m1_none m v0 rfl rfl y hy)) (Or.inr (le64_refl _)))
      | some p' =>
        obtain ⟨m', v1⟩ := p'
        have old1 := h.m1_some m v0 m' v1 rfl rfl
        by_cases hb' : before e.rx v1 = true
        · simp only [scan2Step, hb, hb', Bool.not_true, Bool.false_eq_true, if_false]
          exact .of_max X.1 X.2 hble (forall_mem_concat old1 (Or.inr (le64_of_before hb')))
        · have hv : le64 v1 e.rx := by simpa [le64] using hb'
          rw [Bool.not_eq_true] at hb'
          simp only [scan2Step, hb, hb', Bool.not_true, Bool.false_eq_true, if_false, Bool.not_false, if_true]
          exact .of_max X.1 X.2 hble
            (forall_mem_concat (fun y hy => (old1 y hy).imp_right (le64_trans · hv)) (Or.inr (le64_refl _)))
    · -- `e` is the new max0, the old one becomes max1
      have hv : le64 v0 e.rx := by simpa [le64] using hb
      rw [Bool.not_eq_true] at hb
      simp only [scan2Step, hb, Bool.not_false, if_true]
      exact .of_max X.1 X.2 (forall_mem_concat (fun y hy => le64_trans (old y hy) hv) (le64_refl _))
        (forall_mem_concat (fun y hy => Or.inr (old y hy)) (Or.inl rfl))

theorem scan2Aux_inv (rxt64 : T64) : ∀ (l pre : List Entry) (a : Scan2),
    Scan2Inv rxt64 pre a → Scan2Inv rxt64 (pre ++ l) (scan2Aux rxt64 l pre.length a) := by
  intro l
  induction l with
  | nil => intro pre a h; simpa [scan2Aux] using h
  | cons e l ih =>
    intro pre a h
    unfold scan2Aux
    have := ih (pre ++ [e]) _ (scan2Inv_step rxt64 pre e a h)
    simpa using this

theorem scan2_inv (buf : List Entry) (rxt64 : T64) : Scan2Inv rxt64 buf (scan2 buf rxt64) := by
  have := scan2Aux_inv rxt64 buf [] ⟨none, none, none⟩
    ⟨(by intro i h; cases h), (by intro _ e he; cases he), (fun _ => rfl),
     (by intro i v h; cases h), (by intro i v h; cases h), (by intro i v i' v' h; cases h)⟩
  simpa [scan2] using this

theorem collides_iff (buf : List Entry) (v : T64) : collides buf v = true ↔ ∃ e ∈ buf, e.rx = v := by
  unfold collides; simp

/-- entries whose rx equals the encoding of one of the `f` instants `r, r+1, …, r+f-1` -/
def inFuture (r : Int) (f : Nat) (e : Entry) : Prop := ∃ j : Nat, j < f ∧ e.rx = ofTime (r + j)

theorem countP_lt_of_imp {α} (p q : α → Bool) (l : List α) (himp : ∀ x ∈ l, p x = true → q x = true)
    (w : α) (hw : w ∈ l) (hq : q w = true) (hp : p w = false) : l.countP p < l.countP q := by
  have e : l.countP p = (l.filter q).countP p := by
    rw [List.countP_filter]
    exact List.countP_congr fun x hx => by simpa using himp x hx
  have hle := List.countP_le_length (p := p) (l := l.filter q)
  have hne : (l.filter q).countP p ≠ (l.filter q).length := fun h => by
    have := List.countP_eq_length.1 h w (List.mem_filter.2 ⟨hw, hq⟩)
    rw [hp] at this
    cases this
  rw [e, List.countP_eq_length_filter (p := q)]
  omega

open Classical in
/-- The fuel of the uniqueness loop suffices: if fewer than `f` kept entries lie in the
    next `f` instants, the loop ends on a receive time that collides with nothing. -/
theorem uniq_no_collision (buf : List Entry) : ∀ (f : Nat) (rxt txt : Int), f ≤ 1000000000 →
    buf.countP (fun e => decide (inFuture rxt f e)) < f →
    collides buf (ofTime (uniq buf rxt txt f).1) = false := by
  intro f
  induction f with
  | zero => intro rxt txt _ h; omega
  | succ f ih =>
    intro rxt txt hf hc
    unfold uniq
    split
    · rename_i hcol
      simp only
      apply ih _ _ (by omega)
      obtain ⟨w, hw, hwe⟩ := (collides_iff _ _).1 hcol
      have hlt := countP_lt_of_imp (fun e => decide (inFuture (rxt + 1) f e))
        (fun e => decide (inFuture rxt (f + 1) e)) buf
        (by
          intro x _ hx
          simp only [decide_eq_true_eq] at hx ⊢
          obtain ⟨j, hj, he⟩ := hx
          exact ⟨j + 1, by omega, by rw [he]; congr 1; push_cast; omega⟩)
        w hw
        (by simp only [decide_eq_true_eq]; exact ⟨0, by omega, by simpa using hwe⟩)
        (by
          simp only [decide_eq_false_iff_not]
          rintro ⟨j, hj, he⟩
          rw [hwe] at he
          have := ofTime_ne_of_near rxt (1 + j) (by omega) (by omega)
          apply this; rw [he]; congr 1; omega)
      omega
    · rename_i hcol
      simpa using hcol

open Classical in
theorem uniq_spec (buf : List Entry) (rxt txt : Int) (hlen : buf.length < 1000000000) :
    ∀ e ∈ buf, e.rx ≠ ofTime (uniq buf rxt txt (buf.length + 1)).1 := by
  intro e he heq
  have hc := uniq_no_collision buf (buf.length + 1) rxt txt (by omega) (by
    have := List.countP_le_length (p := fun e => decide (inFuture rxt (buf.length + 1) e)) (l := buf)
    omega)
  rw [(collides_iff _ _).2 ⟨e, he, heq⟩] at hc
  cases hc

theorem uniq_mono (buf : List Entry) : ∀ (f : Nat) (rxt txt : Int),
    rxt ≤ (uniq buf rxt txt f).1 ∧ (uniq buf rxt txt f).1 ≤ rxt + f ∧ txt ≤ (uniq buf rxt txt f).2 ∧
      (rxt < txt → (uniq buf rxt txt f).1 < (uniq buf rxt txt f).2) ∧
      ((uniq buf rxt txt f).1 = rxt → (uniq buf rxt txt f).2 = txt) ∧
      ((uniq buf rxt txt f).2 ≤ txt ∨ (uniq buf rxt txt f).2 ≤ (uniq buf rxt txt f).1 + 1) := by
  intro f
  induction f with
  | zero => intro rxt txt; simp [uniq]
  | succ f ih =>
    intro rxt txt
    unfold uniq
    split
    · by_cases hc : rxt + 1 < txt
      · have := ih (rxt + 1) txt
        simp only [hc, not_true, if_false]
        omega
      · have := ih (rxt + 1) (rxt + 1 + 1)
        simp only [hc, not_false_eq_true, if_true]
        omega
    · simp; omega

end ScionTime.Server
