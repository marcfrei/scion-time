/-
  The Fetcher's cache (Model/DrkeyFetch.lean) as a map: lookup / insert lemmas, the
  characterisation of the refetch test, a call that hits the cache.
-/
import ScionTime.Model.DrkeyFetch
namespace ScionTime.Drkey

theorem lookup_mem {f : Fetcher} {a : Nat} {k : HostASKey} (h : f.lookup a = some k) : (a, k) ∈ f.haks := by
  obtain ⟨e, he, rfl⟩ := Option.map_eq_some_iff.mp h
  have := List.find?_some he
  exact beq_iff_eq.mp this ▸ List.mem_of_find?_eq_some he

theorem lookup_insert_same (f : Fetcher) (a : Nat) (k : HostASKey) : (f.insert a k).lookup a = some k := by
  simp [Fetcher.lookup, Fetcher.insert]

theorem lookup_insert_other (f : Fetcher) (a a' : Nat) (k : HostASKey) (h : a' ≠ a) :
    (f.insert a k).lookup a' = f.lookup a' := by
  have h1 : (a == a') = false := beq_false_of_ne fun e => h e.symm
  simp only [Fetcher.lookup, Fetcher.insert, List.find?_cons, h1, List.find?_filter]
  congr 2
  funext e
  by_cases he : e.1 = a' <;> simp [he, h]

theorem mem_insert {f : Fetcher} {a : Nat} {k : HostASKey} {e : Nat × HostASKey}
    (h : e ∈ (f.insert a k).haks) : e = (a, k) ∨ (e ∈ f.haks ∧ e.1 ≠ a) := by
  simpa [Fetcher.insert] using h

theorem stale_false_iff (hit : Option HostASKey) (m : HostASMeta) :
    stale hit m = false ↔ ∃ k, hit = some k ∧ k.id = m.id ∧ k.epoch.contains m.validity = true := by
  cases hit with
  | none => simp [stale]
  | some k =>
    obtain ⟨⟨p, s, d, h⟩, ep, key⟩ := k
    obtain ⟨⟨p', s', d', h'⟩, v⟩ := m
    simp only [stale, Bool.or_eq_false_iff, Bool.not_eq_false', bne_eq_false_iff_eq, Option.some.injEq,
      exists_eq_left', KeyId.mk.injEq]
    constructor <;> (intro h; simp [h])

theorem fetchHostAS_hit (cfg : Cfg) {f : Fetcher} {m : HostASMeta} (now : Int) (ans : Option HostASKey)
    (h : stale (f.lookup m.id.dstIA) m = false) :
    ∃ k, f.lookup m.id.dstIA = some k ∧ k.id = m.id ∧ k.epoch.contains m.validity = true ∧
      f.fetchHostAS cfg m now ans = ⟨f, some k, false, {}⟩ := by
  obtain ⟨k, hk, hid, hc⟩ := (stale_false_iff _ _).mp h
  refine ⟨k, hk, hid, hc, ?_⟩
  unfold Fetcher.fetchHostAS
  simp only [h, Bool.not_false, if_true]
  rw [hk]

end ScionTime.Drkey
