/- the fill of the store in closed form (helper lemmas for Props/C07Fill) -/
import ScionTime.Model.ServerFill
import ScionTime.Proofs.ServerMap
namespace ScionTime.Server
open ScionTime.Time64

theorem fillItems_succ (n idbase : Nat) (base step d : Int) :
    ((List.range (n + 1)).map (fillItem idbase base step d)).reverse =
      fillItem idbase base step d n :: ((List.range n).map (fillItem idbase base step d)).reverse := by
  simp [List.range_succ]

theorem fillHeap_succ (n idbase : Nat) : fillHeap (n + 1) idbase = (fillHeap n idbase).push (idbase + n) := by
  simp [fillHeap, List.range_succ]

theorem fillHeap_size (n idbase : Nat) : (fillHeap n idbase).size = n := by simp [fillHeap]

theorem fillHeap_getD (n idbase i : Nat) (h : i < n) : (fillHeap n idbase).getD i 0 = idbase + i := by
  simp [fillHeap, h]

theorem find_fillRev (n idbase : Nat) (base step d : Int) (k : Nat) :
    Map.find ((List.range n).map (fillItem idbase base step d)).reverse k =
      if idbase ≤ k ∧ k < idbase + n then some (fillItem idbase base step d (k - idbase)).2 else none := by
  induction n with
  | zero => simp
  | succ n ih =>
    rw [fillItems_succ, Map.find_cons, ih]
    show (if idbase + n = k then some (fillItem idbase base step d n).2 else _) = _
    by_cases h : idbase + n = k
    · subst h
      rw [if_pos rfl, if_pos (by omega), Nat.add_sub_cancel_left]
    · rw [if_neg h]
      by_cases h2 : idbase ≤ k ∧ k < idbase + n
      · rw [if_pos h2, if_pos (by omega)]
      · rw [if_neg h2, if_neg (by omega)]

theorem fillRev_length (n idbase : Nat) (base step d : Int) :
    ((List.range n).map (fillItem idbase base step d)).reverse.length = n := by simp

theorem find_append (m m' : Map) (k : Nat) :
    Map.find (m ++ m') k = (Map.find m k).or (Map.find m' k) := by
  induction m with
  | nil => rfl
  | cons p m ih =>
    obtain ⟨k0, it⟩ := p
    rw [List.cons_append, Map.find_cons, Map.find_cons, ih]
    split
    · rfl
    · rfl

/-- with distinct keys, lookups do not depend on the order of the association list -/
theorem find_reverse_of_nodup (m : Map) (hn : (Map.keys m).Nodup) (k : Nat) :
    Map.find m.reverse k = Map.find m k := by
  induction m with
  | nil => rfl
  | cons p m ih =>
    obtain ⟨k0, it⟩ := p
    rw [Map.keys, List.map_cons, List.nodup_cons] at hn
    rw [List.reverse_cons, find_append, ih hn.2, Map.find_cons, Map.find_cons, Map.find_nil]
    by_cases h0 : k0 = k
    · rw [if_pos h0, if_pos h0, (Map.find_none_iff m k).2 (h0 ▸ hn.1), Option.none_or]
    · rw [if_neg h0, if_neg h0, Option.or_none]

theorem fill_keys_nodup (n idbase : Nat) (base step d : Int) :
    (Map.keys ((List.range n).map (fillItem idbase base step d))).Nodup := by
  have : Map.keys ((List.range n).map (fillItem idbase base step d)) = (List.range n).map (idbase + ·) := by
    unfold Map.keys; simp [fillItem, Function.comp_def]
  rw [this]
  unfold List.Nodup
  rw [List.pairwise_map]
  exact (List.nodup_range (n := n)).imp (fun h e => h (by omega))

theorem handleRequest_appends (cap icap : Nat) (st : State) (id : Nat) (req : Req) (rxt now : Int)
    (hf : st.items.find id = none) (hlen : st.items.length < cap)
    (hp : 0 < st.heap.size → hkey st ((st.heap.size - 1) / 2) ≠ id ∧
      before (ofTime rxt) (kv st ((st.heap.size - 1) / 2)) = false) :
    (handleRequest cap icap st id req rxt now).st =
      { items := (id, { buf := [⟨ofTime rxt, ofTime (if rxt < now then now else rxt + 1), id⟩],
                        qval := ofTime rxt, qidx := st.heap.size }) :: st.items,
        heap := st.heap.push id } := by
  have hne : ¬ st.items.length = cap := by omega
  have hev : evict cap st (ofTime rxt) = (st, none) := by
    unfold evict
    simp [hne]
  have hmod : ∀ (it : Item) (f : Item → Item),
      Map.modify ((id, it) :: st.items) id f = (id, f it) :: st.items := by
    intro it f
    unfold Map.modify
    rw [if_pos rfl]
  have hup : ∀ it : Item, it.qval = ofTime rxt →
      up { items := (id, it) :: st.items, heap := st.heap.push id } st.heap.size (st.heap.size + 1) =
        { items := (id, it) :: st.items, heap := st.heap.push id } := by
    intro it hq
    unfold up
    by_cases h0 : (st.heap.size - 1) / 2 = st.heap.size
    · simp [h0]
    · have e1 : (st.heap.push id).getD st.heap.size 0 = id := by
        simp [Array.getD_eq_getD_getElem?]
      have e2 : (st.heap.push id).getD ((st.heap.size - 1) / 2) 0 = hkey st ((st.heap.size - 1) / 2) := by
        simp only [hkey, Array.getD_eq_getD_getElem?, Array.getElem?_push]
        rw [if_neg h0]
      have hless : less { items := (id, it) :: st.items, heap := st.heap.push id } st.heap.size
          ((st.heap.size - 1) / 2) = false := by
        unfold less kv qv hkey
        simp only [e1, e2, Map.find_cons, if_pos, hq]
        rw [if_neg (Ne.symm (hp (by omega)).1)]
        exact (hp (by omega)).2
      simp [h0, hless]
  unfold handleRequest handleRequestG
  simp only [hf, hev]
  rw [if_neg hne]
  unfold push setQidx setBuf
  simp only [hmod, hup]
  by_cases h : rxt < now
  · simp [h]
  · simp [h]

/-- one step of the fill in closed form -/
theorem fill_step (cap icap n idbase : Nat) (base step d : Int) (hn : n < cap)
    (hmono : ∀ i, i < n → before (ofTime (fillRxt base step n)) (ofTime (fillRxt base step i)) = false) :
    (handleRequest cap icap (fillStateRev n idbase base step d) (idbase + n) zeroReq
        (fillRxt base step n) (fillRxt base step n + d)).st = fillStateRev (n + 1) idbase base step d := by
  have hf : Map.find (fillStateRev n idbase base step d).items (idbase + n) = none :=
    (find_fillRev n idbase base step d _).trans (if_neg (by omega))
  have hlen : (fillStateRev n idbase base step d).items.length = n := fillRev_length n idbase base step d
  have hsz : (fillStateRev n idbase base step d).heap.size = n := fillHeap_size n idbase
  rw [handleRequest_appends cap icap _ _ _ _ _ hf (by rw [hlen]; exact hn) ?_, hsz]
  · unfold fillStateRev
    rw [fillItems_succ, fillHeap_succ]
    rfl
  · intro hpos
    rw [hsz] at hpos ⊢
    have hi : (n - 1) / 2 < n := by omega
    generalize (n - 1) / 2 = p at hi ⊢
    have hk : hkey (fillStateRev n idbase base step d) p = idbase + p := fillHeap_getD n idbase p hi
    have hfi := find_fillRev n idbase base step d (idbase + p)
    rw [if_pos ⟨Nat.le_add_right _ _, Nat.add_lt_add_left hi _⟩, Nat.add_sub_cancel_left] at hfi
    unfold kv qv
    rw [hk, show (fillStateRev n idbase base step d).items.find (idbase + p) = _ from hfi]
    exact ⟨by omega, hmono p hi⟩

/-- `Time64FromTime` is monotone within one NTP era -/
theorem ofTime_mono_in_era (r t : Int) (h : r ≤ t)
    (hr : -2208988800 * 1000000000 ≤ r) (ht : t < (-2208988800 + 4294967296) * 1000000000) :
    before (ofTime t) (ofTime r) = false := by
  obtain ⟨sr, nr, er, hr0, hr1, eor⟩ := ofTime_split r
  obtain ⟨s, n, et, ht0, ht1, eot⟩ := ofTime_split t
  rw [eor, eot, before_false_iff]
  simp only
  rw [Int.emod_eq_of_lt (a := sr + 2208988800) (by omega) (by omega),
    Int.emod_eq_of_lt (a := s + 2208988800) (by omega) (by omega)]
  by_cases hc : sr = s
  · exact Or.inr ⟨by omega, Int.ediv_le_ediv (by omega) (by omega)⟩
  · exact Or.inl (by omega)

end ScionTime.Server
