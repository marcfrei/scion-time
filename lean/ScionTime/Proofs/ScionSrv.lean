/-
  The SCION listener's two decision cascades (Model/ScionSrv.lean `authCheck true`, `handle`):
  what each of their results has been tested for.
-/
import ScionTime.Model.ScionSrv
import ScionTime.Proofs.Ite
namespace ScionTime.ScionSrv

theorem fetchKey_ne_nilPanic (cfg : Cfg) : fetchKey true cfg ≠ .nilPanic := by
  unfold fetchKey
  cases cfg.mockKeys <;> cases cfg.dcNil <;> cases cfg.fetchOk <;> decide

/-- The metadata of a reply's authenticator: server SPI, algorithm 0, zeroed timestamp and
    sequence number. -/
theorem replyAuthMeta_eq {d : List Nat} (h : d.length = optDataLen) :
    replyAuthMeta d = [0, 2, 0, 123, 0, 0, 0, 0, 0, 0, 0, 0] := by
  unfold replyAuthMeta authPrepare
  rw [if_neg (by omega)]
  rfl

theorem authCheck_client_spi {cfg : Cfg} {p : Pkt} {d : List Nat}
    (hf : cfg.fetcher = true) (he : p.e2e = true) (ha : p.auth = some d)
    (hlen : d.length = optDataLen) (hmeta : authMeta d = .ok (spiClient, algorithm)) :
    authCheck true cfg p =
      match fetchKey true cfg with
      | .nilPanic => .panic "nil"
      | .error => .go false
      | .ok =>
        match p.mac with
        | none => .drop "mac-error"
        | some m => if d.drop metadataLen = m then .go true else .drop "bad-mac" := by
  unfold authCheck
  simp only [hf, he, ha, hlen, hmeta, Bool.and_self, if_true, ne_eq, not_true, if_false, and_self]
  rfl

/-- What `authCheck true cfg p` has tested when it gives this result. -/
def AuthRes.Checked (cfg : Cfg) (p : Pkt) : AuthRes → Prop
  | .go true => cfg.fetcher = true ∧ p.e2e = true ∧
      ∃ d, p.auth = some d ∧ d.length = optDataLen ∧ authMeta d = .ok (spiClient, algorithm) ∧
        fetchKey true cfg = .ok ∧ p.mac = some (d.drop metadataLen)
  | .panic _ => False
  | _ => True

theorem authCheck_spec {cfg : Cfg} {p : Pkt} {o : AuthRes} (h : authCheck true cfg p = o) :
    o.Checked cfg p := by
  subst h
  unfold authCheck
  refine ite_ind (fun hfe => ?_) fun _ => trivial
  have ⟨hf, he⟩ := Bool.and_eq_true_iff.mp hfe
  cases ha : p.auth with
  | none => exact trivial
  | some d =>
    refine ite_ind (fun _ => trivial) fun hlen => ?_
    have hlen := Decidable.of_not_not hlen
    have hmeta : authMeta d = .ok (_, _) := if_neg (not_not_intro hlen)
    rw [hmeta]
    refine ite_ind (fun hsa => ?_) fun _ => trivial
    cases hk : fetchKey true cfg with
    | nilPanic => exact absurd hk (fetchKey_ne_nilPanic cfg)
    | error => exact trivial
    | ok =>
      cases hm : p.mac with
      | none => exact trivial
      | some m =>
        refine ite_ind (fun heq => ?_) fun _ => trivial
        exact ⟨hf, he, d, ha, hlen, by rw [hmeta, hsa.1, hsa.2], hk, heq ▸ hm⟩

/-- What `handle cfg p` has tested when it gives this outcome. -/
def Outcome.Checked (cfg : Cfg) (p : Pkt) : Outcome → Prop
  | .drop _ => True
  | .reply r =>
    (∃ t c rt rp, p.l4 = .scmp t c ∧ (t = scmpEchoRequest ∨ t = scmpTracerouteRequest) ∧
        p.rev = some (rt, rp) ∧ r = scmpReply p true t rt rp) ∨
    (∃ a rt rp, p.l4 = .udp ∧ p.udpLenOk = true ∧ addrOk p.srcAddr = true ∧ addrOk p.dstAddr = true ∧
        p.dstPort = cfg.localHostPort ∧ cfg.localHostPort ≠ EndhostPort ∧
        authCheck true cfg p = .go a ∧ p.ntpOk = true ∧
        p.rev = some (rt, rp) ∧ r = ntpReply cfg p true a rt rp)
  | .forward f => f = ⟨p.dstAddr, p.dstPort, p, fwdWire p⟩ ∧
      p.l4 = .udp ∧ p.udpLenOk = true ∧ addrOk p.srcAddr = true ∧ addrOk p.dstAddr = true ∧
      p.dstPort ≠ cfg.localHostPort ∧ cfg.connPort = EndhostPort ∧ p.dstPort ≠ EndhostPort
  | .panic _ => False

theorem handle_spec {cfg : Cfg} {p : Pkt} {o : Outcome} (h : handle cfg p = o) : o.Checked cfg p := by
  have of_bnot : ∀ {b : Bool}, ¬ (!b) = true → b = true := by intro b; cases b <;> simp
  subst h
  unfold handle handleG
  cases hl4 : p.l4 with
  | other => exact trivial
  | scmp t c =>
    refine ite_ind (fun ht => ?_) fun _ => trivial
    cases hrev : p.rev with
    | none => exact trivial
    | some r => exact .inl ⟨t, c, r.1, r.2, hl4, ht, hrev, rfl⟩
  | udp =>
    refine ite_ind (fun _ => trivial) fun hu => ?_
    refine ite_ind (fun _ => trivial) fun hs => ?_
    refine ite_ind (fun _ => trivial) fun hd => ?_
    refine ite_ind (fun hp => ?_) fun hp => ?_
    · refine ite_ind (fun _ => trivial) fun hc => ?_
      exact ⟨rfl, hl4, of_bnot hu, of_bnot hs, of_bnot hd, hp,
        Decidable.of_not_not fun h => hc (.inl h), fun h => hc (.inr h)⟩
    · refine ite_ind (fun _ => trivial) fun hne => ?_
      cases hac : authCheck true cfg p with
      | panic c => exact authCheck_spec hac
      | drop r => exact trivial
      | go a =>
        refine ite_ind (fun _ => trivial) fun hn => ?_
        cases hrev : p.rev with
        | none => exact trivial
        | some r =>
          exact .inr ⟨a, r.1, r.2, hl4, of_bnot hu, of_bnot hs, of_bnot hd, Decidable.of_not_not hp,
            hne, hac, of_bnot hn, hrev, rfl⟩

end ScionTime.ScionSrv
