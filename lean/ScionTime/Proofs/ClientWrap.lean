/-
  The attempt loop `ClientNtp.wrapLoop` returns the values of `ClientFlow.lastOk`, or an error;
  `wrapLoopCtx` without the break is `wrapLoop` together with the number of exchanges started.
-/
import ScionTime.Model.ClientTail
namespace ScionTime.ClientFlow
open ScionTime.ClientNtp ScionTime.ClientTail

theorem lastOkGo_mem (l : List Attempt) : ∀ (acc : Option (Int × Int64)) (t : Int) (o : Int64),
    lastOkGo acc l = some (t, o) → acc = some (t, o) ∨ ∃ b, Attempt.ok t o b ∈ l := by
  induction l with
  | nil => intro acc t o h; exact .inl h
  | cons a rest ih =>
    intro acc t o h
    rcases a with ⟨t', o', b⟩ | e
    · cases b
      · rcases ih (some (t', o')) t o h with h1 | ⟨b, hb⟩
        · cases h1; exact .inr ⟨false, List.mem_cons_self⟩
        · exact .inr ⟨b, List.mem_cons_of_mem _ hb⟩
      · cases h; exact .inr ⟨true, List.mem_cons_self⟩
    · exact (ih acc t o h).imp_right fun ⟨b, hb⟩ => ⟨b, List.mem_cons_of_mem _ hb⟩

/-- Loop invariant in front of iteration `i`, with `acc` the last success so far. Either nothing has
    succeeded: every iteration counted an error (`nerr = i`), so each error was stored in `err`, and
    the named results hold their zero values. Or the named results hold the last success, and `err`
    is nil for good because `nerr` has fallen behind `i`. -/
def Inv (acc : Option (Int × Int64)) (i : Nat) (s : WrapState) : Prop :=
  (acc = none ∧ s.nerr = i ∧ s.ts = 0 ∧ s.off = 0 ∧ (0 < i → s.err ≠ none)) ∨
  (acc = some (s.ts, s.off) ∧ s.err = none ∧ s.nerr < i)

/-- the invariant holds again where the loop stops — at an iteration `j` behind `i` unless `l` is
    empty — for the last success including those of `l` -/
theorem wrapLoop_spec (l : List Attempt) : ∀ (i : Nat) (s : WrapState) (acc : Option (Int × Int64)),
    Inv acc i s → ∃ j, i + min 1 l.length ≤ j ∧ Inv (lastOkGo acc l) j (wrapLoop i s l) := by
  induction l with
  | nil => exact fun i s acc h => ⟨i, Nat.le_refl _, h⟩
  | cons a rest ih =>
    intro i s acc hinv
    simp only [List.length_cons]
    cases a with
    | ok t o b =>
      have hs : Inv (some (t, o)) (i + 1) { s with ts := t, off := o, err := none } := by
        refine .inr ⟨rfl, rfl, ?_⟩
        rcases hinv with ⟨_, h, _⟩ | ⟨_, _, h⟩ <;> simp only <;> omega
      cases b with
      | true => exact ⟨i + 1, by omega, hs⟩
      | false =>
        obtain ⟨j, hj, h⟩ := ih (i + 1) _ _ hs
        exact ⟨j, by omega, h⟩
    | err e =>
      have hs : Inv acc (i + 1)
          { s with err := if s.nerr = i then some e else s.err, nerr := s.nerr + 1 } := by
        rcases hinv with ⟨h0, h1, h2, h3, _⟩ | ⟨h0, h1, h2⟩
        · exact .inl ⟨h0, by simp [h1], h2, h3, fun _ => by simp [h1]⟩
        · exact .inr ⟨h0, by simp [Nat.ne_of_lt h2, h1], by simp only; omega⟩
      obtain ⟨j, hj, h⟩ := ih (i + 1) _ _ hs
      exact ⟨j, by omega, h⟩

theorem lastOkGo_all_err (l : List Attempt) (h : ∀ x ∈ l, ∃ e, x = .err e) : lastOkGo none l = none := by
  induction l with
  | nil => rfl
  | cons a rest ih =>
    obtain ⟨e, he⟩ := h a List.mem_cons_self
    subst he
    simpa [lastOkGo] using ih (fun x hx => h x (List.mem_cons_of_mem _ hx))

theorem wrapLoop_inv (l : List Attempt) (hne : l ≠ []) :
    ∃ j, 0 < j ∧ Inv (lastOk l) j (wrapLoop 0 ⟨0, 0, none, 0⟩ l) := by
  obtain ⟨j, hj, h⟩ := wrapLoop_spec l 0 ⟨0, 0, none, 0⟩ none (.inl ⟨rfl, rfl, rfl, rfl, nofun⟩)
  have := List.length_pos_iff.mpr hne
  exact ⟨j, by omega, h⟩

theorem wrapLoop_result (l : List Attempt) (hne : l ≠ []) :
    let r := wrapLoop 0 ⟨0, 0, none, 0⟩ l
    (∀ t o, lastOk l = some (t, o) → r.ts = t ∧ r.off = o ∧ r.err = none) ∧
    (lastOk l = none → r.err ≠ none ∧ r.ts = 0 ∧ r.off = 0) := by
  intro r
  obtain ⟨j, hj, h⟩ := wrapLoop_inv l hne
  rcases h with ⟨h0, _, h1, h2, h3⟩ | ⟨h0, h1, _⟩ <;> rw [h0]
  · exact ⟨nofun, fun _ => ⟨h3 hj, h1, h2⟩⟩
  · exact ⟨fun t o hl => by cases hl; exact ⟨rfl, rfl, h1⟩, nofun⟩

theorem wrapLoop_nil_error (l : List Attempt) (hne : l ≠ []) :
    let r := wrapLoop 0 ⟨0, 0, none, 0⟩ l
    r.err = none → lastOk l = some (r.ts, r.off) ∧ ∃ b, Attempt.ok r.ts r.off b ∈ l := by
  intro r h
  obtain ⟨j, hj, hinv⟩ := wrapLoop_inv l hne
  rcases hinv with ⟨_, _, _, _, h3⟩ | ⟨h0, _, _⟩
  · exact absurd h (h3 hj)
  · exact ⟨h0, (lastOkGo_mem l none _ _ h0).resolve_left nofun⟩

theorem retryTest_sub {r : Nat} {deadline : Option Int} {rd rd' : List Int} {b : Bool}
    (h : retryTest r deadline rd = some (b, rd')) : ∀ x ∈ rd', x ∈ rd := by
  unfold retryTest at h
  split at h
  · cases deadline with
    | none => cases h; exact fun _ hx => hx
    | some dl =>
      cases rd with
      | nil => cases h
      | cons t tl => cases h; exact fun _ hx => List.mem_cons_of_mem _ hx
  · cases h; exact fun _ hx => hx

theorem wrapLoopCtx_false (l : List AttemptIn) :
    ∀ (i : Nat) (s : WrapState),
      wrapLoopCtx false i s l =
        (wrapLoop i s (l.map attemptResult),
          match firstIL (l.map attemptResult) with
          | some k => k + 1
          | none => l.length) := by
  induction l with
  | nil => intro i s; rfl
  | cons a rest ih =>
    intro i s
    simp only [wrapLoopCtx, Bool.false_and, Bool.false_eq_true, if_false, List.map_cons, List.length_cons, ih]
    cases attemptResult a with
    | ok t o inIL =>
      cases inIL with
      | true => simp [wrapLoop, firstIL]
      | false =>
        simp only [wrapLoop, Bool.false_eq_true, if_false, firstIL]
        cases firstIL (rest.map attemptResult) <;> simp
    | err e =>
      simp only [wrapLoop, firstIL]
      cases firstIL (rest.map attemptResult) <;> simp

theorem wrapCtx_result (il : Bool) (ins : List AttemptIn) :
    (wrapCtx false il ins).1 =
      wrapLoop 0 ⟨0, 0, none, 0⟩ ((ins.take (attempts il)).map attemptResult) :=
  congrArg Prod.fst (wrapLoopCtx_false _ 0 _)

theorem attempts_pos (il : Bool) : 1 ≤ attempts il := by cases il <;> decide

theorem attemptResults_ne_nil {il : Bool} {ins : List AttemptIn} (hlen : attempts il ≤ ins.length) :
    (ins.take (attempts il)).map attemptResult ≠ [] := by
  have h1 := attempts_pos il
  intro h
  have := congrArg List.length h
  simp only [List.length_map, List.length_take, List.length_nil] at this
  omega

theorem firstIL_lt (l : List Attempt) (k : Nat) (h : firstIL l = some k) : k < l.length := by
  induction l generalizing k with
  | nil => simp [firstIL] at h
  | cons a rest ih =>
    cases a with
    | ok t o b =>
      cases b with
      | true => simp [firstIL] at h; subst h; simp
      | false =>
        simp only [firstIL, Option.map_eq_some_iff] at h
        obtain ⟨j, hj, rfl⟩ := h
        have := ih j hj; simp; omega
    | err e =>
      simp only [firstIL, Option.map_eq_some_iff] at h
      obtain ⟨j, hj, rfl⟩ := h
      have := ih j hj; simp; omega

/-- exchanges started by one call of the wrapper: all `attempts il`, or up to and including the first
    success that leaves the client in interleaved mode -/
theorem wrapCtx_exchanges (il : Bool) (ins : List AttemptIn) (hlen : attempts il ≤ ins.length) :
    let n := (wrapCtx false il ins).2
    1 ≤ n ∧ n ≤ attempts il ∧ n ≤ 3 ∧
    (match firstIL ((ins.take (attempts il)).map attemptResult) with
     | some k => n = k + 1
     | none => n = attempts il) := by
  intro n
  have hcount : n = _ := congrArg Prod.snd (wrapLoopCtx_false (ins.take (attempts il)) 0 ⟨0, 0, none, 0⟩)
  have htake : (ins.take (attempts il)).length = attempts il := by
    simp only [List.length_take]; omega
  have h3 : attempts il ≤ 3 := by cases il <;> decide
  have h1 := attempts_pos il
  cases hf : firstIL ((ins.take (attempts il)).map attemptResult) with
  | none =>
    rw [hf, htake] at hcount
    simp only at hcount ⊢
    omega
  | some k =>
    have := firstIL_lt _ k hf
    rw [List.length_map, htake] at this
    rw [hf] at hcount
    simp only at hcount ⊢
    omega

end ScionTime.ClientFlow
