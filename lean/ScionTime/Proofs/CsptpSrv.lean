/-
  Helper lemmas for Props/C08CsptpSrv.lean and Props/C08CsptpCli.lean: the receive buffer
  (`recvInto`, `recvFlags`, Go slices) and the listener's validation (`validate`).
-/
import ScionTime.Model.CsptpSrv
import ScionTime.Proofs.C14Codec
import ScionTime.Proofs.Ite
namespace ScionTime.CsptpSrv
open ScionTime.Wire ScionTime.Csptp

theorem zeros_length (n : Nat) : (zeros n).length = n := by simp [zeros]

theorem recvInto_length (backing wire : List Nat) (h : backing.length = maxMessageLength) :
    (recvInto backing wire).length = maxMessageLength := by
  unfold recvInto
  simp only [List.length_append, List.length_take, List.length_drop, h]
  omega

theorem recvInto_take (backing wire : List Nat) (n : Nat) (hn : n ≤ min wire.length maxMessageLength) :
    (recvInto backing wire).take n = wire.take n := by
  unfold recvInto
  rw [List.take_append_of_le_length (by simp only [List.length_take]; omega), List.take_take]
  congr 1
  omega

theorem recvFlags_zero_iff {len otherFlags : Nat} :
    recvFlags len otherFlags = 0 ↔ len ≤ maxMessageLength ∧ otherFlags = 0 := by
  unfold recvFlags
  rw [Nat.or_eq_zero_iff]
  refine and_congr_left' ?_
  split
  · exact ⟨fun h => absurd h (by decide), fun _ => by omega⟩
  · exact ⟨fun _ => by omega, fun _ => rfl⟩

theorem sliceTo_ok (backing : List Nat) (hi : Nat) (h : hi ≤ backing.length) :
    sliceTo backing hi = .ok (backing.take hi) := by
  unfold sliceTo
  rw [if_neg (by omega)]

theorem sliceFrom_ok (backing : List Nat) (n lo : Nat) (h : lo ≤ n) :
    sliceFrom backing n lo = .ok ((backing.take n).drop lo) := by
  unfold sliceFrom
  rw [if_neg (by omega)]

/-- `validate` with the slices resolved: it reads `backing.take n` only -/
def validateData (port : Nat) (data : List Nat) : Verdict :=
  if data.length < minMessageLength then .short else
  match decodeMessage (data.take minMessageLength) with
  | .panic c => .panic c
  | .err _ => .decodeErr
  | .ok m =>
    if data.length ≠ m.messageLength then .lengthMismatch else
    if m.sdoIDMessageType = messageTypeSync ∧ port = eventPortIP then
      if data.length - minMessageLength ≠ 0 then .syncLength else .requestSync m
    else if m.sdoIDMessageType = messageTypeFollowUp ∧ port = generalPortIP then
      match decodeRequestTLV (data.drop minMessageLength) with
      | .panic c => .panic c
      | .err _ => .tlvDecode
      | .ok t =>
        if !isRequestKind t then .tlvKind else
        if data.length - minMessageLength ≠ encodedTLVLength t.flagField then .tlvLength else
        .requestFollowUp m t
    else .unexpectedMessage

theorem validate_eq_data (port : Nat) (backing : List Nat) (n : Nat) (hn : n ≤ backing.length) :
    validate port backing n = validateData port (backing.take n) := by
  unfold validate validateData
  rw [List.length_take, Nat.min_eq_left hn]
  by_cases h : n < minMessageLength
  · rw [if_pos h, if_pos h]
  · have h44 : minMessageLength ≤ n := Nat.le_of_not_lt h
    rw [if_neg h, if_neg h, sliceTo_ok backing _ (Nat.le_trans h44 hn), List.take_take, Nat.min_eq_left h44]
    simp only
    rw [sliceFrom_ok backing n _ h44]
    rfl

theorem recvInto_data (backing wire : List Nat) :
    (recvInto backing wire).take (min wire.length maxMessageLength) = wire.take maxMessageLength := by
  rw [recvInto_take backing wire _ (Nat.le_refl _), Nat.min_comm, ← List.take_eq_take_min]

theorem msg_decode_cases (b : List Nat) : decodeMessage b = .err "size" ∨ ∃ m, decodeMessage b = .ok m :=
  (C14.msg_decode_total b).imp And.right And.right

theorem req_decode_cases (b : List Nat) :
    decodeRequestTLV b = .err "size" ∨ ∃ t, decodeRequestTLV b = .ok t := by
  rw [C14.req_decode_eq]
  split
  · exact .inl rfl
  · split
    · exact .inl rfl
    · exact .inr ⟨_, rfl⟩

theorem resp_decode_cases (b : List Nat) :
    decodeResponseTLV b = .err "size" ∨ ∃ t, decodeResponseTLV b = .ok t := by
  rw [C14.resp_decode_eq]
  split
  · exact .inl rfl
  · split
    · exact .inl rfl
    · exact .inr ⟨_, rfl⟩

/-- what `validateData` has checked of a datagram it takes up as a request; it never panics -/
def Verdict.Checked (port : Nat) (data : List Nat) : Verdict → Prop
  | .requestSync m => port = eventPortIP ∧ data.length = minMessageLength ∧ decodeMessage data = .ok m ∧
      m.sdoIDMessageType = messageTypeSync ∧ m.messageLength = minMessageLength
  | .requestFollowUp m t => port = generalPortIP ∧ decodeMessage (data.take minMessageLength) = .ok m ∧
      m.sdoIDMessageType = messageTypeFollowUp ∧ m.messageLength = data.length ∧
      decodeRequestTLV (data.drop minMessageLength) = .ok t ∧ isRequestKind t = true ∧
      data.length = minMessageLength + encodedTLVLength t.flagField
  | .panic _ => False
  | _ => True

theorem validateData_spec (port : Nat) (data : List Nat) : (validateData port data).Checked port data := by
  unfold validateData
  refine ite_ind (fun _ => trivial) fun hs => ?_
  rcases msg_decode_cases (data.take minMessageLength) with hm | ⟨m, hm⟩ <;> rw [hm]
  · trivial
  refine ite_ind (fun _ => trivial) fun hl => ite_ind (fun hsy => ?_) fun _ => ite_ind (fun hfu => ?_) fun _ => trivial
  · refine ite_ind (fun _ => trivial) fun hz => ?_
    have hw : data.length = minMessageLength := by omega
    rw [List.take_of_length_le (Nat.le_of_eq hw)] at hm
    exact ⟨hsy.2, hw, hm, hsy.1, by omega⟩
  · rcases req_decode_cases (data.drop minMessageLength) with ht | ⟨t, ht⟩ <;> rw [ht]
    · trivial
    refine ite_ind (fun _ => trivial) fun hk => ite_ind (fun _ => trivial) fun hlen => ?_
    exact ⟨hfu.2, hm, hfu.1, by omega, ht, by simpa using hk, by omega⟩

theorem validateData_no_panic (port : Nat) (data : List Nat) : (validateData port data).isPanic = false := by
  have h := validateData_spec port data
  cases hv : validateData port data with
  | panic c => rw [hv] at h; exact h.elim
  | _ => rfl

theorem validateData_of_checked {port : Nat} {data : List Nat} {v : Verdict} (hr : v.isRequest = true)
    (h : v.Checked port data) : validateData port data = v := by
  unfold validateData
  cases v with
  | requestSync m =>
    obtain ⟨hp, hl, hd, hty, hml⟩ := h
    rw [if_neg (by omega), List.take_of_length_le (by omega), hd]
    simp only
    rw [if_neg (by omega), if_pos ⟨hty, hp⟩, if_neg (by omega)]
  | requestFollowUp m t =>
    obtain ⟨hp, hd, hty, hml, ht, hk, hlen⟩ := h
    have hne : ¬ (m.sdoIDMessageType = messageTypeSync ∧ port = eventPortIP) := by
      rintro ⟨h1, _⟩; rw [hty] at h1; exact absurd h1 (by decide)
    rw [if_neg (by omega), hd]
    simp only
    rw [if_neg (by omega), if_neg hne, if_pos ⟨hty, hp⟩, ht]
    simp only [hk, Bool.not_true, Bool.false_eq_true, ↓reduceIte]
    rw [if_neg (by omega)]
  | _ => cases hr

/-- the verdict on a datagram as a function of the datagram alone -/
def verdictOf (port : Nat) (wire : List Nat) (otherFlags : Nat) : Verdict :=
  if recvFlags wire.length otherFlags ≠ 0 then .readFlags (recvFlags wire.length otherFlags)
  else validateData port (wire.take maxMessageLength)

theorem verdictOf_eq (port : Nat) (wire : List Nat) (f : Nat) :
    verdictOf port wire f =
      if wire.length ≤ maxMessageLength ∧ f = 0 then validateData port wire
      else .readFlags (recvFlags wire.length f) := by
  unfold verdictOf
  by_cases h : recvFlags wire.length f = 0
  · have hc := recvFlags_zero_iff.mp h
    rw [if_neg (Decidable.not_not.mpr h), if_pos hc, List.take_of_length_le hc.1]
  · rw [if_pos h, if_neg (mt recvFlags_zero_iff.mpr h)]

theorem verdictOf_no_panic (port : Nat) (wire : List Nat) (f : Nat) : (verdictOf port wire f).isPanic = false := by
  rw [verdictOf_eq]
  split
  · exact validateData_no_panic _ _
  · rfl

theorem verdictOf_request_iff {port : Nat} {wire : List Nat} {f : Nat} {v : Verdict} (hr : v.isRequest = true) :
    verdictOf port wire f = v ↔ wire.length ≤ maxMessageLength ∧ f = 0 ∧ v.Checked port wire := by
  rw [verdictOf_eq]
  by_cases hc : wire.length ≤ maxMessageLength ∧ f = 0
  · rw [if_pos hc]
    exact ⟨fun h => ⟨hc.1, hc.2, h ▸ validateData_spec port wire⟩, fun h => validateData_of_checked hr h.2.2⟩
  · rw [if_neg hc]
    exact ⟨fun h => (by subst h; cases hr), fun h => absurd ⟨h.1, h.2.1⟩ hc⟩

/-- one iteration in closed form: the buffer takes the datagram, the table is untouched, the
    verdict depends on the datagram only, nothing is sent, nothing panics -/
theorem step_dgram (k : Sock) (s : State) (wire : List Nat) (f : Nat) (src : AddrPort) (rxt : Int)
    (hk : k.backing.length = maxMessageLength) :
    step k s (.dgram wire f src rxt) =
      ({ k with backing := recvInto k.backing wire }, s, verdictOf k.port wire f, ⟨[], none⟩) := by
  unfold step verdictOf
  simp only
  by_cases hf : recvFlags wire.length f ≠ 0
  · rw [if_pos hf, if_pos hf]
  · rw [if_neg hf, if_neg hf,
      validate_eq_data _ _ _ (by rw [recvInto_length _ _ hk]; exact Nat.min_le_right _ _), recvInto_data]
    have hp := validateData_no_panic k.port (wire.take maxMessageLength)
    cases hvd : validateData k.port (wire.take maxMessageLength) with
    | panic c => rw [hvd] at hp; cases hp
    | _ => rfl

theorem take_messageBytes_append (m : Message) (rest : List Nat) :
    (messageBytes m ++ rest).take minMessageLength = messageBytes m :=
  List.take_left' (C14.msg_bytes_length m)

theorem drop_messageBytes_append (m : Message) (rest : List Nat) :
    (messageBytes m ++ rest).drop minMessageLength = rest :=
  List.drop_left' (C14.msg_bytes_length m)

theorem valid_sequenceID {m : Message} (hm : m.Valid) {seq : Nat} (h : seq < 65536) :
    { m with sequenceID := seq }.Valid := by
  obtain ⟨h1, h2, h3, h4, h5, h6, h7, h8, h9, h10, _, h12⟩ := hm
  exact ⟨h1, h2, h3, h4, h5, h6, h7, h8, h9, h10, h, h12⟩

theorem clientSync_valid (seq : Nat) (h : seq < 65536) : (clientSync seq).Valid :=
  valid_sequenceID (m := clientSync 0) (by decide) h

theorem clientFollowUp_valid (seq : Nat) (h : seq < 65536) : (clientFollowUp seq).Valid :=
  valid_sequenceID (m := clientFollowUp 0) (by decide) h

theorem respSync_valid (seq : Nat) (h : seq < 65536) : (respSync seq).Valid :=
  valid_sequenceID (m := respSync 0) (by decide) h

/-- the header fields of a response TLV, read by the request-TLV decoder -/
theorem req_decode_of_resp_bytes (t : ResponseTLV) (h : t.Valid) :
    decodeRequestTLV (responseTLVBytes t) =
      .ok ⟨t.type, t.length, t.organizationID, t.organizationSubType, t.flagField⟩ := by
  have hf : fieldsOf tlvHeadLayout (responseTLVBytes t) = respHeadFields t := by
    unfold responseTLVBytes
    rw [List.append_assoc]
    exact fieldsOf_encodeFields _ _ _ (C14.resp_head_ok t h)
  have hr : reqOfFields (respHeadFields t) = ⟨t.type, t.length, t.organizationID, t.organizationSubType, t.flagField⟩ := rfl
  have hle : 36 ≤ encodedTLVLength t.flagField := by
    rcases C14.encodedTLVLength_cases t.flagField with ⟨_, h⟩ | ⟨_, h⟩ <;> omega
  rw [C14.req_decode_eq, hf, hr, C14.resp_bytes_length]
  simp only
  rw [if_neg (by omega), if_neg (by omega)]

end ScionTime.CsptpSrv
