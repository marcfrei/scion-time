/-
  The NTS-KE record reader, for C20 / C14Ntske / C08Ntske (core Lean only).
  `io.ReadFull` over a chunked transport depends only on the concatenation of the chunks
  (`fill_spec`), and the record loop commutes with a map of the reader state (`loop_map`): the
  chunked reader computes the flat one. One iteration in terms of the records `Item`
  (`step_eq`, `step_flat`); whole streams (`Runs`, `readFlat_ok_iff`); packed records; the fetcher.
-/
import ScionTime.Model.Ntske
import ScionTime.Proofs.Ite
namespace ScionTime.Ntske

def Res.map {ρ σ : Type} (g : ρ → σ) : Res ρ → Res σ
  | .ok b r => .ok b (g r)
  | .eof => .eof
  | .ueof => .ueof

theorem fill_spec (rest : List (List Byte)) (need : Nat) (acc buf all : List Byte)
    (hall : buf ++ rest.flatten = all) :
    (fill rest need acc buf).map Rd.all =
      if need ≤ all.length then .ok (acc ++ all.take need) (all.drop need)
      else if (acc ++ all).isEmpty then .eof else .ueof := by
  induction rest generalizing need acc buf all with
  | nil =>
    subst hall
    simp only [List.flatten_nil, List.append_nil, fill]
    split
    · simp [Res.map, Rd.all]
    · split <;> rfl
  | cons c cs ih =>
    rw [List.flatten_cons] at hall
    generalize hc : c ++ cs.flatten = t at hall
    subst hall
    rw [fill]
    by_cases hb : need ≤ buf.length
    · have : need ≤ (buf ++ t).length := by
        simp only [List.length_append]; omega
      rw [if_pos hb, if_pos this, List.take_append_of_le_length hb, List.drop_append_of_le_length hb]
      simp only [Res.map, Rd.all, List.flatten_cons, hc]
    · have hl : buf.length ≤ need := by omega
      simp only [if_neg hb, List.length_append, List.take_append, List.take_of_length_le hl, List.drop_append,
        List.drop_of_length_le hl, List.nil_append, ← List.append_assoc, ← Nat.sub_le_iff_le_add']
      exact ih _ _ _ _ hc

theorem readFull_map (r : Rd) (n : Nat) : (r.readFull n).map Rd.all = flatFull r.all n := by
  simpa [flatFull, Rd.readFull] using fill_spec r.rest n [] r.buf r.all rfl

/-- A record on the wire as `ReadData` consumes it: the four header bytes and the body bytes
    taken after them. -/
structure Item where
  t1 : Byte
  t0 : Byte
  l1 : Byte
  l0 : Byte
  body : List Byte
deriving Repr

def Item.raw (it : Item) : Nat := be16 it.t1 it.t0
def Item.blen (it : Item) : Nat := be16 it.l1 it.l0
def Item.typ (it : Item) : Nat := it.raw % 32768
def Item.crit (it : Item) : Bool := it.raw / 32768 % 2 == 1
def Item.enc (it : Item) : List Byte := [it.t1, it.t0, it.l1, it.l0] ++ it.body

/-- Number of body bytes the reader takes after a header of type `typ` with length field
    `blen`: two for the fixed-size kinds whatever the length field says, otherwise `blen`. -/
def bodyNeed (typ blen : Nat) : Nat :=
  if typ = recNextproto ∨ typ = recAead ∨ typ = recPort ∨ typ = recError then 2 else blen

def Item.wf (it : Item) : Prop := it.body.length = bodyNeed it.typ it.blen

/-- The reader recognises the type (other than end-of-message and error, which stop it). -/
def knownType (t : Nat) : Prop :=
  t = recNextproto ∨ t = recAead ∨ t = recCookie ∨ t = recServer ∨ t = recPort

/-- The reader goes on after this record: a recognised type, or an unrecognised one without
    the critical bit (which it ignores). -/
def Item.accepted (it : Item) : Prop :=
  knownType it.typ ∨ (it.typ ≠ recEom ∧ it.typ ≠ recError ∧ it.crit = false)

/-- An unrecognised record without the critical bit. -/
def Item.ignorable (it : Item) : Prop :=
  ¬ knownType it.typ ∧ it.typ ≠ recEom ∧ it.typ ≠ recError ∧ it.crit = false

/-- Effect of an accepted record on the data. -/
def Item.apply (d : Data) (it : Item) : Data :=
  if it.typ = recAead then { d with algo := be16 (it.body.getD 0 0) (it.body.getD 1 0) }
  else if it.typ = recCookie then { d with cookies := d.cookies ++ [it.body] }
  else if it.typ = recServer then { d with server := it.body }
  else if it.typ = recPort then { d with port := be16 (it.body.getD 0 0) (it.body.getD 1 0) }
  else d

instance (t : Nat) : Decidable (knownType t) := inferInstanceAs (Decidable (_ ∨ _))
instance (it : Item) : Decidable it.accepted := inferInstanceAs (Decidable (_ ∨ _))

/-- The loop body in terms of `Item`; `it []` is the record's header. -/
theorem step_eq {ρ : Type} (full ck : ρ → Nat → Res ρ) (r : ρ) (d : Data) :
    step full ck r d = (full r 4).andThen d fun h r =>
      let it (b : List Byte) : Item := ⟨h.getD 0 0, h.getD 1 0, h.getD 2 0, h.getD 3 0, b⟩
      if (it []).typ = recEom then .done (d, none)
      else if (it []).typ = recError then
        (full r 2).andThen d fun b _ => .done (d, some (errorOfCode (be16 (b.getD 0 0) (b.getD 1 0))))
      else if (it []).accepted then
        ((if (it []).typ = recCookie then ck else full) r (bodyNeed (it []).typ (it []).blen)).andThen d
          fun b r => .more r ((it b).apply d)
      else .done (d, some (.critical (it []).typ)) := by
  unfold step
  congr 1
  funext h r
  generalize h.getD 0 0 = t1
  generalize h.getD 1 0 = t0
  simp only [Item.typ, Item.raw, Item.blen, Item.crit, Item.accepted, knownType, bodyNeed, Item.apply,
    recEom, recNextproto, recAead, recCookie, recServer, recPort, recError]
  -- one case per record type the reader treats: `recEom` = 0 … `recPort` = 7 without `recWarning` = 3
  by_cases k0 : be16 t1 t0 % 32768 = 0; · simp only [k0, if_true]
  by_cases k1 : be16 t1 t0 % 32768 = 1; · simp [k1]
  by_cases k2 : be16 t1 t0 % 32768 = 2; · simp [k2]
  by_cases k4 : be16 t1 t0 % 32768 = 4; · simp [k4]
  by_cases k5 : be16 t1 t0 % 32768 = 5; · simp [k5]
  by_cases k6 : be16 t1 t0 % 32768 = 6; · simp [k6]
  by_cases k7 : be16 t1 t0 % 32768 = 7; · simp [k7]
  by_cases kc : (be16 t1 t0 / 32768 % 2 == 1) = true <;> simp [*]

section
variable {ρ σ : Type} (g : ρ → σ)

def Step.map : Step ρ → Step σ
  | .done x => .done x
  | .more r d => .more (g r) d

theorem andThen_map {x : Res ρ} {y : Res σ} (h : x.map g = y) {d : Data}
    {k1 : List Byte → ρ → Step ρ} {k2 : List Byte → σ → Step σ}
    (hk : ∀ b r, (k1 b r).map g = k2 b (g r)) : (x.andThen d k1).map g = y.andThen d k2 := by
  subst h
  cases x with
  | ok b r => exact hk b r
  | eof => rfl
  | ueof => rfl

theorem map_ite {p : Prop} [Decidable p] {a b : Step ρ} {a' b' : Step σ}
    (h1 : a.map g = a') (h2 : b.map g = b') : (if p then a else b).map g = if p then a' else b' := by
  split <;> assumption

variable {f1 c1 : ρ → Nat → Res ρ} {f2 c2 : σ → Nat → Res σ}
  (hf : ∀ r n, (f1 r n).map g = f2 (g r) n) (hc : ∀ r n, (c1 r n).map g = c2 (g r) n)
include hf hc

theorem step_map (r : ρ) (d : Data) : (step f1 c1 r d).map g = step f2 c2 (g r) d := by
  rw [step_eq, step_eq]
  refine andThen_map g (hf r 4) fun b r => ?_
  refine map_ite g rfl (map_ite g (andThen_map g (hf _ _) fun _ _ => rfl)
    (map_ite g (andThen_map g ?_ fun _ _ => rfl) rfl))
  split
  · exact hc _ _
  · exact hf _ _

theorem loop_map (fuel : Nat) (r : ρ) (d : Data) :
    loop f1 c1 fuel r d = loop f2 c2 fuel (g r) d := by
  induction fuel generalizing r d with
  | zero => rfl
  | succ f ih =>
    simp only [loop, ← step_map g hf hc]
    cases step f1 c1 r d with
    | done res => rfl
    | more r' d' => exact ih r' d'

end

theorem readData_eq_readFlat (chunks : List (List Byte)) (d : Data) :
    readData chunks d = readFlat chunks.flatten d :=
  loop_map Rd.all readFull_map readFull_map _ _ d

theorem flatFull_ok_iff (bs : List Byte) (n : Nat) (b s : List Byte) :
    flatFull bs n = .ok b s ↔ n ≤ bs.length ∧ b = bs.take n ∧ s = bs.drop n := by
  unfold flatFull
  by_cases h : n ≤ bs.length
  · simp [h, eq_comm]
  · simp only [h, if_false, false_and, iff_false]
    split <;> simp

theorem flatFull_append (b rest : List Byte) : flatFull (b ++ rest) b.length = .ok b rest := by
  rw [flatFull_ok_iff]
  simp

theorem errorOfCode_ne_fuel (c : Nat) : errorOfCode c ≠ .fuel := by
  unfold errorOfCode; split; · simp
  split; · simp
  split <;> simp

/-- One iteration on the flat stream `bs`, declaratively. -/
inductive FlatStep (bs : List Byte) (d : Data) : Step (List Byte) → Prop where
  | stop {e} : e ≠ .fuel → FlatStep bs d (.done (d, some e))
  | eom {t1 t0 l1 l0 tail} : bs = t1 :: t0 :: l1 :: l0 :: tail → be16 t1 t0 % 32768 = recEom →
      FlatStep bs d (.done (d, none))
  | item {it : Item} {s} : it.wf → it.accepted → bs = it.enc ++ s → FlatStep bs d (.more s (it.apply d))

theorem FlatStep.andThen {bs : List Byte} {d : Data} {x : Res (List Byte)}
    {k : List Byte → List Byte → Step (List Byte)} (hk : ∀ b r, x = .ok b r → FlatStep bs d (k b r)) :
    FlatStep bs d (x.andThen d k) := by
  cases x with
  | ok b r => exact hk b r rfl
  | eof => exact .stop (by simp)
  | ueof => exact .stop (by simp)

theorem step_flat (bs : List Byte) (d : Data) : FlatStep bs d (step flatFull flatFull bs d) := by
  rw [step_eq]
  refine .andThen fun hd r h4 => ?_
  obtain ⟨hl, rfl, rfl⟩ := (flatFull_ok_iff _ _ _ _).mp h4
  match bs, hl with
  | t1 :: t0 :: l1 :: l0 :: tail, _ =>
    refine ite_ind (.eom rfl) fun _ => ite_ind (fun _ => .andThen fun _ _ _ => .stop (errorOfCode_ne_fuel _))
      fun _ => ite_ind (fun hacc => ?_) fun _ => .stop (by simp)
    rw [ite_self]
    refine .andThen fun body s hn => ?_
    obtain ⟨hl, rfl, rfl⟩ := (flatFull_ok_iff _ _ _ _).mp hn
    exact .item (it := ⟨t1, t0, l1, l0, _⟩) (List.length_take_of_le hl) hacc
      (congrArg (t1 :: t0 :: l1 :: l0 :: ·) (List.take_append_drop _ tail).symm)

theorem step_more_length {bs : List Byte} {d : Data} {s : List Byte} {d' : Data}
    (h : step flatFull flatFull bs d = .more s d') : s.length + 4 ≤ bs.length := by
  cases h ▸ step_flat bs d with
  | item _ _ hbs =>
    simp only [hbs, Item.enc, List.length_append, List.length_cons, List.length_nil]
    omega

theorem andThen_append (b rest : List Byte) (n : Nat) (hn : b.length = n) (d : Data)
    (k : List Byte → List Byte → Step (List Byte)) :
    (flatFull (b ++ rest) n).andThen d k = k b rest := by
  subst hn; rw [flatFull_append]; rfl

theorem Item.accepted.ne {it : Item} (h : it.accepted) : it.typ ≠ recEom ∧ it.typ ≠ recError := by
  rcases h with h | ⟨h0, h2, _⟩
  · rcases h with h | h | h | h | h <;> rw [h] <;> decide
  · exact ⟨h0, h2⟩

theorem step_item (it : Item) (rest : List Byte) (d : Data) (hwf : it.wf) (hacc : it.accepted) :
    step flatFull flatFull (it.enc ++ rest) d = .more rest (it.apply d) := by
  obtain ⟨t1, t0, l1, l0, body⟩ := it
  have hd : Item.accepted ⟨t1, t0, l1, l0, []⟩ := hacc
  rw [step_eq, Item.enc, List.append_assoc, andThen_append _ _ 4 rfl]
  simp only [List.getD_cons_zero, List.getD_cons_succ]
  rw [if_neg hd.ne.1, if_neg hd.ne.2, if_pos hd, ite_self]
  exact andThen_append body rest _ hwf d _

theorem step_eom (t1 t0 l1 l0 : Byte) (tail : List Byte) (d : Data) (h : be16 t1 t0 % 32768 = recEom) :
    step flatFull flatFull (t1 :: t0 :: l1 :: l0 :: tail) d = .done (d, none) := by
  rw [step_eq]
  exact (andThen_append [t1, t0, l1, l0] tail 4 rfl d _).trans (if_pos h)

/-- `Runs bs d res`: reading records from the flat stream `bs` with data `d` ends with `res`;
    the loop without its fuel. -/
inductive Runs : List Byte → Data → Data × Option RErr → Prop where
  | done {bs d res} : step flatFull flatFull bs d = .done res → Runs bs d res
  | more {bs d s d' res} : step flatFull flatFull bs d = .more s d' → Runs s d' res → Runs bs d res

theorem Runs.functional {bs d r1 r2} (h1 : Runs bs d r1) (h2 : Runs bs d r2) : r1 = r2 := by
  induction h1 with
  | done h =>
    cases h2 with
    | done h' => exact Step.done.inj (h ▸ h')
    | more h' _ => cases h ▸ h'
  | more h _ ih =>
    cases h2 with
    | done h' => cases h ▸ h'
    | more h' hr =>
      cases h ▸ h'
      exact ih hr

theorem runs_loop (f : Nat) (bs : List Byte) (d : Data) (h : bs.length < f) :
    Runs bs d (loop flatFull flatFull f bs d) := by
  induction f generalizing bs d with
  | zero => omega
  | succ f ih =>
    simp only [loop]
    cases hs : step flatFull flatFull bs d with
    | done res => exact .done hs
    | more s d' =>
      have := step_more_length hs
      exact .more hs (ih s d' (by omega))

theorem runs_readFlat (bs : List Byte) (d : Data) : Runs bs d (readFlat bs d) :=
  runs_loop _ bs d (by unfold fuelFor; omega)

theorem readFlat_eq_iff (bs : List Byte) (d : Data) (res : Data × Option RErr) :
    readFlat bs d = res ↔ Runs bs d res :=
  ⟨fun h => h ▸ runs_readFlat bs d, fun h => Runs.functional (runs_readFlat bs d) h⟩

/-- Every run consumes well-formed accepted records and ends in an iteration that stops. -/
theorem Runs.items {bs d res} (h : Runs bs d res) :
    ∃ (items : List Item) (rest : List Byte), bs = items.flatMap Item.enc ++ rest ∧
      (∀ it ∈ items, it.wf ∧ it.accepted) ∧
      step flatFull flatFull rest (items.foldl Item.apply d) = .done res := by
  induction h with
  | done h => exact ⟨[], _, rfl, by simp, h⟩
  | @more bs d s d' res hst _ ih =>
    obtain ⟨items, rest, rfl, hall, hdone⟩ := ih
    cases hst ▸ step_flat bs d with
    | @item it _ hwf hacc hbs =>
      exact ⟨it :: items, rest, by simp [hbs], List.forall_mem_cons.mpr ⟨⟨hwf, hacc⟩, hall⟩, hdone⟩

theorem Runs.ne_fuel {bs d res} (h : Runs bs d res) : res.2 ≠ some .fuel := by
  obtain ⟨items, rest, _, _, hdone⟩ := h.items
  cases hdone ▸ step_flat rest _ with
  | stop he => exact fun h => he (Option.some.inj h)
  | eom => exact nofun

theorem readData_ne_fuel (chunks : List (List Byte)) (d : Data) : (readData chunks d).2 ≠ some .fuel := by
  rw [readData_eq_readFlat]
  exact (runs_readFlat _ d).ne_fuel

theorem readFlat_item (it : Item) (rest : List Byte) (d : Data) (hwf : it.wf) (hacc : it.accepted) :
    readFlat (it.enc ++ rest) d = readFlat rest (it.apply d) :=
  (readFlat_eq_iff _ _ _).mpr (.more (step_item it rest d hwf hacc) (runs_readFlat _ _))

theorem readFlat_items (items : List Item) (rest : List Byte) (d : Data)
    (h : ∀ it ∈ items, it.wf ∧ it.accepted) :
    readFlat (items.flatMap Item.enc ++ rest) d = readFlat rest (items.foldl Item.apply d) := by
  induction items generalizing d with
  | nil => rfl
  | cons it its ih =>
    obtain ⟨h1, h2⟩ := List.forall_mem_cons.mp h
    rw [List.flatMap_cons, List.append_assoc, List.foldl_cons, readFlat_item it _ d h1.1 h1.2, ih _ h2]

theorem readFlat_ok_iff (bs : List Byte) (d0 d : Data) :
    readFlat bs d0 = (d, none) ↔
      ∃ items : List Item,
        (∃ (t1 t0 l1 l0 : Byte) (tail : List Byte),
          bs = items.flatMap Item.enc ++ t1 :: t0 :: l1 :: l0 :: tail ∧
          be16 t1 t0 % 32768 = recEom ∧ ∀ it ∈ items, it.wf ∧ it.accepted) ∧
        d = items.foldl Item.apply d0 := by
  constructor
  · intro h
    obtain ⟨items, rest, rfl, hall, hdone⟩ := (h ▸ runs_readFlat bs d0).items
    cases hdone ▸ step_flat rest _ with
    | eom hbs hz => exact ⟨items, ⟨_, _, _, _, _, by rw [hbs], hz, hall⟩, rfl⟩
  · rintro ⟨items, ⟨t1, t0, l1, l0, tail, rfl, hz, hall⟩, rfl⟩
    rw [readFlat_items items _ _ hall, readFlat_eq_iff]
    exact .done (step_eom t1 t0 l1 l0 tail _ hz)

theorem Item.apply_eq (d : Data) (it : Item) :
    it.apply d = { d with
      algo := if it.typ = recAead then be16 (it.body.getD 0 0) (it.body.getD 1 0) else d.algo
      cookies := if it.typ = recCookie then d.cookies ++ [it.body] else d.cookies
      server := if it.typ = recServer then it.body else d.server
      port := if it.typ = recPort then be16 (it.body.getD 0 0) (it.body.getD 1 0) else d.port } := by
  unfold Item.apply
  by_cases h4 : it.typ = recAead; · simp [h4, recAead, recCookie, recServer, recPort]
  by_cases h5 : it.typ = recCookie; · simp [h5, recAead, recCookie, recServer, recPort]
  by_cases h6 : it.typ = recServer; · simp [h6, recAead, recCookie, recServer, recPort]
  by_cases h7 : it.typ = recPort
  · simp [h7, recAead, recCookie, recServer, recPort]
  · simp [h4, h5, h6, h7]

theorem foldl_apply_cookies (items : List Item) (d : Data) :
    (items.foldl Item.apply d).cookies =
      d.cookies ++ (items.filter (fun it => it.typ == recCookie)).map Item.body := by
  induction items generalizing d with
  | nil => simp
  | cons it its ih =>
    rw [List.foldl_cons, ih, Item.apply_eq, List.filter_cons]
    by_cases h : it.typ = recCookie <;> simp [h]

theorem foldl_apply_keeps {α : Type} (f : Data → α) (items : List Item)
    (h : ∀ it ∈ items, ∀ d, f (it.apply d) = f d) (d : Data) : f (items.foldl Item.apply d) = f d := by
  induction items generalizing d with
  | nil => rfl
  | cons it its ih =>
    obtain ⟨h1, h2⟩ := List.forall_mem_cons.mp h
    rw [List.foldl_cons, ih h2, h1]

theorem foldl_apply_server (items : List Item) (d : Data) (h : ∀ it ∈ items, it.typ ≠ recServer) :
    (items.foldl Item.apply d).server = d.server :=
  foldl_apply_keeps (·.server) items (fun it hit d => by rw [Item.apply_eq]; exact if_neg (h it hit)) d

theorem foldl_apply_port (items : List Item) (d : Data) (h : ∀ it ∈ items, it.typ ≠ recPort) :
    (items.foldl Item.apply d).port = d.port :=
  foldl_apply_keeps (·.port) items (fun it hit d => by rw [Item.apply_eq]; exact if_neg (h it hit)) d

/-- Records that carry data and fit the 16-bit fields. `Algorithm` with exactly one entry
    (what client and server send); see `C14Ntske_multi_algorithm_desync` for longer lists. -/
def Fits : Rec → Prop
  | .nextProto v => v < 65536
  | .algorithm as => ∃ a, as = [a] ∧ a < 65536
  | .server a _ => a.length < 65536
  | .port p _ => p < 65536
  | .cookie c => c.length < 65536
  | _ => False

theorem be16_u16 (v : Nat) (h : v < 65536) : be16 (v / 256 % 256) (v % 256) = v := by
  unfold be16; omega

/-- `hf`: the effect `f` of any record with this type and body, so that each caller argues the
    effect only. -/
theorem packHeader_item {t : Nat} {c : Bool} {n : Nat} {body : List Byte} {f : Data → Data}
    (ht : knownType t) (hn : n < 65536) (hlen : body.length = bodyNeed t n)
    (hf : ∀ it : Item, it.typ = t → it.body = body → ∀ d, it.apply d = f d) :
    ∃ it : Item, it.enc = packHeader t c n ++ body ∧ it.wf ∧ it.accepted ∧ ∀ d, it.apply d = f d := by
  generalize hv : (if c then t % 32768 + 32768 else t) = v
  have hv' : v < 65536 ∧ v % 32768 = t := by
    subst hv
    rcases ht with h | h | h | h | h <;> subst h <;> cases c <;> decide
  have htyp : Item.typ ⟨v / 256 % 256, v % 256, n / 256 % 256, n % 256, body⟩ = t := by
    simp only [Item.typ, Item.raw, be16_u16 v hv'.1, hv'.2]
  refine ⟨_, ?_, ?_, .inl (htyp ▸ ht), hf _ htyp rfl⟩
  · simp [Item.enc, packHeader, hv, u16, Nat.mod_eq_of_lt hn]
  · rw [Item.wf, htyp, Item.blen, be16_u16 n hn]
    exact hlen

theorem pack_item (r : Rec) (h : Fits r) :
    ∃ it : Item, it.enc = r.pack ∧ it.wf ∧ it.accepted ∧ ∀ d, it.apply d = r.apply d := by
  cases r with
  | nextProto v =>
    exact packHeader_item (by decide) (by decide) rfl fun it ht _ d => by
      simp [Item.apply_eq, ht, Rec.apply, recNextproto, recAead, recCookie, recServer, recPort]
  | algorithm as =>
    obtain ⟨a, rfl, ha⟩ := h
    exact packHeader_item (by decide) (by simp) rfl fun it ht hb d => by
      simp [Item.apply_eq, hb, ht, Rec.apply, recAead, recCookie, recServer, recPort, u16, be16_u16 a ha]
  | server a c =>
    exact packHeader_item (by decide) h rfl fun it ht hb d => by
      simp [Item.apply_eq, hb, ht, Rec.apply, recAead, recCookie, recServer, recPort]
  | port p c =>
    exact packHeader_item (by decide) (by decide) rfl fun it ht hb d => by
      simp [Item.apply_eq, hb, ht, Rec.apply, recAead, recCookie, recServer, recPort, u16, be16_u16 p h]
  | cookie ck =>
    exact packHeader_item (by decide) h rfl fun it ht hb d => by
      simp [Item.apply_eq, hb, ht, Rec.apply, recAead, recCookie, recServer, recPort]
  | warning _ => exact absurd h (by simp [Fits])
  | error _ => exact absurd h (by simp [Fits])
  | end_ => exact absurd h (by simp [Fits])

theorem readFlat_packed (rs : List Rec) (h : ∀ r ∈ rs, Fits r) (tail : List Byte) (d : Data) :
    readFlat (packMsg (rs ++ [.end_]) ++ tail) d = (rs.foldl Rec.apply d, none) := by
  induction rs generalizing d with
  | nil => exact (readFlat_eq_iff _ _ _).mpr (.done (step_eom 128 0 0 0 tail d (by decide)))
  | cons r rs ih =>
    obtain ⟨h1, h2⟩ := List.forall_mem_cons.mp h
    obtain ⟨it, he, hwf, hacc, hap⟩ := pack_item r h1
    rw [List.cons_append, packMsg, List.flatMap_cons, ← he, List.append_assoc, readFlat_item it _ d hwf hacc,
      hap]
    exact ih h2 _

theorem readData_packed (rs : List Rec) (h : ∀ r ∈ rs, Fits r)
    (chunks : List (List Byte)) (tail : List Byte)
    (hc : chunks.flatten = packMsg (rs ++ [.end_]) ++ tail) (d : Data) :
    readData chunks d = (rs.foldl Rec.apply d, none) := by
  rw [readData_eq_readFlat, hc, readFlat_packed rs h]

theorem fits_clientMsg : ∀ r ∈ [Rec.nextProto ntpv4, .algorithm [aesSivCmac256]], Fits r := by
  simp [Fits, ntpv4, aesSivCmac256]

theorem foldl_cookie_recs (cs : List (List Byte)) (d : Data) :
    (cs.map Rec.cookie).foldl Rec.apply d = { d with cookies := d.cookies ++ cs } := by
  induction cs generalizing d with
  | nil => simp
  | cons c cs ih => simp [ih, Rec.apply]

theorem exchangeCoreFrom_ok_iff (d0 : Data) (e : Exchange) (d : Data) :
    exchangeCoreFrom d0 e = (d, none) ↔
      e.dialOk = true ∧ (e.quic = true ∨ e.alpn = alpnProto) ∧ e.exportOk = true ∧
      ∃ d1, readData e.stream d0 = (d1, none) ∧ d1.algo = aesSivCmac256 ∧ d1.cookies ≠ [] ∧
        d = { d1 with c2s := e.c2s, s2c := e.s2c } := by
  unfold exchangeCoreFrom
  cases e.dialOk; · simp
  by_cases ha : e.quic = false ∧ e.alpn ≠ alpnProto
  · simp [ha]
  rw [if_neg (by simp), if_neg ha]
  have ha' : e.quic = true ∨ e.alpn = alpnProto := by
    cases hq : e.quic <;> simp_all
  obtain ⟨d1, _ | err⟩ := readData e.stream d0
  · cases e.exportOk; · simp
    by_cases hc : d1.cookies = []
    · simp [hc]
    by_cases hal : d1.algo = aesSivCmac256
    · simp [ha', hc, hal]
      exact eq_comm
    · simp [hc, hal]
  · simp

theorem exchangeKeys_ok_iff (cached : Data) (e : Exchange) (d : Data) :
    exchangeKeys cached e = (d, none) ↔ exchangeCore e = (d, none) := by
  unfold exchangeKeys
  cases exchangeCore e with
  | mk d1 r => cases r <;> simp

theorem fetchWith_cases (ex : Data → Exchange → Data × Option ExErr) (cached : Data) (e : Exchange) :
    (cached.cookies ≠ [] ∧
      fetchWith ex cached e = ⟨{ cached with cookies := cached.cookies.drop 1 }, .ok cached, false⟩) ∨
    cached.cookies = [] ∧
      ((∃ c, ex cached e = (c, none) ∧
        fetchWith ex cached e = ⟨{ c with cookies := c.cookies.drop 1 }, .ok c, true⟩) ∨
       ∃ c err, ex cached e = (c, some err) ∧ fetchWith ex cached e = ⟨c, .error err, true⟩) := by
  unfold fetchWith
  cases hc : cached.cookies with
  | cons _ _ => exact .inl ⟨List.cons_ne_nil _ _, rfl⟩
  | nil =>
    obtain ⟨c, _ | err⟩ := ex cached e
    · exact .inr ⟨rfl, .inl ⟨c, rfl, rfl⟩⟩
    · exact .inr ⟨rfl, .inr ⟨c, err, rfl, rfl⟩⟩

/-- session fields (everything but the cookie pool) -/
def SameSession (a b : Data) : Prop :=
  a.c2s = b.c2s ∧ a.s2c = b.s2c ∧ a.algo = b.algo ∧ a.server = b.server ∧ a.port = b.port

end ScionTime.Ntske
