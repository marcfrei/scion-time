/-
  Proofs/F64.lean — lemmas about the software binary64 model (Model/F64.lean).
  Core Lean only (`grind` does the ordered-field reasoning over `Rat`).
-/
import ScionTime.Model.F64
namespace ScionTime.F64

theorem toRat_fin (q : Rat) : toRat (.fin q) = q := rfl
theorem toRat_zero (s : Bool) : toRat (.zero s) = 0 := rfl

theorem abs_le_iff {x b : Rat} : x.abs ≤ b ↔ -b ≤ x ∧ x ≤ b := by
  simp only [Rat.abs]; split <;> grind

theorem abs_lt_iff {x b : Rat} : x.abs < b ↔ -b < x ∧ x < b := by
  simp only [Rat.abs]; split <;> grind

theorem abs_bounds (x : Rat) : -x.abs ≤ x ∧ x ≤ x.abs := abs_le_iff.1 Rat.le_refl

theorem abs_mul (x y : Rat) : (x * y).abs = x.abs * y.abs := by
  have key : ∀ a b : Rat, 0 ≤ a → (a * b).abs = a * b.abs := by
    intro a b ha
    by_cases hb : 0 ≤ b
    · rw [Rat.abs_of_nonneg hb, Rat.abs_of_nonneg (Rat.mul_nonneg ha hb)]
    · have h := Rat.mul_nonneg ha (show 0 ≤ -b by grind)
      rw [Rat.mul_neg] at h
      rw [Rat.abs_of_nonpos (show b ≤ 0 by grind), Rat.abs_of_nonpos (show a * b ≤ 0 by grind),
        Rat.mul_neg]
  by_cases hx : 0 ≤ x
  · rw [key x y hx, Rat.abs_of_nonneg hx]
  · have := key (-x) y (by grind)
    rw [Rat.neg_mul, Rat.abs_neg] at this
    rw [this, Rat.abs_of_nonpos (show x ≤ 0 by grind)]

theorem abs_mul_of_nonneg_right (x : Rat) {c : Rat} (hc : 0 ≤ c) : (x * c).abs = x.abs * c := by
  rw [abs_mul, Rat.abs_of_nonneg hc]

theorem pow2_eq_zpow (e : Int) : pow2 e = (2 : Rat) ^ e := by
  unfold pow2
  split
  · rename_i h
    obtain ⟨n, rfl⟩ := Int.eq_ofNat_of_zero_le h
    simp [Rat.zpow_natCast]
  · rename_i h
    obtain ⟨n, hn⟩ := Int.eq_ofNat_of_zero_le (show 0 ≤ -e by omega)
    have : e = -(n : Int) := by omega
    subst this
    simp [Rat.zpow_neg, Rat.zpow_natCast, Rat.div_def]

theorem pow2_pos (e : Int) : 0 < pow2 e := by
  rw [pow2_eq_zpow]; exact Rat.zpow_pos (by decide)

theorem pow2_ne_zero (e : Int) : pow2 e ≠ 0 := Rat.ne_of_gt (pow2_pos e)

theorem pow2_add (a b : Int) : pow2 (a + b) = pow2 a * pow2 b := by
  simp only [pow2_eq_zpow]; exact Rat.zpow_add (by decide) a b

theorem pow2_zero : pow2 0 = 1 := by decide
theorem pow2_one : pow2 1 = 2 := by decide
theorem pow2_53_lit : pow2 53 = 9007199254740992 := by decide
theorem pow2_63_lit : pow2 63 = 9223372036854775808 := by decide

theorem pow2_neg (a : Int) : pow2 (-a) = 1 / pow2 a := by
  have h := pow2_add a (-a)
  have h0 := pow2_ne_zero a
  rw [show a + -a = 0 by omega, pow2_zero] at h
  grind

theorem pow2_succ (a : Int) : pow2 (a + 1) = 2 * pow2 a := by
  rw [pow2_add, pow2_one]; grind

theorem pow2_natCast (n : Nat) : pow2 (n : Int) = ((2 ^ n : Nat) : Rat) := by
  unfold pow2; simp

theorem one_lt_pow2 {k : Int} (h : 0 < k) : 1 < pow2 k := by
  obtain ⟨n, rfl⟩ := Int.eq_ofNat_of_zero_le (Int.le_of_lt h)
  rw [pow2_natCast]
  have : 1 < 2 ^ n := Nat.one_lt_two_pow (by omega)
  exact_mod_cast this

theorem pow2_strictMono {a b : Int} (h : a < b) : pow2 a < pow2 b := by
  have h1 := pow2_add a (b - a)
  rw [show a + (b - a) = b by omega] at h1
  have := Rat.mul_lt_mul_of_pos_left (one_lt_pow2 (show 0 < b - a by omega)) (pow2_pos a)
  grind

theorem pow2_mono {a b : Int} (h : a ≤ b) : pow2 a ≤ pow2 b := by
  rcases Int.lt_or_eq_of_le h with h | rfl
  · exact Rat.le_of_lt (pow2_strictMono h)
  · exact Rat.le_refl

theorem pow2_le_one {k : Int} (h : k ≤ 0) : pow2 k ≤ 1 := by
  have := pow2_mono h
  rwa [pow2_zero] at this

theorem pow2_le_iff {a b : Int} : pow2 a ≤ pow2 b ↔ a ≤ b :=
  ⟨fun h => Int.not_lt.1 fun hba => Rat.not_lt.2 h (pow2_strictMono hba), pow2_mono⟩

theorem pow2_lt_iff {a b : Int} : pow2 a < pow2 b ↔ a < b := by
  rw [← Rat.not_le, pow2_le_iff, Int.not_le]

theorem le_div_iff {a b c : Rat} (hc : 0 < c) : a ≤ b / c ↔ a * c ≤ b := by
  have := @Rat.div_lt_iff b c a hc
  grind

theorem div_le_iff {a b c : Rat} (hb : 0 < b) : a / b ≤ c ↔ a ≤ c * b := by
  have := @Rat.lt_div_iff c a b hb
  grind

theorem div_le_div_right {a b c : Rat} (hc : 0 < c) (h : a ≤ b) : a / c ≤ b / c := by
  rw [div_le_iff hc, Rat.div_mul_cancel (by grind)]; exact h

private theorem fl_core (N D A B P : Rat) (hA : A ≤ N) (hA2 : N < 2 * A) (hB : B ≤ D)
    (hB2 : D < 2 * B) (hP : P * B = A) (hPpos : 0 < P) (hDpos : 0 < D) :
    (P * D ≤ N → P ≤ N / D ∧ N / D < 2 * P) ∧ (N < P * D → P / 2 ≤ N / D ∧ N / D < P) := by
  have h1 := Rat.mul_le_mul_of_nonneg_left hB (Rat.le_of_lt hPpos)
  have h2 := Rat.mul_lt_mul_of_pos_left hB2 hPpos
  constructor
  · intro h
    rw [le_div_iff hDpos, Rat.div_lt_iff hDpos]
    grind
  · intro h
    rw [le_div_iff hDpos, Rat.div_lt_iff hDpos]
    grind

theorem natCast_log2_bounds {n : Nat} (hn : 0 < n) :
    pow2 (n.log2 : Int) ≤ (n : Rat) ∧ (n : Rat) < 2 * pow2 (n.log2 : Int) := by
  have h1 := Nat.log2_self_le (n := n) (by omega)
  have h2 := Nat.lt_log2_self (n := n)
  rw [pow2_natCast]
  constructor
  · exact_mod_cast h1
  · have : ((n : Nat) : Rat) < ((2 ^ (n.log2 + 1) : Nat) : Rat) := by exact_mod_cast h2
    rw [Nat.pow_succ] at this
    simp only [Rat.natCast_mul] at this
    grind

theorem floorLog2_spec {n d : Nat} (hn : 0 < n) (hd : 0 < d) :
    pow2 (floorLog2 n d) ≤ (n : Rat) / (d : Rat) ∧
    (n : Rat) / (d : Rat) < pow2 (floorLog2 n d + 1) := by
  obtain ⟨hA, hA2⟩ := natCast_log2_bounds hn
  obtain ⟨hB, hB2⟩ := natCast_log2_bounds hd
  have hD : (0 : Rat) < (d : Rat) := by exact_mod_cast hd
  have hP := pow2_add ((n.log2 : Int) - (d.log2 : Int)) (d.log2 : Int)
  rw [show (n.log2 : Int) - (d.log2 : Int) + (d.log2 : Int) = (n.log2 : Int) by omega] at hP
  have core := fl_core n d _ _ (pow2 ((n.log2 : Int) - (d.log2 : Int))) hA hA2 hB hB2 hP.symm
    (pow2_pos _) hD
  unfold floorLog2
  simp only []
  generalize (n.log2 : Int) - (d.log2 : Int) = l at *
  have hge : (if l ≥ 0 then decide (n ≥ d * 2 ^ l.toNat) else decide (n * 2 ^ (-l).toNat ≥ d)) = true
      ↔ pow2 l * (d : Rat) ≤ (n : Rat) := by
    by_cases hl : l ≥ 0
    · rw [if_pos hl, decide_eq_true_iff]
      unfold pow2; rw [if_pos hl]
      rw [← Rat.natCast_mul, Rat.natCast_le_natCast, Nat.mul_comm]
    · rw [if_neg hl, decide_eq_true_iff]
      unfold pow2; rw [if_neg hl]
      have hq : (0 : Rat) < ((2 ^ (-l).toNat : Nat) : Rat) := by
        exact_mod_cast Nat.two_pow_pos _
      rw [show (1 / ((2 ^ (-l).toNat : Nat) : Rat)) * (d : Rat) = (d : Rat) / ((2 ^ (-l).toNat : Nat) : Rat) by grind]
      rw [div_le_iff hq, ← Rat.natCast_mul, Rat.natCast_le_natCast]
  generalize (if l ≥ 0 then decide (n ≥ d * 2 ^ l.toNat) else decide (n * 2 ^ (-l).toNat ≥ d)) = b
    at hge
  cases b
  · have h' : (n : Rat) < pow2 l * (d : Rat) := by
      have := mt hge.2 (by decide); grind
    have := core.2 h'
    simp only [Bool.false_eq_true, if_false]
    rw [show l - 1 + 1 = l by omega]
    have h2 := pow2_succ (l - 1)
    rw [show l - 1 + 1 = l by omega] at h2
    grind
  · have := core.1 (hge.1 rfl)
    simp only [if_true]
    rw [pow2_succ]; exact this

theorem le_floorLog2 {n d : Nat} (hn : 0 < n) (hd : 0 < d) {k : Int}
    (h : pow2 k ≤ (n : Rat) / (d : Rat)) : k ≤ floorLog2 n d := by
  obtain ⟨_, s2⟩ := floorLog2_spec hn hd
  have a : k < floorLog2 n d + 1 := pow2_lt_iff.1 (by grind)
  omega

theorem floorLog2_lt {n d : Nat} (hn : 0 < n) (hd : 0 < d) {k : Int}
    (h : (n : Rat) / (d : Rat) < pow2 k) : floorLog2 n d < k := by
  obtain ⟨s1, _⟩ := floorLog2_spec hn hd
  exact pow2_lt_iff.1 (by grind)

theorem floorLog2_unique {n d : Nat} (hn : 0 < n) (hd : 0 < d) {k : Int}
    (h1 : pow2 k ≤ (n : Rat) / (d : Rat)) (h2 : (n : Rat) / (d : Rat) < pow2 (k + 1)) :
    floorLog2 n d = k := by
  have := le_floorLog2 hn hd h1
  have := floorLog2_lt hn hd h2
  omega

/-- the integer chosen by `roundHalfEven` before `toNat` -/
def rheInt (x : Rat) : Int :=
  let f := x.floor
  let r := x - (f : Rat)
  if r > 1/2 then f + 1 else if r < 1/2 then f else if f % 2 = 0 then f else f + 1

theorem roundHalfEven_eq (x : Rat) : roundHalfEven x = (rheInt x).toNat := rfl

theorem rheInt_err (x : Rat) :
    -(1/2) ≤ (rheInt x : Rat) - x ∧ (rheInt x : Rat) - x ≤ 1/2 := by
  have h1 := Rat.floor_le x
  have h2 := Rat.lt_floor_add_one x
  unfold rheInt
  simp only []
  split
  · simp only [Rat.intCast_add] at *; grind
  · split
    · grind
    · split
      · grind
      · simp only [Rat.intCast_add] at *; grind

theorem rheInt_mono {x y : Rat} (h : x ≤ y) : rheInt x ≤ rheInt y := by
  have ex := rheInt_err x
  have ey := rheInt_err y
  by_cases hc : rheInt x ≤ rheInt y
  · exact hc
  · exfalso
    have h1 : rheInt y + 1 ≤ rheInt x := by omega
    have h2 : ((rheInt y + 1 : Int) : Rat) ≤ (rheInt x : Rat) := Rat.intCast_le_intCast.2 h1
    simp only [Rat.intCast_add] at h2
    have hxy : x = y := by grind
    subst hxy
    omega

theorem rheInt_intCast (k : Int) : rheInt (k : Rat) = k := by
  unfold rheInt
  simp only [Rat.floor_intCast, Rat.sub_self]
  rw [if_neg (by grind), if_pos (by grind)]

theorem rheInt_nonneg {x : Rat} (hx : 0 ≤ x) : 0 ≤ rheInt x := by
  have := rheInt_mono (x := ((0 : Int) : Rat)) (by simpa using hx)
  rwa [rheInt_intCast] at this

theorem roundHalfEven_cast {x : Rat} (hx : 0 ≤ x) : ((roundHalfEven x : Nat) : Rat) = (rheInt x : Rat) := by
  rw [roundHalfEven_eq, ← Rat.intCast_natCast, Int.toNat_of_nonneg (rheInt_nonneg hx)]

theorem roundHalfEven_err {x : Rat} (hx : 0 ≤ x) :
    -(1/2) ≤ ((roundHalfEven x : Nat) : Rat) - x ∧ ((roundHalfEven x : Nat) : Rat) - x ≤ 1/2 := by
  rw [roundHalfEven_cast hx]; exact rheInt_err x

theorem roundHalfEven_abs_err {x : Rat} (hx : 0 ≤ x) :
    (((roundHalfEven x : Nat) : Rat) - x).abs ≤ 1/2 := by
  rw [abs_le_iff]; exact roundHalfEven_err hx

theorem roundHalfEven_mono {x y : Rat} (h : x ≤ y) : roundHalfEven x ≤ roundHalfEven y := by
  rw [roundHalfEven_eq, roundHalfEven_eq]
  exact Int.toNat_le_toNat (rheInt_mono h)

theorem roundHalfEven_natCast (k : Nat) : roundHalfEven (k : Rat) = k := by
  rw [roundHalfEven_eq, ← Rat.intCast_natCast, rheInt_intCast]; simp

theorem roundHalfEven_le {x : Rat} {k : Nat} (h : x ≤ (k : Rat)) : roundHalfEven x ≤ k := by
  have := roundHalfEven_mono h; rwa [roundHalfEven_natCast] at this

/-! `rnd q` is the rounded value before the overflow test; `roundNE` is `rnd` plus the
classification zero / finite / infinite (`roundNE_eq`). -/

/-- exponent of the unit in the last place near `a > 0` -/
def ulpE (a : Rat) : Int := ulpExp a.num.natAbs a.den

/-- rounding of a non-negative rational to the grid `2^(ulpE a) · ℕ` -/
def rndPos (a : Rat) : Rat := ((roundHalfEven (a / pow2 (ulpE a)) : Nat) : Rat) * pow2 (ulpE a)

/-- the rounded value (sign-symmetric), without the overflow test -/
def rnd (q : Rat) : Rat := if q < 0 then -(rndPos (-q)) else rndPos q

theorem rndPos_eq_zero_iff (a : Rat) : rndPos a = 0 ↔ roundHalfEven (a / pow2 (ulpE a)) = 0 := by
  unfold rndPos
  rw [Rat.mul_eq_zero, Rat.natCast_eq_zero_iff]
  have := pow2_ne_zero (ulpE a)
  grind

theorem rndPos_nonneg (a : Rat) : 0 ≤ rndPos a :=
  Rat.mul_nonneg Rat.natCast_nonneg (Rat.le_of_lt (pow2_pos _))

theorem roundNE_zero : roundNE 0 = .zero false := by
  unfold roundNE; simp

theorem rndPos_zero : rndPos 0 = 0 := by
  rw [rndPos_eq_zero_iff, Rat.div_def, Rat.zero_mul]
  exact roundHalfEven_natCast 0

theorem rnd_zero : rnd 0 = 0 := by
  unfold rnd; rw [if_neg (by decide)]; exact rndPos_zero

theorem rnd_neg (q : Rat) : rnd (-q) = -(rnd q) := by
  unfold rnd
  by_cases h : q < 0
  · rw [if_pos h, if_neg (by grind), Rat.neg_neg]
  · by_cases h0 : q = 0
    · subst h0; simp [rndPos_zero]
    · rw [if_neg h, if_pos (by grind), Rat.neg_neg]

theorem rnd_of_nonneg {q : Rat} (h : 0 ≤ q) : rnd q = rndPos q := by
  unfold rnd; rw [if_neg (by grind)]

theorem rnd_abs (q : Rat) : (rnd q).abs = rndPos q.abs := by
  by_cases h : 0 ≤ q
  · rw [rnd_of_nonneg h, Rat.abs_of_nonneg h, Rat.abs_of_nonneg (rndPos_nonneg q)]
  · have h' : q < 0 := by grind
    rw [Rat.abs_of_nonpos (Rat.le_of_lt h')]
    unfold rnd; rw [if_pos h', Rat.abs_neg, Rat.abs_of_nonneg (rndPos_nonneg _)]

theorem roundNE_eq (q : Rat) :
    roundNE q = if q = 0 then .zero false
      else if rnd q = 0 then .zero (decide (q < 0))
      else if (rnd q).abs ≥ pow2 1024 then .inf (decide (q < 0)) else .fin (rnd q) := by
  by_cases h0 : q = 0
  · subst h0; rfl
  · rw [if_neg h0, rnd_abs]
    unfold roundNE rnd
    rw [if_neg h0]
    by_cases hn : q < 0
    · have hz : -rndPos (-q) = 0 ↔ rndPos (-q) = 0 := by grind
      simp only [hn, decide_true, if_true, Rat.abs_of_nonpos (Rat.le_of_lt hn), hz,
        overflowThreshold, rndPos_eq_zero_iff]
      rfl
    · simp only [hn, decide_false, Bool.false_eq_true, if_false, Rat.abs_of_nonneg (Rat.not_lt.1 hn),
        overflowThreshold, rndPos_eq_zero_iff]
      rfl

theorem roundNE_cases {q : Rat} (h : (rnd q).abs < pow2 1024) :
    (rnd q = 0 ∧ ∃ s, roundNE q = .zero s) ∨ (rnd q ≠ 0 ∧ roundNE q = .fin (rnd q)) := by
  rw [roundNE_eq]
  by_cases h0 : q = 0
  · subst h0; left; exact ⟨rnd_zero, false, by simp⟩
  · rw [if_neg h0]
    by_cases h1 : rnd q = 0
    · left; rw [if_pos h1]; exact ⟨h1, _, rfl⟩
    · right; rw [if_neg h1, if_neg (by grind)]; exact ⟨h1, rfl⟩

theorem toRat_roundNE {q : Rat} (h : (rnd q).abs < pow2 1024) : toRat (roundNE q) = rnd q := by
  rcases roundNE_cases h with ⟨h0, s, e⟩ | ⟨_, e⟩ <;> rw [e]
  · exact h0.symm
  · rfl

theorem isFinite_roundNE {q : Rat} (h : (rnd q).abs < pow2 1024) : isFinite (roundNE q) = true := by
  rcases roundNE_cases h with ⟨_, s, e⟩ | ⟨_, e⟩ <;> rw [e] <;> rfl

theorem pos_num_den {a : Rat} (h : 0 < a) :
    0 < a.num.natAbs ∧ ((a.num.natAbs : Nat) : Rat) / ((a.den : Nat) : Rat) = a := by
  have hn : 0 ≤ a.num := Rat.num_nonneg.2 (Rat.le_of_lt h)
  have hz : a.num ≠ 0 := fun hz => by have := Rat.num_eq_zero.1 hz; grind
  refine ⟨by omega, ?_⟩
  have e := Rat.num_divInt_den a
  rw [Rat.divInt_eq_div] at e
  rw [← Rat.intCast_natCast, ← Rat.intCast_natCast (a.den), Int.natAbs_of_nonneg hn]
  exact e

/-- the grid `2^(ulpE a) · ℕ` near `a > 0`: `a` has at most 53 bits on it, and exactly 53 unless
    the exponent is the subnormal one -/
theorem ulpE_bounds {a : Rat} (h : 0 < a) :
    a < pow2 (53 + ulpE a) ∧ (pow2 (52 + ulpE a) ≤ a ∨ ulpE a = -1074) := by
  obtain ⟨hn, e⟩ := pos_num_den h
  have s := floorLog2_spec hn a.den_pos
  rw [e] at s
  have eu : ulpE a = if floorLog2 a.num.natAbs a.den - 52 < -1074 then -1074
      else floorLog2 a.num.natAbs a.den - 52 := rfl
  generalize floorLog2 a.num.natAbs a.den = L at s eu
  by_cases hL : L - 52 < -1074
  · rw [if_pos hL] at eu
    have := pow2_mono (show L + 1 ≤ 53 + ulpE a by omega)
    exact ⟨by grind, Or.inr eu⟩
  · rw [if_neg hL] at eu
    rw [eu, show 53 + (L - 52) = L + 1 by omega, show 52 + (L - 52) = L by omega]
    exact ⟨s.2, Or.inl s.1⟩

theorem ulpE_of_bounds {a : Rat} {L : Int} (h1 : pow2 L ≤ a) (h2 : a < pow2 (L + 1)) :
    ulpE a = if L - 52 < -1074 then -1074 else L - 52 := by
  have hp : 0 < a := by have := pow2_pos L; grind
  obtain ⟨hn, e⟩ := pos_num_den hp
  have u := floorLog2_unique hn a.den_pos (k := L) (by rw [e]; exact h1) (by rw [e]; exact h2)
  unfold ulpE ulpExp precBits minExp; simp only []; rw [u]; rfl

theorem ulpE_ge (a : Rat) : -1074 ≤ ulpE a := by
  unfold ulpE ulpExp precBits minExp; simp only []; split <;> omega

theorem ulpE_mono {a b : Rat} (ha : 0 < a) (hab : a ≤ b) : ulpE a ≤ ulpE b := by
  rcases (ulpE_bounds ha).2 with la | ea
  · have ub := (ulpE_bounds (show 0 < b by grind)).1
    have : 52 + ulpE a < 53 + ulpE b := pow2_lt_iff.1 (by grind)
    omega
  · rw [ea]; exact ulpE_ge b

theorem pow2_ulpE_le {a : Rat} (h : pow2 (-1022) ≤ a) : pow2 (ulpE a) ≤ a / pow2 52 := by
  have hp : 0 < a := by have := pow2_pos (-1022); grind
  rw [le_div_iff (pow2_pos 52), Rat.mul_comm, ← pow2_add]
  rcases (ulpE_bounds hp).2 with l | e
  · exact l
  · rw [e]; exact h

theorem ulpE_subnormal {a : Rat} (h0 : 0 < a) (h : a < pow2 (-1022)) : ulpE a = -1074 := by
  rcases (ulpE_bounds h0).2 with l | e
  · have : 52 + ulpE a < -1022 := pow2_lt_iff.1 (by grind)
    have := ulpE_ge a
    omega
  · exact e

theorem rndPos_err {a : Rat} (h : 0 ≤ a) :
    -(pow2 (ulpE a) / 2) ≤ rndPos a - a ∧ rndPos a - a ≤ pow2 (ulpE a) / 2 := by
  have hP := pow2_pos (ulpE a)
  have hx : 0 ≤ a / pow2 (ulpE a) := by
    rw [le_div_iff hP]; grind
  obtain ⟨e1, e2⟩ := roundHalfEven_err hx
  have hxa : a / pow2 (ulpE a) * pow2 (ulpE a) = a := Rat.div_mul_cancel (pow2_ne_zero _)
  unfold rndPos
  generalize a / pow2 (ulpE a) = x at *
  generalize ((roundHalfEven x : Nat) : Rat) = m at *
  generalize pow2 (ulpE a) = P at *
  have m1 := Rat.mul_le_mul_of_nonneg_right e1 (Rat.le_of_lt hP)
  have m2 := Rat.mul_le_mul_of_nonneg_right e2 (Rat.le_of_lt hP)
  grind

theorem rnd_err (q : Rat) : (rnd q - q).abs ≤ pow2 (ulpE q.abs) / 2 := by
  rw [abs_le_iff]
  by_cases h : 0 ≤ q
  · rw [rnd_of_nonneg h, Rat.abs_of_nonneg h]; exact rndPos_err h
  · have h' : q < 0 := by grind
    have := rndPos_err (show 0 ≤ -q by grind)
    rw [Rat.abs_of_nonpos (Rat.le_of_lt h')]
    unfold rnd; rw [if_pos h']; grind

theorem rnd_err_rel {q : Rat} (h : pow2 (-1022) ≤ q.abs) : (rnd q - q).abs ≤ q.abs / pow2 53 := by
  have e := rnd_err q
  have u := pow2_ulpE_le h
  have h53 : pow2 53 = 2 * pow2 52 := pow2_succ 52
  have hp := pow2_pos 52
  rw [le_div_iff hp] at u
  rw [le_div_iff (pow2_pos 53), h53]
  have := Rat.mul_le_mul_of_nonneg_right e (show 0 ≤ 2 * pow2 52 by grind)
  grind

theorem rnd_err_sub {q : Rat} (h : q.abs < pow2 (-1022)) : (rnd q - q).abs ≤ pow2 (-1075) := by
  by_cases h0 : q = 0
  · subst h0; rw [rnd_zero, Rat.sub_self, Rat.abs_zero]; exact Rat.le_of_lt (pow2_pos _)
  · have e := rnd_err q
    rw [ulpE_subnormal (Rat.abs_pos_iff.2 h0) h] at e
    have := pow2_succ (-1075)
    rw [show (-1075 : Int) + 1 = -1074 by omega] at this
    grind

/-- the standard model of rounding error, all magnitudes (`2^-1075`: half the smallest subnormal) -/
theorem rnd_err_gen (q : Rat) : (rnd q - q).abs ≤ q.abs / pow2 53 + pow2 (-1075) := by
  have hq : 0 ≤ q.abs / pow2 53 := by
    rw [le_div_iff (pow2_pos 53)]; have := @Rat.abs_nonneg q; grind
  have := pow2_pos (-1075)
  by_cases h : pow2 (-1022) ≤ q.abs
  · have := rnd_err_rel h; grind
  · have := rnd_err_sub (show q.abs < pow2 (-1022) by grind); grind

theorem rnd_err_le {q B : Rat} (h : q.abs ≤ B) :
    (rnd q - q).abs ≤ B / 9007199254740992 + pow2 (-1075) := by
  have e := rnd_err_gen q
  rw [pow2_53_lit] at e
  grind

theorem pow2_split {K e : Int} (h : e ≤ K) :
    pow2 K = ((2 ^ (K - e).toNat : Nat) : Rat) * pow2 e := by
  have h1 := pow2_add (K - e) e
  rw [show K - e + e = K by omega] at h1
  rw [h1, ← pow2_natCast, Int.toNat_of_nonneg (by omega)]

/-- rounding to the grid `2^e · ℕ`; `rndPos a` is `rndAt (ulpE a) a` -/
def rndAt (e : Int) (a : Rat) : Rat := ((roundHalfEven (a / pow2 e) : Nat) : Rat) * pow2 e

theorem rndAt_mono (e : Int) {a b : Rat} (h : a ≤ b) : rndAt e a ≤ rndAt e b :=
  Rat.mul_le_mul_of_nonneg_right
    (Rat.natCast_le_natCast.2 (roundHalfEven_mono (div_le_div_right (pow2_pos e) h)))
    (Rat.le_of_lt (pow2_pos e))

theorem rndAt_grid {e K : Int} (hK : e ≤ K) (k : Nat) :
    rndAt e ((k : Rat) * pow2 K) = (k : Rat) * pow2 K := by
  unfold rndAt
  rw [pow2_split hK, ← Rat.mul_assoc, ← Rat.natCast_mul, Rat.mul_div_cancel (pow2_ne_zero e),
    roundHalfEven_natCast]

theorem rndPos_mono_pos {a b : Rat} (ha : 0 < a) (hab : a ≤ b) : rndPos a ≤ rndPos b := by
  have hb : 0 < b := by grind
  have hm := ulpE_mono ha hab
  by_cases he : ulpE a = ulpE b
  · show rndAt (ulpE a) a ≤ rndAt (ulpE b) b
    rw [he]; exact rndAt_mono _ hab
  · have ua := (ulpE_bounds ha).1
    have ga := ulpE_ge a
    rcases (ulpE_bounds hb).2 with lb | eb
    · -- the power of two `2^(52 + ulpE b)` separates `a` and `b` and lies on both grids
      have hsep : a ≤ ((1 : Nat) : Rat) * pow2 (52 + ulpE b) := by
        have := pow2_mono (show 53 + ulpE a ≤ 52 + ulpE b by omega); simp; grind
      have hsep' : ((1 : Nat) : Rat) * pow2 (52 + ulpE b) ≤ b := by simpa using lb
      have h1 := rndAt_mono (ulpE a) hsep
      have h2 := rndAt_mono (ulpE b) hsep'
      rw [rndAt_grid (by omega)] at h1 h2
      exact Rat.le_trans h1 h2
    · omega

theorem rndPos_mono {a b : Rat} (ha : 0 ≤ a) (hab : a ≤ b) : rndPos a ≤ rndPos b := by
  by_cases h0 : a = 0
  · subst h0; rw [rndPos_zero]; exact rndPos_nonneg b
  · exact rndPos_mono_pos (by grind) hab

theorem rnd_mono {p q : Rat} (h : p ≤ q) : rnd p ≤ rnd q := by
  unfold rnd
  by_cases hp : p < 0 <;> by_cases hq : q < 0
  · rw [if_pos hp, if_pos hq]
    have := rndPos_mono (a := -q) (b := -p) (by grind) (by grind); grind
  · rw [if_pos hp, if_neg hq]
    have := rndPos_nonneg (-p); have := rndPos_nonneg q; grind
  · exfalso; grind
  · rw [if_neg hp, if_neg hq]; exact rndPos_mono (by grind) h

theorem rnd_nonneg {q : Rat} (h : 0 ≤ q) : 0 ≤ rnd q := by
  have := rnd_mono h; rwa [rnd_zero] at this

theorem rnd_nonpos {q : Rat} (h : q ≤ 0) : rnd q ≤ 0 := by
  have := rnd_mono h; rwa [rnd_zero] at this

theorem pow2_53 : pow2 53 = ((2 ^ 53 : Nat) : Rat) := pow2_natCast 53

theorem natCast_mul_pow2_lt {k : Nat} (hk : k < 2 ^ 53) (K : Int) :
    (k : Rat) * pow2 K < pow2 (53 + K) := by
  rw [pow2_add, pow2_53]
  exact Rat.mul_lt_mul_of_pos_right (Rat.natCast_lt_natCast.2 hk) (pow2_pos K)

theorem ulpE_grid_le {k : Nat} {K : Int} (hk : 0 < k) (hk' : k < 2 ^ 53) (hK : -1074 ≤ K) :
    ulpE ((k : Rat) * pow2 K) ≤ K := by
  have hlt := natCast_mul_pow2_lt hk' K
  rcases (ulpE_bounds (Rat.mul_pos (Rat.natCast_pos.2 hk) (pow2_pos K))).2 with l | e
  · have : 52 + ulpE ((k : Rat) * pow2 K) < 53 + K := pow2_lt_iff.1 (by grind)
    omega
  · omega

theorem rndPos_rep {k : Nat} {K : Int} (hk' : k < 2 ^ 53) (hK : -1074 ≤ K) :
    rndPos ((k : Rat) * pow2 K) = (k : Rat) * pow2 K := by
  by_cases hk : k = 0
  · subst hk; simp [rndPos_zero]
  · exact rndAt_grid (ulpE_grid_le (by omega) hk' hK) k

/-- exactly representable finite values: `m · 2^K`, `|m| < 2^53`, `K ≥ -1074` -/
def Rep (v : Rat) : Prop := ∃ (m : Int) (K : Int), m.natAbs < 2 ^ 53 ∧ -1074 ≤ K ∧ v = (m : Rat) * pow2 K

theorem Rep.neg {v : Rat} (h : Rep v) : Rep (-v) := by
  obtain ⟨m, K, h1, h2, h3⟩ := h
  exact ⟨-m, K, by omega, h2, by rw [h3, Rat.intCast_neg, Rat.neg_mul]⟩

theorem rep_natCast_mul {k : Nat} {K : Int} (hk : k < 2 ^ 53) (hK : -1074 ≤ K) :
    Rep ((k : Rat) * pow2 K) :=
  ⟨k, K, by omega, hK, by rw [Rat.intCast_natCast]⟩

theorem rnd_of_rep {v : Rat} (h : Rep v) : rnd v = v := by
  obtain ⟨m, K, h1, h2, rfl⟩ := h
  have key : rnd ((m.natAbs : Rat) * pow2 K) = (m.natAbs : Rat) * pow2 K := by
    rw [rnd_of_nonneg (Rat.mul_nonneg Rat.natCast_nonneg (Rat.le_of_lt (pow2_pos K)))]
    exact rndPos_rep h1 h2
  rcases Int.natAbs_eq m with e | e <;> rw [e]
  · rwa [Rat.intCast_natCast]
  · rw [Rat.intCast_neg, Rat.neg_mul, rnd_neg, Rat.intCast_natCast, key]

theorem rep_pow2 {K : Int} (hK : -1074 ≤ K) : Rep (pow2 K) :=
  ⟨1, K, by decide, hK, by simp⟩

theorem rep_one : Rep 1 := by
  have := rep_pow2 (K := 0) (by decide)
  rwa [pow2_zero] at this

theorem rep_intCast {i : Int} (h : i.natAbs ≤ 2 ^ 53) : Rep (i : Rat) := by
  by_cases h' : i.natAbs < 2 ^ 53
  · exact ⟨i, 0, h', by omega, by rw [pow2_zero, Rat.mul_one]⟩
  · have h2 : i = 2 ^ 53 ∨ i = -(2 ^ 53) := by omega
    rcases h2 with rfl | rfl
    · have := rep_pow2 (K := 53) (by omega); rw [pow2_53] at this; exact_mod_cast this
    · have := (rep_pow2 (K := 53) (by omega)).neg; rw [pow2_53] at this; exact_mod_cast this

theorem rep_rndPos {a : Rat} (ha : 0 < a) : Rep (rndPos a) := by
  have ua := (ulpE_bounds ha).1
  have hge := ulpE_ge a
  have hP := pow2_pos (ulpE a)
  have hle : roundHalfEven (a / pow2 (ulpE a)) ≤ 2 ^ 53 := by
    apply roundHalfEven_le
    rw [div_le_iff hP, ← pow2_53, ← pow2_add]
    exact Rat.le_of_lt ua
  unfold rndPos
  by_cases hlt : roundHalfEven (a / pow2 (ulpE a)) < 2 ^ 53
  · exact rep_natCast_mul hlt hge
  · have : roundHalfEven (a / pow2 (ulpE a)) = 2 ^ 53 := by omega
    rw [this, ← pow2_53, ← pow2_add]
    exact rep_pow2 (by omega)

theorem rep_rnd (q : Rat) : Rep (rnd q) := by
  by_cases h0 : q = 0
  · subst h0; rw [rnd_zero]; exact ⟨0, 0, by decide, by omega, by simp⟩
  · unfold rnd
    split
    · exact (rep_rndPos (by grind)).neg
    · exact rep_rndPos (by grind)

theorem rnd_idem (q : Rat) : rnd (rnd q) = rnd q := rnd_of_rep (rep_rnd q)

theorem rnd_le_of_le_rep {q v : Rat} (hv : Rep v) (h : q ≤ v) : rnd q ≤ v := by
  have := rnd_mono h; rwa [rnd_of_rep hv] at this

theorem le_rnd_of_rep_le {q v : Rat} (hv : Rep v) (h : v ≤ q) : v ≤ rnd q := by
  have := rnd_mono h; rwa [rnd_of_rep hv] at this

theorem rnd_abs_le_of_rep {q v : Rat} (hv : Rep v) (h : q.abs ≤ v) : (rnd q).abs ≤ v := by
  rw [abs_le_iff] at h ⊢
  exact ⟨le_rnd_of_rep_le hv.neg h.1, rnd_le_of_le_rep hv h.2⟩

/-- the largest finite double `(2^53 − 1) · 2^971` -/
def maxFin : Rat := ((2 ^ 53 - 1 : Nat) : Rat) * pow2 971

theorem rep_maxFin : Rep maxFin := rep_natCast_mul (by decide) (by decide)

theorem maxFin_lt : maxFin < pow2 1024 := natCast_mul_pow2_lt (by decide) 971

theorem pow2_le_maxFin {K : Int} (h : K ≤ 1023) : pow2 K ≤ maxFin := by
  refine Rat.le_trans (pow2_mono h) ?_
  unfold maxFin
  rw [show (1023 : Int) = 52 + 971 by decide, pow2_add, show pow2 52 = ((2 ^ 52 : Nat) : Rat) from pow2_natCast 52]
  exact Rat.mul_le_mul_of_nonneg_right (Rat.natCast_le_natCast.2 (by decide)) (Rat.le_of_lt (pow2_pos _))

theorem rnd_abs_lt_of_le_maxFin {q : Rat} (h : q.abs ≤ maxFin) : (rnd q).abs < pow2 1024 := by
  have := rnd_abs_le_of_rep rep_maxFin h
  have := maxFin_lt
  grind

theorem toRat_roundNE_of_le {q : Rat} (h : q.abs ≤ maxFin) : toRat (roundNE q) = rnd q :=
  toRat_roundNE (rnd_abs_lt_of_le_maxFin h)

theorem isFinite_roundNE_of_le {q : Rat} (h : q.abs ≤ maxFin) : isFinite (roundNE q) = true :=
  isFinite_roundNE (rnd_abs_lt_of_le_maxFin h)

theorem roundNE_fin {q : Rat} (h1 : pow2 (-1074) ≤ q.abs) (h2 : q.abs ≤ maxFin) :
    roundNE q = .fin (rnd q) := by
  have hr : pow2 (-1074) ≤ (rnd q).abs := by
    rw [rnd_abs]
    have := rnd_mono h1
    rwa [rnd_of_rep (rep_pow2 (by decide)), rnd_of_nonneg Rat.abs_nonneg] at this
  rcases roundNE_cases (rnd_abs_lt_of_le_maxFin h2) with ⟨h0, _⟩ | ⟨_, h⟩
  · rw [h0, Rat.abs_zero] at hr; have := pow2_pos (-1074); grind
  · exact h

theorem roundNE_finite_val {q : Rat} (h : q.abs ≤ maxFin) :
    ((∃ s, roundNE q = .zero s) ∨ roundNE q = .fin (rnd q)) ∧
    (toRat (roundNE q) - q).abs ≤ pow2 (ulpE q.abs) / 2 := by
  refine ⟨(roundNE_cases (rnd_abs_lt_of_le_maxFin h)).imp And.right And.right, ?_⟩
  rw [toRat_roundNE_of_le h]
  exact rnd_err q

theorem roundNE_err_rel {q : Rat} (h1 : pow2 (-1022) ≤ q.abs) (h2 : q.abs ≤ maxFin) :
    (toRat (roundNE q) - q).abs ≤ q.abs / pow2 53 := by
  rw [toRat_roundNE_of_le h2]; exact rnd_err_rel h1

theorem roundNE_err_gen {q : Rat} (h2 : q.abs ≤ maxFin) :
    (toRat (roundNE q) - q).abs ≤ q.abs / pow2 53 + pow2 (-1075) := by
  rw [toRat_roundNE_of_le h2]; exact rnd_err_gen q

theorem roundNE_mono {p q : Rat} (hp : p.abs ≤ maxFin) (hq : q.abs ≤ maxFin) (h : p ≤ q) :
    toRat (roundNE p) ≤ toRat (roundNE q) := by
  rw [toRat_roundNE_of_le hp, toRat_roundNE_of_le hq]; exact rnd_mono h

theorem roundNE_class (q : Rat) :
    (roundNE q = .inf false ∧ pow2 1024 ≤ rnd q ∧ 0 < q) ∨
    (roundNE q = .inf true ∧ rnd q ≤ -pow2 1024 ∧ q < 0) ∨
    (isFinite (roundNE q) = true ∧ toRat (roundNE q) = rnd q ∧ (rnd q).abs < pow2 1024) := by
  by_cases hfin : (rnd q).abs < pow2 1024
  · exact Or.inr (Or.inr ⟨isFinite_roundNE hfin, toRat_roundNE hfin, hfin⟩)
  · have hP := pow2_pos 1024
    have hq0 : q ≠ 0 := by intro h; subst h; rw [rnd_zero, Rat.abs_zero] at hfin; grind
    have hr0 : rnd q ≠ 0 := by intro h; rw [h, Rat.abs_zero] at hfin; grind
    have e := roundNE_eq q
    rw [if_neg hq0, if_neg hr0, if_pos (by grind)] at e
    by_cases hn : q < 0
    · right; left
      have := rnd_nonpos (Rat.le_of_lt hn)
      rw [Rat.abs_of_nonpos this] at hfin
      simp only [hn, decide_true] at e
      exact ⟨e, by grind, hn⟩
    · left
      have := rnd_nonneg (show 0 ≤ q by grind)
      rw [Rat.abs_of_nonneg this] at hfin
      simp only [hn, decide_false] at e
      exact ⟨e, by grind, by grind⟩

theorem roundNE_ne_nan (q : Rat) : roundNE q ≠ .nan := by
  rcases roundNE_class q with ⟨h, _⟩ | ⟨h, _⟩ | ⟨h, _⟩
  · rw [h]; exact F64.noConfusion
  · rw [h]; exact F64.noConfusion
  · intro hn; rw [hn] at h; exact Bool.noConfusion h

/-- sign preservation (any magnitude; `toRat` of an infinity is 0 by convention) -/
theorem roundNE_nonneg {q : Rat} (h : 0 ≤ q) : 0 ≤ toRat (roundNE q) := by
  rcases roundNE_class q with ⟨e, _⟩ | ⟨e, _⟩ | ⟨_, e, _⟩
  · rw [e]; exact Rat.le_refl
  · rw [e]; exact Rat.le_refl
  · rw [e]; exact rnd_nonneg h

theorem roundNE_nonpos {q : Rat} (h : q ≤ 0) : toRat (roundNE q) ≤ 0 := by
  rcases roundNE_class q with ⟨e, _⟩ | ⟨e, _⟩ | ⟨_, e, _⟩
  · rw [e]; exact Rat.le_refl
  · rw [e]; exact Rat.le_refl
  · rw [e]; exact rnd_nonpos h

theorem roundNE_of_rep {v : Rat} (hv : Rep v) (h0 : v ≠ 0) (h : v.abs < pow2 1024) :
    roundNE v = .fin v := by
  have e := rnd_of_rep hv
  rcases roundNE_cases (q := v) (by rw [e]; exact h) with ⟨h1, _⟩ | ⟨_, h1⟩
  · rw [e] at h1; exact absurd h1 h0
  · rw [e] at h1; exact h1

theorem roundNE_mul_pow2 {m : Int} {K : Int} (hm : m.natAbs < 2 ^ 53) (hK : -1074 ≤ K)
    (h0 : m ≠ 0) (h : ((m : Rat) * pow2 K).abs < pow2 1024) :
    roundNE ((m : Rat) * pow2 K) = .fin ((m : Rat) * pow2 K) := by
  refine roundNE_of_rep ⟨m, K, hm, hK, rfl⟩ ?_ h
  intro hz
  rcases Rat.mul_eq_zero.1 hz with h1 | h1
  · exact h0 (by exact_mod_cast h1)
  · exact pow2_ne_zero K h1

theorem WF_roundNE (q : Rat) : WF (roundNE q) := by
  rcases roundNE_class q with ⟨e, _⟩ | ⟨e, _⟩ | ⟨_, _, hlt⟩
  · rw [e]; trivial
  · rw [e]; trivial
  · rcases roundNE_cases hlt with ⟨_, s, e⟩ | ⟨h0, e⟩
    · rw [e]; trivial
    · rw [e]; exact ⟨h0, roundNE_of_rep (rep_rnd q) h0 hlt⟩

theorem roundNE_eq_fin {q m : Rat} (h : roundNE q = .fin m) : m = rnd q ∧ (rnd q).abs < pow2 1024 := by
  rcases roundNE_class q with ⟨e, _⟩ | ⟨e, _⟩ | ⟨_, e, hlt⟩
  · rw [e] at h; cases h
  · rw [e] at h; cases h
  · rw [h] at e; exact ⟨e, hlt⟩

theorem WF.rep {v : Rat} (h : WF (.fin v)) : Rep v ∧ v.abs < pow2 1024 ∧ v ≠ 0 := by
  obtain ⟨e, hlt⟩ := roundNE_eq_fin h.2
  have hr := rep_rnd v
  rw [← e] at hr hlt
  exact ⟨hr, hlt, h.1⟩

theorem WF_fin_iff {v : Rat} : WF (.fin v) ↔ Rep v ∧ v.abs < pow2 1024 ∧ v ≠ 0 :=
  ⟨WF.rep, fun ⟨h1, h2, h3⟩ => ⟨h3, roundNE_of_rep h1 h3 h2⟩⟩

/-- order class of a double: `-1`, `0`, `1` for `-Inf`, finite (or NaN), `+Inf`; the IEEE
    comparisons are "no NaN, then lexicographic in class and value" (`le_iff`, `lt_iff`) -/
def cls : F64 → Int
  | .inf true => -1
  | .inf false => 1
  | _ => 0

theorem le_iff (a b : F64) : le a b = true ↔
    a ≠ .nan ∧ b ≠ .nan ∧ (cls a < cls b ∨ (cls a = cls b ∧ toRat a ≤ toRat b)) := by
  rcases a with _ | (_ | _) | _ | _ <;> rcases b with _ | (_ | _) | _ | _ <;> simp [le, cls, toRat]
  all_goals exact decide_eq_true_iff

theorem lt_iff (a b : F64) : lt a b = true ↔
    a ≠ .nan ∧ b ≠ .nan ∧ (cls a < cls b ∨ (cls a = cls b ∧ toRat a < toRat b)) := by
  rcases a with _ | (_ | _) | _ | _ <;> rcases b with _ | (_ | _) | _ | _ <;> simp [lt, cls, toRat]
  all_goals exact decide_eq_true_iff

theorem le_trans' {a b c : F64} (h1 : le a b = true) (h2 : le b c = true) : le a c = true := by
  rw [le_iff] at *
  exact ⟨h1.1, h2.2.1, by grind⟩

theorem lt_of_lt_of_le' {a b c : F64} (h1 : lt a b = true) (h2 : le b c = true) :
    lt a c = true := by
  rw [lt_iff] at *
  rw [le_iff] at h2
  exact ⟨h1.1, h2.2.1, by grind⟩

theorem le_of_lt {a b : F64} (h : lt a b = true) : le a b = true := by
  rw [lt_iff] at h
  rw [le_iff]
  exact ⟨h.1, h.2.1, by grind⟩

theorem not_gt_eq_le {a b : F64} (ha : a ≠ .nan) (hb : b ≠ .nan) : (!(gt a b)) = le a b := by
  have h1 := lt_iff b a
  have h2 := le_iff a b
  unfold gt
  cases hl : lt b a <;> cases hr : le a b <;> rw [hl] at h1 <;> rw [hr] at h2 <;> grind

theorem le_iff_of_finite {a b : F64} (ha : isFinite a = true) (hb : isFinite b = true) :
    le a b = true ↔ toRat a ≤ toRat b := by
  cases a <;> cases b <;> simp_all [le, isFinite]

theorem lt_iff_of_finite {a b : F64} (ha : isFinite a = true) (hb : isFinite b = true) :
    lt a b = true ↔ toRat a < toRat b := by
  cases a <;> cases b <;> simp_all [lt, isFinite]

theorem beq_iff_of_finite {a b : F64} (ha : isFinite a = true) (hb : isFinite b = true) :
    beq a b = true ↔ toRat a = toRat b := by
  cases a <;> cases b <;> simp_all [beq, isFinite]

theorem gt_iff_of_finite {a b : F64} (ha : isFinite a = true) (hb : isFinite b = true) :
    gt a b = true ↔ toRat b < toRat a := lt_iff_of_finite hb ha

theorem ge_iff_of_finite {a b : F64} (ha : isFinite a = true) (hb : isFinite b = true) :
    ge a b = true ↔ toRat b ≤ toRat a := le_iff_of_finite hb ha

theorem le_fin_iff {p q : Rat} : le (.fin p) (.fin q) = true ↔ p ≤ q :=
  le_iff_of_finite (a := .fin p) (b := .fin q) rfl rfl

theorem lt_fin_iff {p q : Rat} : lt (.fin p) (.fin q) = true ↔ p < q :=
  lt_iff_of_finite (a := .fin p) (b := .fin q) rfl rfl

theorem gt_false_imp_le {a b : F64} (ha : a ≠ .nan) (hb : b ≠ .nan) (h : gt a b = false) :
    le a b = true := by
  rw [← not_gt_eq_le ha hb, h]; rfl

theorem gt_iff_of_nonneg (a : F64) {b : F64} (hb : isFinite b = true) (h0 : 0 ≤ toRat b) :
    gt a b = true ↔ a = .inf false ∨ ∃ q, a = .fin q ∧ toRat b < q := by
  unfold gt
  rw [lt_iff]
  rcases a with _ | (_ | _) | _ | _ <;> rcases b with _ | _ | _ | _ <;>
    simp_all [cls, toRat, isFinite] <;> grind

theorem lt_inf_false (b : F64) : lt (.inf false) b = false := by
  cases b <;> simp [lt]

/-- monotone in terms of the IEEE comparison, infinities included: no magnitude hypothesis -/
theorem le_roundNE_of_le {p q : Rat} (h : p ≤ q) : le (roundNE p) (roundNE q) = true := by
  have hm := rnd_mono h
  have hP := pow2_pos 1024
  rcases roundNE_class p with ⟨ep, bp, sp⟩ | ⟨ep, bp, sp⟩ | ⟨fp, ep, bp⟩ <;>
  rcases roundNE_class q with ⟨eq, bq, sq⟩ | ⟨eq, bq, sq⟩ | ⟨fq, eq, bq⟩
  · rw [ep, eq]; rfl
  · exfalso; grind
  · exfalso; rw [abs_lt_iff] at bq; grind
  · rw [ep, eq]; rfl
  · rw [ep, eq]; rfl
  · rw [ep]; cases hq : roundNE q <;> simp_all [le, isFinite]
  · rw [eq]; cases hp : roundNE p <;> simp_all [le, isFinite]
  · exfalso; rw [abs_lt_iff] at bp; grind
  · rw [le_iff_of_finite fp fq, ep, eq]; exact hm

theorem ofInt_zero : ofInt 0 = .zero false := roundNE_zero

theorem intCast_abs_le {x : Int} {n : Nat} (h : x.natAbs ≤ n) : (x : Rat).abs ≤ (n : Rat) := by
  rw [abs_le_iff, ← Rat.intCast_natCast, ← Rat.intCast_neg]
  exact ⟨Rat.intCast_le_intCast.2 (by omega), Rat.intCast_le_intCast.2 (by omega)⟩

theorem natAbs_le_of_abs_le {s : Int} {n : Nat} (h : (s : Rat).abs ≤ (n : Rat)) : s.natAbs ≤ n := by
  rw [abs_le_iff, ← Rat.intCast_natCast, ← Rat.intCast_neg] at h
  have := Rat.intCast_le_intCast.1 h.1
  have := Rat.intCast_le_intCast.1 h.2
  omega

theorem one_le_abs_intCast {x : Int} (h0 : x ≠ 0) : (1 : Rat) ≤ (x : Rat).abs := by
  rcases (show (1 : Int) ≤ x ∨ x ≤ (-1 : Int) by omega) with h | h
  · have := Rat.intCast_le_intCast.2 h
    rw [Rat.abs_of_nonneg (by grind)]; simpa using this
  · have := Rat.intCast_le_intCast.2 h
    rw [Rat.intCast_neg, Rat.intCast_one] at this
    rw [Rat.abs_of_nonpos (by grind)]; grind

theorem ofInt_exact {i : Int} (h0 : i ≠ 0) (h : i.natAbs ≤ 2 ^ 53) : ofInt i = .fin (i : Rat) := by
  unfold ofInt
  refine roundNE_of_rep (rep_intCast h) (by exact_mod_cast h0) ?_
  have h1 := intCast_abs_le h
  rw [← pow2_53] at h1
  have := pow2_strictMono (show (53 : Int) < 1024 by decide)
  grind

theorem toRat_ofInt_exact {i : Int} (h : i.natAbs ≤ 2 ^ 53) : toRat (ofInt i) = (i : Rat) := by
  by_cases h0 : i = 0
  · subst h0; rw [ofInt_zero]; rfl
  · rw [ofInt_exact h0 h]; rfl

theorem intCast_abs_le_maxFin {i : Int} (h : i.natAbs ≤ 2 ^ 63) : (i : Rat).abs ≤ maxFin := by
  have h1 := intCast_abs_le h
  rw [← pow2_natCast 63] at h1
  exact Rat.le_trans h1 (pow2_le_maxFin (by decide))

theorem toRat_ofInt {i : Int} (h : i.natAbs ≤ 2 ^ 63) : toRat (ofInt i) = rnd (i : Rat) :=
  toRat_roundNE_of_le (intCast_abs_le_maxFin h)

theorem isFinite_ofInt {i : Int} (h : i.natAbs ≤ 2 ^ 63) : isFinite (ofInt i) = true :=
  isFinite_roundNE_of_le (intCast_abs_le_maxFin h)

theorem isFinite_ofInt_exact {i : Int} (h : i.natAbs ≤ 2 ^ 53) : isFinite (ofInt i) = true :=
  isFinite_ofInt (by omega)

theorem ofInt_fin {i : Int} (h0 : i ≠ 0) (h : i.natAbs ≤ 2 ^ 63) : ofInt i = .fin (rnd (i : Rat)) := by
  exact roundNE_fin (Rat.le_trans (pow2_le_one (by decide)) (one_le_abs_intCast h0))
    (intCast_abs_le_maxFin h)

theorem ofInt_err {i : Int} (h : i.natAbs ≤ 2 ^ 63) :
    (toRat (ofInt i) - (i : Rat)).abs ≤ (i : Rat).abs / pow2 53 := by
  rw [toRat_ofInt h]
  by_cases h0 : i = 0
  · subst h0
    rw [Rat.intCast_zero, rnd_zero, Rat.sub_self, Rat.abs_zero, Rat.div_def, Rat.zero_mul]
    exact Rat.le_refl
  · exact rnd_err_rel (Rat.le_trans (pow2_le_one (by decide)) (one_le_abs_intCast h0))

theorem ofInt_mono {i j : Int} (h : i ≤ j) : le (ofInt i) (ofInt j) = true :=
  le_roundNE_of_le (Rat.intCast_le_intCast.2 h)

theorem toRat_ofInt_mono {i j : Int} (hi : i.natAbs ≤ 2 ^ 63) (hj : j.natAbs ≤ 2 ^ 63) (h : i ≤ j) :
    toRat (ofInt i) ≤ toRat (ofInt j) := by
  rw [toRat_ofInt hi, toRat_ofInt hj]; exact rnd_mono (Rat.intCast_le_intCast.2 h)

/-- truncation towards zero -/
def trunc (q : Rat) : Int := if q < 0 then -((-q).floor) else q.floor

theorem trunc_intCast (i : Int) : trunc (i : Rat) = i := by
  unfold trunc
  split
  · rw [← Rat.intCast_neg, Rat.floor_intCast]; omega
  · exact Rat.floor_intCast i

theorem trunc_of_nonneg {q : Rat} (h : 0 ≤ q) :
    0 ≤ trunc q ∧ (trunc q : Rat) ≤ q ∧ q < (trunc q : Rat) + 1 := by
  unfold trunc; rw [if_neg (by grind)]
  have h1 := Rat.floor_le q
  have h2 := Rat.lt_floor_add_one q
  rw [Rat.intCast_add] at h2
  exact ⟨Rat.le_floor_iff.2 (by simpa using h), h1, by simpa using h2⟩

theorem trunc_neg (q : Rat) : trunc (-q) = -trunc q := by
  unfold trunc
  by_cases h : q < 0
  · rw [if_pos h, if_neg (by grind), Int.neg_neg]
  · by_cases h0 : q = 0
    · subst h0; decide
    · rw [if_neg h, if_pos (by grind), Rat.neg_neg]

theorem trunc_of_nonpos {q : Rat} (h : q ≤ 0) :
    trunc q ≤ 0 ∧ q ≤ (trunc q : Rat) ∧ (trunc q : Rat) - 1 < q := by
  obtain ⟨h1, h2, h3⟩ := trunc_of_nonneg (show 0 ≤ -q by grind)
  rw [trunc_neg, Rat.intCast_neg] at h2 h3
  rw [trunc_neg] at h1
  exact ⟨by omega, by grind, by grind⟩

/-- truncation moves towards zero, so an integer bound on the far side of zero survives it -/
theorem trunc_le_of_lt {q : Rat} {n : Int} (hn : 0 ≤ n) (h : q < (n : Rat) + 1) : trunc q ≤ n := by
  by_cases hq : 0 ≤ q
  · have t := (trunc_of_nonneg hq).2.1
    have : ((trunc q : Int) : Rat) < ((n + 1 : Int) : Rat) := by
      rw [Rat.intCast_add, Rat.intCast_one]; grind
    have := Rat.intCast_lt_intCast.1 this
    omega
  · have := (trunc_of_nonpos (show q ≤ 0 by grind)).1
    omega

theorem le_trunc_of_lt {q : Rat} {n : Int} (hn : n ≤ 0) (h : (n : Rat) - 1 < q) : n ≤ trunc q := by
  have := trunc_le_of_lt (q := -q) (n := -n) (by omega) (by rw [Rat.intCast_neg]; grind)
  rw [trunc_neg] at this
  omega

theorem trunc_err (q : Rat) : ((trunc q : Rat) - q).abs < 1 := by
  rw [abs_lt_iff]
  by_cases h : 0 ≤ q
  · have := trunc_of_nonneg h; grind
  · have := trunc_of_nonpos (show q ≤ 0 by grind); grind

theorem trunc_mono {p q : Rat} (h : p ≤ q) : trunc p ≤ trunc q := by
  by_cases hp : 0 ≤ p
  · have hq : 0 ≤ q := by grind
    unfold trunc; rw [if_neg (by grind), if_neg (by grind)]
    exact Rat.floor_monotone h
  · by_cases hq : 0 ≤ q
    · have := trunc_of_nonpos (show p ≤ 0 by grind)
      have := trunc_of_nonneg hq
      omega
    · unfold trunc; rw [if_pos (by grind), if_pos (by grind)]
      exact Int.neg_le_neg (Rat.floor_monotone (show -q ≤ -p by grind))

theorem toInt64_eq_trunc {x : F64} (hf : isFinite x = true)
    (h1 : -(pow2 63) - 1 < toRat x) (h2 : toRat x < pow2 63) :
    toInt64 x = trunc (toRat x) := by
  cases x with
  | nan => exact Bool.noConfusion hf
  | inf _ => exact Bool.noConfusion hf
  | zero _ => exact (trunc_intCast 0).symm
  | fin q =>
    simp only [toRat] at h1 h2 ⊢
    rw [pow2_63_lit] at h1 h2
    have hhi : trunc q ≤ 9223372036854775807 :=
      trunc_le_of_lt (by decide) (by rw [Rat.intCast_ofNat]; grind)
    have hlo : -9223372036854775808 ≤ trunc q :=
      le_trunc_of_lt (by decide) (by rw [Rat.intCast_neg, Rat.intCast_ofNat]; grind)
    show (if trunc q < -9223372036854775808 ∨ trunc q > 9223372036854775807 then _ else trunc q) = _
    rw [if_neg (by omega)]

theorem isFinite_ceil (x : F64) : isFinite (ceil x) = isFinite x := by
  cases x with
  | fin q => simp only [ceil]; split <;> rfl
  | _ => rfl

theorem toRat_ite_int (c : Int) (s : Bool) :
    toRat (if c = 0 then .zero s else .fin (c : Rat)) = (c : Rat) := by
  split
  · rename_i h; rw [h]; rfl
  · rfl

theorem toRat_ceil {x : F64} (hf : isFinite x = true) : toRat (ceil x) = ((toRat x).ceil : Rat) := by
  cases x with
  | nan => exact Bool.noConfusion hf
  | inf _ => exact Bool.noConfusion hf
  | zero _ => exact (by decide : (0 : Rat) = ((Rat.ceil 0 : Int) : Rat))
  | fin q => exact toRat_ite_int _ _

theorem le_toRat_ceil {x : F64} (hf : isFinite x = true) : toRat x ≤ toRat (ceil x) := by
  rw [toRat_ceil hf]; exact Rat.le_ceil

theorem toRat_ceil_lt {x : F64} (hf : isFinite x = true) : toRat (ceil x) < toRat x + 1 := by
  rw [toRat_ceil hf]; exact Rat.ceil_lt

theorem isFinite_floor (x : F64) : isFinite (floor x) = isFinite x := by
  cases x with
  | fin q => simp only [floor]; split <;> rfl
  | _ => rfl

theorem toRat_floor {x : F64} (hf : isFinite x = true) : toRat (floor x) = ((toRat x).floor : Rat) := by
  cases x with
  | nan => exact Bool.noConfusion hf
  | inf _ => exact Bool.noConfusion hf
  | zero _ => exact (by decide : (0 : Rat) = ((Rat.floor 0 : Int) : Rat))
  | fin q => exact toRat_ite_int _ _

theorem toRat_abs (x : F64) : toRat (abs x) = (toRat x).abs := by
  cases x with
  | fin q => simp only [abs, toRat, Rat.abs]; split <;> grind
  | _ => simp [abs, toRat]

theorem isFinite_abs (x : F64) : isFinite (abs x) = isFinite x := by
  cases x <;> rfl

theorem WF_zero (s : Bool) : WF (.zero s) := trivial
theorem WF_ofInt (i : Int) : WF (ofInt i) := WF_roundNE _
theorem WF_ofConst (n : Int) (d : Nat) : WF (ofConst n d) := WF_roundNE _

theorem WF_neg {x : F64} (h : WF x) : WF (neg x) := by
  cases x with
  | fin q =>
    obtain ⟨hr, hlt, h0⟩ := WF.rep h
    exact WF_fin_iff.2 ⟨hr.neg, by rwa [Rat.abs_neg], by grind⟩
  | _ => trivial

theorem WF_abs {x : F64} (h : WF x) : WF (abs x) := by
  cases x with
  | fin q =>
    simp only [abs]; split
    · exact WF_neg (x := .fin q) h
    · exact h
  | _ => trivial

theorem roundNE_of_WF {q : Rat} (h : WF (.fin q)) : roundNE q = .fin q := h.2

theorem roundNE_neg_of_WF {q : Rat} (h : WF (.fin q)) : roundNE (-q) = .fin (-q) :=
  (WF_neg (x := .fin q) h).2

theorem rnd_of_WF {q : Rat} (h : WF (.fin q)) : rnd q = q := rnd_of_rep (WF.rep h).1

theorem WF_mul (a b : F64) : WF (mul a b) := by
  cases a <;> cases b <;> simp only [mul] <;> first | trivial | exact WF_roundNE _

theorem WF_div (a b : F64) : WF (div a b) := by
  cases a <;> cases b <;> simp only [div] <;> first | trivial | exact WF_roundNE _

theorem WF_add {a b : F64} (ha : WF a) (hb : WF b) : WF (add a b) := by
  cases a <;> cases b <;> simp only [add] <;>
    first | trivial | exact WF_roundNE _ | exact ha | exact hb | (split <;> trivial)

theorem WF_sub {a b : F64} (ha : WF a) (hb : WF b) : WF (sub a b) := WF_add ha (WF_neg hb)

theorem toRat_neg (x : F64) : toRat (neg x) = -(toRat x) := by
  cases x <;> simp [neg, toRat]

theorem isFinite_neg (x : F64) : isFinite (neg x) = isFinite x := by
  cases x <;> rfl

theorem toRat_mul {a b : F64} (fa : isFinite a = true) (fb : isFinite b = true)
    (h : (toRat a * toRat b).abs ≤ maxFin) :
    isFinite (mul a b) = true ∧ toRat (mul a b) = rnd (toRat a * toRat b) := by
  cases a <;> cases b <;> simp only [isFinite, Bool.false_eq_true] at fa fb <;>
    simp only [mul, toRat, Rat.zero_mul, Rat.mul_zero, rnd_zero] at h ⊢
  · exact ⟨rfl, trivial⟩
  · exact ⟨rfl, trivial⟩
  · exact ⟨rfl, trivial⟩
  · exact ⟨isFinite_roundNE_of_le h, toRat_roundNE_of_le h⟩

theorem toRat_div {a b : F64} (fa : isFinite a = true) (fb : isFinite b = true)
    (hb : toRat b ≠ 0) (h : (toRat a / toRat b).abs ≤ maxFin) :
    isFinite (div a b) = true ∧ toRat (div a b) = rnd (toRat a / toRat b) := by
  cases a <;> cases b <;> simp only [isFinite, Bool.false_eq_true] at fa fb <;>
    simp only [div, toRat, Rat.div_def, Rat.zero_mul, rnd_zero, ne_eq, not_true_eq_false] at h hb ⊢
  · exact ⟨rfl, trivial⟩
  · rw [← Rat.div_def] at h ⊢
    exact ⟨isFinite_roundNE_of_le h, toRat_roundNE_of_le h⟩

theorem toRat_add {a b : F64} (wa : WF a) (wb : WF b) (fa : isFinite a = true)
    (fb : isFinite b = true) (h : (toRat a + toRat b).abs ≤ maxFin) :
    isFinite (add a b) = true ∧ toRat (add a b) = rnd (toRat a + toRat b) := by
  cases a <;> cases b <;> simp only [isFinite, Bool.false_eq_true] at fa fb <;>
    simp only [add, toRat, Rat.zero_add, Rat.add_zero, rnd_zero] at h ⊢
  · exact ⟨rfl, trivial⟩
  · exact ⟨rfl, (rnd_of_WF wb).symm⟩
  · exact ⟨rfl, (rnd_of_WF wa).symm⟩
  · exact ⟨isFinite_roundNE_of_le h, toRat_roundNE_of_le h⟩

theorem toRat_sub {a b : F64} (wa : WF a) (wb : WF b) (fa : isFinite a = true)
    (fb : isFinite b = true) (h : (toRat a - toRat b).abs ≤ maxFin) :
    isFinite (sub a b) = true ∧ toRat (sub a b) = rnd (toRat a - toRat b) := by
  have := toRat_add wa (WF_neg wb) fa (by rw [isFinite_neg]; exact fb)
    (by rw [toRat_neg, ← Rat.sub_eq_add_neg]; exact h)
  rw [toRat_neg, ← Rat.sub_eq_add_neg] at this
  exact this

theorem mul_one_left {x : F64} (h : WF x) : mul (ofInt 1) x = x := by
  rw [ofInt_exact (by decide) (by decide)]
  cases x with
  | nan => rfl
  | inf b => simp only [mul, Rat.intCast_one, show decide ((1 : Rat) < 0) = false by decide]; cases b <;> rfl
  | zero b => simp only [mul, Rat.intCast_one, show decide ((1 : Rat) < 0) = false by decide]; cases b <;> rfl
  | fin q => simp only [mul, Rat.intCast_one, Rat.one_mul]; exact h.2

theorem mul_negone_left {x : F64} (h : WF x) : mul (ofInt (-1)) x = neg x := by
  rw [ofInt_exact (by decide) (by decide)]
  cases x with
  | nan => rfl
  | inf b =>
    simp only [mul, neg, Rat.intCast_neg, Rat.intCast_one]
    cases b <;> rfl
  | zero b =>
    simp only [mul, neg, Rat.intCast_neg, Rat.intCast_one]
    cases b <;> rfl
  | fin q =>
    simp only [mul, neg, Rat.intCast_neg, Rat.intCast_one, Rat.neg_mul, Rat.one_mul]
    exact roundNE_neg_of_WF h

theorem mul_mono_left {a b d : Rat} (hd : 0 ≤ d) (h : a ≤ b) :
    le (roundNE (a * d)) (roundNE (b * d)) = true :=
  le_roundNE_of_le (Rat.mul_le_mul_of_nonneg_right h hd)

theorem mul_eq_fin {a b : F64} {m : Rat} (h : mul a b = .fin m) :
    ∃ x y, a = .fin x ∧ b = .fin y ∧ F64.fin m = roundNE (x * y) := by
  cases a <;> cases b <;> simp [mul] at h
  exact ⟨_, _, rfl, rfl, h.symm⟩

theorem rep_int_or_small {v : Rat} (h : Rep v) :
    (∃ i : Int, v = (i : Rat)) ∨ (-(pow2 53) < v ∧ v < pow2 53) := by
  obtain ⟨m, K, hm, hK, rfl⟩ := h
  by_cases hk : 0 ≤ K
  · left
    obtain ⟨n, rfl⟩ := Int.eq_ofNat_of_zero_le hk
    refine ⟨m * ((2 ^ n : Nat) : Int), ?_⟩
    rw [pow2_natCast, Rat.intCast_mul, Rat.intCast_natCast]
  · right
    have h1 : pow2 K ≤ 1 := pow2_le_one (by omega)
    have hm' := intCast_abs_le (show m.natAbs ≤ 2 ^ 53 - 1 by omega)
    have : ((2 ^ 53 - 1 : Nat) : Rat) < pow2 53 := by rw [pow2_53]; exact Rat.natCast_lt_natCast.2 (by decide)
    have := Rat.mul_le_mul_of_nonneg_left h1 (@Rat.abs_nonneg m)
    rw [← abs_lt_iff, abs_mul_of_nonneg_right _ (Rat.le_of_lt (pow2_pos K))]
    grind

/-- an integer within 1 of a well-formed `q` (and equal to `q` if that is an integer) is
    well-formed: `q` is an integer itself or below `2^53`, where all integers are doubles -/
private theorem WF_ite_int {q : Rat} {c : Int} (s : Bool) (h : WF (.fin q))
    (hi : ∀ i : Int, q = (i : Rat) → c = i) (hl : (c : Rat) - 1 < q) (hu : q < (c : Rat) + 1) :
    WF (if c = 0 then .zero s else .fin (c : Rat)) := by
  by_cases hc : c = 0
  · rw [if_pos hc]; trivial
  · rw [if_neg hc]
    rcases rep_int_or_small (WF.rep h).1 with ⟨i, e⟩ | ⟨l, u⟩
    · rw [hi i e, ← e]; exact h
    · have h1 : ((c - 1 : Int) : Rat) < (((2 ^ 53 : Nat) : Int) : Rat) := by
        rw [Rat.intCast_sub, Rat.intCast_one, Rat.intCast_natCast, ← pow2_53]; grind
      have h2 : ((-((2 ^ 53 : Nat) : Int) : Int) : Rat) < ((c + 1 : Int) : Rat) := by
        rw [Rat.intCast_add, Rat.intCast_one, Rat.intCast_neg, Rat.intCast_natCast, ← pow2_53]; grind
      have h1' := Rat.intCast_lt_intCast.1 h1
      have h2' := Rat.intCast_lt_intCast.1 h2
      have w := WF_ofInt c
      rwa [ofInt_exact hc (by omega)] at w

theorem WF_ceil {x : F64} (h : WF x) : WF (ceil x) := by
  cases x with
  | fin q =>
    have a := @Rat.le_ceil q
    have b := @Rat.ceil_lt q
    exact WF_ite_int _ h (fun i e => by rw [e, Rat.ceil_intCast]) (by grind) (by grind)
  | _ => exact h

theorem WF_floor {x : F64} (h : WF x) : WF (floor x) := by
  cases x with
  | fin q =>
    have a := Rat.floor_le q
    have b := Rat.lt_floor_add_one q
    rw [Rat.intCast_add, Rat.intCast_one] at b
    exact WF_ite_int _ h (fun i e => by rw [e, Rat.floor_intCast]) (by grind) (by grind)
  | _ => exact h

theorem sqrtRat_arg_nonneg (n : Nat) (k : Int) : 0 ≤ (n : Rat) / pow2 k := by
  rw [le_div_iff (pow2_pos k), Rat.zero_mul]; exact Rat.natCast_nonneg

theorem sqrtRat_eq (q : Rat) : ∃ t : Rat, 0 ≤ t ∧ sqrtRat q = roundNE t := by
  unfold sqrtRat
  simp only []
  split <;> split <;> exact ⟨_, sqrtRat_arg_nonneg _ _, rfl⟩

theorem WF_sqrt {x : F64} (h : WF x) : WF (sqrt x) := by
  cases x with
  | nan => trivial
  | inf s => cases s <;> trivial
  | zero _ => trivial
  | fin q =>
    simp only [sqrt]; split
    · trivial
    · obtain ⟨t, _, e⟩ := sqrtRat_eq q; rw [e]; exact WF_roundNE t

/-- the square root is never negative (NaN and infinities read as 0) -/
theorem toRat_sqrt_nonneg (x : F64) : 0 ≤ toRat (sqrt x) := by
  cases x with
  | nan => exact Rat.le_refl
  | inf s => cases s <;> exact Rat.le_refl
  | zero _ => exact Rat.le_refl
  | fin q =>
    simp only [sqrt]; split
    · exact Rat.le_refl
    · obtain ⟨t, ht, e⟩ := sqrtRat_eq q; rw [e]; exact roundNE_nonneg ht

theorem sqrt_ne_nan {x : F64} (hf : isFinite x = true) (h0 : 0 ≤ toRat x) : sqrt x ≠ .nan := by
  cases x with
  | nan => exact Bool.noConfusion hf
  | inf _ => exact Bool.noConfusion hf
  | zero _ => exact F64.noConfusion
  | fin q =>
    simp only [sqrt]
    rw [toRat_fin] at h0
    rw [if_neg (by grind)]
    obtain ⟨t, _, e⟩ := sqrtRat_eq q; rw [e]; exact roundNE_ne_nan t

theorem sqrt_neg_eq_nan {q : Rat} (h : q < 0) : sqrt (.fin q) = .nan := by
  simp only [sqrt]; rw [if_pos h]

theorem WF_fin_mul_pow2 (sign : Bool) {k : Nat} {K : Int} (hk0 : 0 < k) (hk : k < 2 ^ 53)
    (hK : -1074 ≤ K) (hK' : K ≤ 971) :
    WF (.fin (if sign then -((k : Rat) * pow2 K) else (k : Rat) * pow2 K)) := by
  have hP := pow2_pos K
  have hkr : (0 : Rat) < (k : Rat) := Rat.natCast_pos.2 hk0
  have hpos : 0 < (k : Rat) * pow2 K := Rat.mul_pos hkr hP
  have hlt : (k : Rat) * pow2 K < pow2 1024 := by
    have := natCast_mul_pow2_lt hk K
    have := pow2_mono (show 53 + K ≤ 1024 by omega)
    grind
  have hw : WF (.fin ((k : Rat) * pow2 K)) :=
    WF_fin_iff.2 ⟨rep_natCast_mul hk hK, by rw [Rat.abs_of_nonneg (Rat.le_of_lt hpos)]; exact hlt,
      by grind⟩
  cases sign
  · exact hw
  · exact WF_neg (x := .fin _) hw

theorem WF_ofBits (b : Nat) : WF (ofBits b) := by
  have hf := Nat.mod_lt b (show 0 < 2 ^ 52 by decide)
  have he := Nat.mod_lt (b / 2 ^ 52) (show 0 < 2 ^ 11 by decide)
  unfold ofBits
  simp only []
  generalize b / 2 ^ 52 % 2 ^ 11 = ex at *
  generalize b % 2 ^ 52 = frac at *
  by_cases h1 : ex = 2047
  · rw [if_pos h1]; split <;> trivial
  · rw [if_neg h1]
    by_cases h2 : ex = 0
    · rw [if_pos h2]
      by_cases h3 : frac = 0
      · rw [if_pos h3]; trivial
      · rw [if_neg h3]
        exact WF_fin_mul_pow2 _ (by omega) (by omega) (by decide) (by decide)
    · rw [if_neg h2]
      exact WF_fin_mul_pow2 _ (by omega) (by omega) (by omega) (by omega)

theorem tdiv_tmod_facts (d : Int) :
    d = Int.tdiv d 1000000000 * 1000000000 + Int.tmod d 1000000000 ∧
    (0 ≤ d → 0 ≤ Int.tmod d 1000000000 ∧ Int.tmod d 1000000000 ≤ d) ∧
    (d ≤ 0 → d ≤ Int.tmod d 1000000000 ∧ Int.tmod d 1000000000 ≤ 0) ∧
    (Int.tmod d 1000000000).natAbs < 1000000000 := by
  by_cases h : 0 ≤ d
  · rw [Int.tdiv_eq_ediv_of_nonneg h, Int.tmod_eq_emod_of_nonneg h]
    omega
  · have h' : 0 ≤ -d := by omega
    have e1 : Int.tdiv d 1000000000 = -((-d) / 1000000000) := by
      rw [← Int.tdiv_eq_ediv_of_nonneg h', Int.neg_tdiv]; omega
    have e2 : Int.tmod d 1000000000 = -((-d) % 1000000000) := by
      rw [← Int.tmod_eq_emod_of_nonneg h', Int.neg_tmod]; omega
    rw [e1, e2]
    omega

theorem ofInt_1e9 : ofInt 1000000000 = .fin 1000000000 := by
  rw [ofInt_exact (by decide) (by decide)]; simp

theorem rnd_frac_bounds {ns : Int} (h : ns.natAbs < 1000000000) :
    -1 ≤ rnd ((ns : Rat) / 1000000000) ∧ rnd ((ns : Rat) / 1000000000) ≤ 1 ∧
    (0 ≤ ns → 0 ≤ rnd ((ns : Rat) / 1000000000)) ∧ (ns ≤ 0 → rnd ((ns : Rat) / 1000000000) ≤ 0) := by
  have hb := intCast_abs_le (Nat.le_of_lt h)
  rw [Rat.natCast_ofNat, abs_le_iff] at hb
  refine ⟨le_rnd_of_rep_le rep_one.neg (by grind), rnd_le_of_le_rep rep_one (by grind),
    fun h0 => rnd_nonneg ?_, fun h0 => rnd_nonpos ?_⟩
  · have := Rat.intCast_nonneg.2 h0; grind
  · have := Rat.intCast_nonpos.2 h0; grind

/-- the value `Seconds()` computes, as a rational: both roundings explicit -/
def secondsVal (d : Int) : Rat :=
  rnd (((Int.tdiv d 1000000000 : Int) : Rat) + rnd (((Int.tmod d 1000000000 : Int) : Rat) / 1000000000))

theorem durationSeconds_val {d : Int} (hd : d.natAbs ≤ 2 ^ 63) :
    isFinite (durationSeconds d) = true ∧ WF (durationSeconds d) ∧
    toRat (durationSeconds d) = secondsVal d := by
  obtain ⟨hsplit, _, _, hns⟩ := tdiv_tmod_facts d
  unfold durationSeconds secondsVal
  generalize Int.tdiv d 1000000000 = sec at *
  generalize Int.tmod d 1000000000 = ns at *
  have hsec : sec.natAbs ≤ 9223372037 := by omega
  have hmax : (9223372038 : Rat) ≤ maxFin := by
    refine Rat.le_trans ?_ (pow2_le_maxFin (K := 34) (by decide))
    rw [show pow2 34 = 17179869184 by decide]; grind
  have bs := intCast_abs_le hsec
  have bn := intCast_abs_le (Nat.le_of_lt hns)
  rw [Rat.natCast_ofNat, abs_le_iff] at bs bn
  obtain ⟨f1, f2, _, _⟩ := rnd_frac_bounds hns
  have es := toRat_ofInt_exact (i := sec) (by omega)
  have en := toRat_ofInt_exact (i := ns) (by omega)
  rw [ofInt_1e9]
  obtain ⟨fQ, vQ⟩ := toRat_div (isFinite_ofInt_exact (i := ns) (by omega)) (b := .fin 1000000000) rfl
    (by rw [toRat_fin]; decide)
    (by rw [en, toRat_fin]; exact Rat.le_trans (abs_le_iff.2 (by grind)) hmax)
  rw [en, toRat_fin] at vQ
  obtain ⟨fS, vS⟩ := toRat_add (WF_ofInt sec) (WF_div _ _) (isFinite_ofInt_exact (by omega)) fQ
    (by rw [es, vQ]; exact Rat.le_trans (abs_le_iff.2 (by grind)) hmax)
  rw [es, vQ] at vS
  exact ⟨fS, WF_add (WF_ofInt sec) (WF_div _ _), vS⟩

theorem secondsVal_mono {d₁ d₂ : Int} (h : d₁ ≤ d₂) : secondsVal d₁ ≤ secondsVal d₂ := by
  obtain ⟨hs1, hp1, hn1, hb1⟩ := tdiv_tmod_facts d₁
  obtain ⟨hs2, hp2, hn2, hb2⟩ := tdiv_tmod_facts d₂
  unfold secondsVal
  generalize Int.tdiv d₁ 1000000000 = s1 at *
  generalize Int.tmod d₁ 1000000000 = n1 at *
  generalize Int.tdiv d₂ 1000000000 = s2 at *
  generalize Int.tmod d₂ 1000000000 = n2 at *
  apply rnd_mono
  obtain ⟨_, u1, _, np1⟩ := rnd_frac_bounds hb1
  obtain ⟨l2, _, nn2, _⟩ := rnd_frac_bounds hb2
  -- same second, or the next whole second lies between the two values
  have hint : (s1 = s2 ∧ n1 ≤ n2) ∨ (s1 + 1 ≤ s2 ∧ (n1 ≤ 0 ∨ 0 ≤ n2)) := by omega
  clear hs1 hs2 hp1 hp2 hn1 hn2 hb1 hb2 h
  rcases hint with ⟨rfl, hn⟩ | ⟨hlt, hsg⟩
  · have := rnd_mono (div_le_div_right (c := 1000000000) (by grind) (Rat.intCast_le_intCast.2 hn))
    grind
  · have hc : ((s1 + 1 : Int) : Rat) ≤ (s2 : Rat) := Rat.intCast_le_intCast.2 hlt
    rw [Rat.intCast_add, Rat.intCast_one] at hc
    rcases hsg with h | h
    · have := np1 h; grind
    · have := nn2 h; grind

theorem durationSeconds_mono {d₁ d₂ : Int} (h1 : d₁.natAbs ≤ 2 ^ 63) (h2 : d₂.natAbs ≤ 2 ^ 63)
    (h : d₁ ≤ d₂) : toRat (durationSeconds d₁) ≤ toRat (durationSeconds d₂) := by
  rw [(durationSeconds_val h1).2.2, (durationSeconds_val h2).2.2]; exact secondsVal_mono h

theorem secondsVal_whole {k : Int} (hk : k.natAbs ≤ 2 ^ 53) : secondsVal (k * 1000000000) = (k : Rat) := by
  unfold secondsVal
  have h1 : Int.tdiv (k * 1000000000) 1000000000 = k := Int.mul_tdiv_cancel _ (by decide)
  have h2 : Int.tmod (k * 1000000000) 1000000000 = 0 := Int.mul_tmod_left _ _
  rw [h1, h2, Rat.intCast_zero, Rat.div_def, Rat.zero_mul, rnd_zero, Rat.add_zero]
  exact rnd_of_rep (rep_intCast hk)

theorem secondsVal_zero : secondsVal 0 = 0 := by
  have := secondsVal_whole (k := 0) (by decide)
  simpa using this

theorem secondsVal_nonneg {d : Int} (h : 0 ≤ d) : 0 ≤ secondsVal d := by
  have := secondsVal_mono h
  rwa [secondsVal_zero] at this

theorem secondsVal_nonpos {d : Int} (h : d ≤ 0) : secondsVal d ≤ 0 := by
  have := secondsVal_mono h
  rwa [secondsVal_zero] at this

theorem secondsVal_neg (d : Int) : secondsVal (-d) = -(secondsVal d) := by
  unfold secondsVal
  rw [Int.neg_tdiv, Int.neg_tmod, Rat.intCast_neg, Rat.intCast_neg, Rat.div_def, Rat.neg_mul,
    ← Rat.div_def, rnd_neg, ← Rat.neg_add, rnd_neg]

private theorem secondsVal_err_nonneg {d : Int} (h0 : 0 ≤ d) :
    (secondsVal d - (d : Rat) / 1000000000).abs ≤
      ((d : Rat) / 1000000000).abs * (3 / 9007199254740992) + 3 * pow2 (-1075) := by
  obtain ⟨hsplit, hpos, _, _⟩ := tdiv_tmod_facts d
  obtain ⟨hn0, hnd⟩ := hpos h0
  unfold secondsVal
  generalize Int.tdiv d 1000000000 = sec at *
  generalize Int.tmod d 1000000000 = ns at *
  have hD : (d : Rat) / 1000000000 = (sec : Rat) + (ns : Rat) / 1000000000 := by
    have : (d : Rat) = ((sec * 1000000000 + ns : Int) : Rat) := by rw [← hsplit]
    rw [this, Rat.intCast_add, Rat.intCast_mul]; simp only [Rat.intCast_ofNat]; grind
  have a : (0 : Rat) ≤ (ns : Rat) / 1000000000 := by
    have := Rat.intCast_nonneg.2 hn0; grind
  have b : (ns : Rat) / 1000000000 ≤ (d : Rat) / 1000000000 := by
    have := Rat.intCast_le_intCast.2 hnd; grind
  have hη := Rat.le_of_lt (pow2_pos (-1075))
  rw [hD] at b ⊢
  clear hD hsplit hpos hn0 hnd
  generalize (ns : Rat) / 1000000000 = n at *
  rw [Rat.abs_of_nonneg (show 0 ≤ (sec : Rat) + n by grind)]
  -- the sub-second part, then the sum, each with the magnitude bounded by the exact value
  have e1 := rnd_err_le (q := n) (B := n) (by rw [Rat.abs_of_nonneg (by grind)]; exact Rat.le_refl)
  rw [abs_le_iff] at e1
  have e2 := rnd_err_le (q := (sec : Rat) + rnd n)
    (B := (sec : Rat) + n + (n / 9007199254740992 + pow2 (-1075))) (abs_le_iff.2 (by grind))
  rw [abs_le_iff] at e2
  exact abs_le_iff.2 (by grind)

/-- error of `Seconds()`: two roundings, relative `3·2^-53` (plus the underflow slack) -/
theorem secondsVal_err (d : Int) :
    (secondsVal d - (d : Rat) / 1000000000).abs ≤
      ((d : Rat) / 1000000000).abs * (3 / 9007199254740992) + 3 * pow2 (-1075) := by
  rcases Int.le_total 0 d with h0 | h0
  · exact secondsVal_err_nonneg h0
  · have h := secondsVal_err_nonneg (d := -d) (by omega)
    rwa [secondsVal_neg, Rat.intCast_neg,
      show -secondsVal d - -(d : Rat) / 1000000000 = -(secondsVal d - (d : Rat) / 1000000000) by grind,
      show -(d : Rat) / 1000000000 = -((d : Rat) / 1000000000) by grind, Rat.abs_neg, Rat.abs_neg] at h

theorem secondsVal_abs_le {d : Int} (hd : d.natAbs ≤ 2 ^ 63) : (secondsVal d).abs ≤ 9223372037 := by
  have h1 := secondsVal_mono (d₁ := d) (d₂ := 9223372037 * 1000000000) (by omega)
  have h2 := secondsVal_mono (d₁ := -9223372037 * 1000000000) (d₂ := d) (by omega)
  rw [secondsVal_whole (by decide)] at h1 h2
  simp only [Rat.intCast_neg, Rat.intCast_ofNat] at h1 h2
  exact abs_le_iff.2 ⟨h2, h1⟩

/-- the largest double below `2^63` -/
theorem rep_maxInt64F : Rep 9223372036854774784 := by
  have := rep_natCast_mul (k := 2 ^ 53 - 1) (K := 10) (by decide) (by decide)
  rw [show pow2 10 = 1024 by decide] at this
  have e : ((2 ^ 53 - 1 : Nat) : Rat) * 1024 = 9223372036854774784 := by
    simp only [Nat.reducePow, Nat.reduceSub, Rat.natCast_ofNat]; grind
  rwa [e] at this

theorem maxInt64F_le_maxFin : (9223372036854774784 : Rat) ≤ maxFin := by
  refine Rat.le_trans ?_ (pow2_le_maxFin (K := 63) (by decide))
  rw [pow2_63_lit]; grind

/-- `int64(a * b)` for finite factors whose product fits int64 (magnitude at most the largest
    double below `2^63`): the truncation of the rounded product -/
theorem toInt64_mul {a b : F64} (fa : isFinite a = true) (fb : isFinite b = true)
    (h : (toRat a * toRat b).abs ≤ 9223372036854774784) :
    toInt64 (mul a b) = trunc (rnd (toRat a * toRat b)) := by
  obtain ⟨f, v⟩ := toRat_mul fa fb (Rat.le_trans h maxInt64F_le_maxFin)
  have hb := rnd_abs_le_of_rep rep_maxInt64F h
  rw [abs_le_iff] at hb
  rw [toInt64_eq_trunc f (by rw [v, pow2_63_lit]; grind) (by rw [v, pow2_63_lit]; grind), v]

theorem toDuration_val {s : F64} (hs : isFinite s = true)
    (h : (toRat s * 1000000000).abs ≤ 9223372036854774784) :
    toDuration s = trunc (rnd (toRat s * 1000000000)) := by
  unfold toDuration
  rw [ofInt_1e9]
  exact toInt64_mul hs rfl h

/-! Clamp-then-convert, a parts-per-million slew bound.
The PLL clamps `p` to `[d * -500e-6, d * 500e-6]` (`d = math.Ceil(dt)`, an integer number of
seconds) and hands `timemath.Duration(p)` to the clock: the slew is at most 500 µs per second,
in integer nanoseconds, with no rounding slack — for `d ≤ 6·10^9` s. -/

/-- the double nearest to `500e-6` -/
def c500ppm : Rat := rnd (1 / 2000)

theorem c500ppm_bounds :
    1 / 2000 - 1 / 2000 / 9007199254740992 ≤ c500ppm ∧ c500ppm ≤ 1 / 2000 + 1 / 2000 / 9007199254740992 := by
  have h : pow2 (-1022) ≤ ((1 : Rat) / 2000).abs := by
    rw [Rat.abs_of_nonneg (by grind)]
    refine Rat.le_trans (pow2_mono (show (-1022 : Int) ≤ -11 by decide)) ?_
    rw [show pow2 (-11) = 1 / 2048 by rw [pow2_neg]; congr 1]; grind
  have e := rnd_err_rel h
  rw [Rat.abs_of_nonneg (show (0 : Rat) ≤ 1 / 2000 by grind), pow2_53_lit,
    abs_le_iff] at e
  unfold c500ppm; grind

theorem ofConst_500ppm : toRat (ofConst 500 1000000) = c500ppm := by
  unfold ofConst c500ppm
  have e : ((500 : Int) : Rat) / ((1000000 : Nat) : Rat) = 1 / 2000 := by
    simp only [Rat.intCast_ofNat, Rat.natCast_ofNat]; grind
  rw [e]
  refine toRat_roundNE_of_le (Rat.le_trans ?_ (pow2_le_maxFin (K := 0) (by decide)))
  rw [pow2_zero, abs_le_iff]; grind

private theorem slew_arith {d x r1 r2 η : Rat} (hd : d ≤ 6000000000)
    (hη : η ≤ 1 / 1152921504606846976)
    (hx : x ≤ d * (1 / 2000 + 1 / 2000 / 9007199254740992))
    (e1 : r1 - x ≤ x / 9007199254740992 + η)
    (e2 : r2 - r1 * 1000000000 ≤ r1 * 1000000000 / 9007199254740992 + η) :
    r2 < 500000 * d + 1 := by
  grind

theorem slew_upper {d : Rat} (hd0 : 0 ≤ d) (hd : d ≤ 6000000000) :
    rnd (rnd (d * c500ppm) * 1000000000) < 500000 * d + 1 := by
  obtain ⟨cl, cu⟩ := c500ppm_bounds
  have hc0 : 0 ≤ c500ppm := by grind
  have hx0 : 0 ≤ d * c500ppm := Rat.mul_nonneg hd0 hc0
  have hx : d * c500ppm ≤ d * (1 / 2000 + 1 / 2000 / 9007199254740992) :=
    Rat.mul_le_mul_of_nonneg_left cu hd0
  have h1 : 0 ≤ rnd (d * c500ppm) := rnd_nonneg hx0
  have e1 := rnd_err_gen (d * c500ppm)
  have e2 := rnd_err_gen (rnd (d * c500ppm) * 1000000000)
  rw [pow2_53_lit, abs_le_iff,
    Rat.abs_of_nonneg hx0] at e1
  rw [pow2_53_lit, abs_le_iff,
    Rat.abs_of_nonneg (show 0 ≤ rnd (d * c500ppm) * 1000000000 by grind)] at e2
  have hη : pow2 (-1075) ≤ 1 / 1152921504606846976 := by
    rw [show (1 : Rat) / 1152921504606846976 = pow2 (-60) by rw [pow2_neg]; congr 1]
    exact pow2_mono (by decide)
  exact slew_arith hd hη hx e1.2 e2.2

/-- PLL slew bound: if `p` lies between the two clamp values `∓rnd (d·c)` for an integer
    number of seconds `0 ≤ k ≤ 6·10^9` (`d = k`), then `timemath.Duration(p)` — the truncation of
    `rnd (p·10^9)` — is at most `500000·k` ns in magnitude: 500 ppm, exactly. -/
theorem ppm_slew_bound {k : Int} (hk0 : 0 ≤ k) (hk : k ≤ 6000000000) {p : Rat}
    (hp1 : -(rnd ((k : Rat) * c500ppm)) ≤ p) (hp2 : p ≤ rnd ((k : Rat) * c500ppm)) :
    -(500000 * k) ≤ trunc (rnd (p * 1000000000)) ∧ trunc (rnd (p * 1000000000)) ≤ 500000 * k := by
  have hd0 : (0 : Rat) ≤ (k : Rat) := Rat.intCast_nonneg.2 hk0
  have hd : (k : Rat) ≤ 6000000000 := by
    have : (k : Rat) ≤ ((6000000000 : Int) : Rat) := Rat.intCast_le_intCast.2 hk
    simpa using this
  have hu := slew_upper hd0 hd
  generalize rnd ((k : Rat) * c500ppm) = r1 at *
  -- one side: anything below the clamp value converts to at most `500000·k`
  have up : ∀ p : Rat, p ≤ r1 → trunc (rnd (p * 1000000000)) ≤ 500000 * k := by
    intro p hp
    have m := trunc_mono (rnd_mono (show p * 1000000000 ≤ r1 * 1000000000 by grind))
    have : trunc (rnd (r1 * 1000000000)) ≤ 500000 * k :=
      trunc_le_of_lt (by omega) (by rw [Rat.intCast_mul, Rat.intCast_ofNat]; exact hu)
    omega
  -- the other side by symmetry: rounding and truncation are odd
  have lo := up (-p) (by grind)
  rw [Rat.neg_mul, rnd_neg, trunc_neg] at lo
  exact ⟨by omega, up p hp2⟩

theorem bits_decomp (s E r : Nat) (hs : s ≤ 1) (hE : E < 2048) (hr : r < 4503599627370496) :
    (s * 9223372036854775808 + E * 4503599627370496 + r) / 9223372036854775808 % 2 = s ∧
    (s * 9223372036854775808 + E * 4503599627370496 + r) / 4503599627370496 % 2048 = E ∧
    (s * 9223372036854775808 + E * 4503599627370496 + r) % 4503599627370496 = r := by
  generalize hb : s * 9223372036854775808 + E * 4503599627370496 + r = b
  have q1 : b / 9223372036854775808 = s := by omega
  have q2 : b / 4503599627370496 = s * 2048 + E := by omega
  refine ⟨by omega, by omega, by omega⟩

theorem ofBits_parts (sg : Bool) (E r : Nat) (hE : E < 2048) (hr : r < 2 ^ 52) :
    ofBits ((if sg then 2 ^ 63 else 0) + E * 2 ^ 52 + r) =
      if E = 2047 then (if r = 0 then .inf sg else .nan)
      else if E = 0 then
        (if r = 0 then .zero sg
         else .fin (if sg then -((r : Rat) * pow2 (-1074)) else (r : Rat) * pow2 (-1074)))
      else .fin (if sg then -(((2 ^ 52 + r : Nat) : Rat) * pow2 ((E : Int) - 1075))
                 else ((2 ^ 52 + r : Nat) : Rat) * pow2 ((E : Int) - 1075)) := by
  unfold ofBits minExp
  simp only [Nat.reducePow] at hr ⊢
  cases sg
  · obtain ⟨a, b, c⟩ := bits_decomp 0 E r (by omega) hE hr
    simp only [Nat.zero_mul] at a b c
    simp only [Bool.false_eq_true, if_false, a, b, c]
    simp
  · obtain ⟨a, b, c⟩ := bits_decomp 1 E r (by omega) hE hr
    simp only [Nat.one_mul] at a b c
    simp only [if_true, a, b, c]
    simp

/-- the fields of a well-formed finite value: mantissa `m`, exponent `e`, `|q| = m·2^e` -/
theorem WF_fin_fields {q : Rat} (h : WF (.fin q)) :
    let a : Rat := if decide (q < 0) = true then -q else q
    let e := ulpExp a.num.natAbs a.den
    let m := (a / pow2 e).floor.toNat
    (m : Rat) * pow2 e = a ∧ 1 ≤ m ∧ m < 2 ^ 53 ∧ (2 ^ 52 ≤ m ∨ e = -1074) ∧ -1074 ≤ e ∧ e ≤ 971 := by
  obtain ⟨hr, hlt, h0⟩ := WF.rep h
  intro a e m
  have ha_abs : a = q.abs := by
    show (if decide (q < 0) = true then -q else q) = q.abs
    simp only [decide_eq_true_eq, Rat.abs]
    split <;> split <;> grind
  have ha : 0 < a := by rw [ha_abs]; exact Rat.abs_pos_iff.2 h0
  have hP := pow2_pos e
  obtain ⟨ua, la⟩ : a < pow2 (53 + e) ∧ (pow2 (52 + e) ≤ a ∨ e = -1074) := ulpE_bounds ha
  have hge : -1074 ≤ e := ulpE_ge a
  -- `a` is a fixed point of the rounding, so `a / 2^e` is the natural number the rounding chooses
  have hfix : ((roundHalfEven (a / pow2 e) : Nat) : Rat) * pow2 e = a := by
    show rndPos a = a
    rw [ha_abs, ← rnd_abs, rnd_of_rep hr]
  generalize roundHalfEven (a / pow2 e) = k at hfix
  have hmul : (m : Rat) * pow2 e = a := by
    have hm : m = k := by
      show (a / pow2 e).floor.toNat = k
      rw [← hfix, Rat.mul_div_cancel (pow2_ne_zero e), ← Rat.intCast_natCast, Rat.floor_intCast,
        Int.toNat_natCast]
    rw [hm, hfix]
  have hle : e ≤ 971 := by
    rcases la with l | l
    · have : 52 + e < 1024 := pow2_lt_iff.1 (by grind)
      omega
    · omega
  rw [← hmul, pow2_add, pow2_53] at ua
  have hm53 : m < 2 ^ 53 := Rat.natCast_lt_natCast.1 (Rat.lt_of_mul_lt_mul_right ua (Rat.le_of_lt hP))
  have hm1 : 1 ≤ m := by
    rcases Nat.eq_zero_or_pos m with hz | hp
    · rw [hz] at hmul; simp at hmul; grind
    · exact hp
  refine ⟨hmul, hm1, hm53, ?_, hge, hle⟩
  rcases la with l | l
  · rw [← hmul, pow2_add, show pow2 52 = ((2 ^ 52 : Nat) : Rat) from pow2_natCast 52] at l
    exact Or.inl (Rat.natCast_le_natCast.1 (Rat.le_of_mul_le_mul_right l hP))
  · exact Or.inr l

/-- the line protocol loses nothing: decoding the encoding of a well-formed value gives it
    back (every NaN is the canonical one) -/
theorem ofBits_toBits {x : F64} (h : WF x) : ofBits (toBits x) = x := by
  cases x with
  | nan => decide
  | inf n => cases n <;> decide
  | zero n => cases n <;> decide
  | fin q =>
    obtain ⟨hmul, hm1, hm53, hnorm, hge, hle⟩ := WF_fin_fields h
    unfold toBits
    simp only []
    generalize hsg : decide (q < 0) = sg at *
    generalize ha : (if sg = true then -q else q) = a at *
    generalize he : ulpExp a.num.natAbs a.den = e at *
    generalize hmm : (a / pow2 e).floor.toNat = m at *
    have hq : q = if sg = true then -a else a := by
      rw [← ha]; cases sg <;> simp
    by_cases hsm : m < 2 ^ 52
    · rw [if_pos hsm]
      have he' : e = -1074 := by rcases hnorm with h' | h'; omega; exact h'
      have := ofBits_parts sg 0 m (by decide) hsm
      simp only [Nat.zero_mul, Nat.add_zero] at this
      rw [this]
      simp only [if_true, if_neg (show ¬ m = 0 by omega)]
      rw [hq, ← hmul, he', if_neg (by decide)]
    · rw [if_neg hsm]
      obtain ⟨E, hE⟩ := Int.eq_ofNat_of_zero_le (show 0 ≤ e + 1075 by omega)
      have hEn : (e + 1075).toNat = E := by omega
      rw [hEn]
      have := ofBits_parts sg E (m - 2 ^ 52) (by omega) (by omega)
      rw [Nat.add_assoc] at this ⊢
      rw [this, if_neg (by omega), if_neg (by omega), hq, ← hmul,
        show 2 ^ 52 + (m - 2 ^ 52) = m by omega, show (E : Int) - 1075 = e by omega]

end ScionTime.F64
