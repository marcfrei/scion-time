/-
  Lemmas about the socket layer of Model/ListenerTx.lean (error queue, kernel counter, the
  listener's `txid`). Its composition with the timestamp store is in Props/C06Tx.
-/
import ScionTime.Model.ListenerTx
import ScionTime.Proofs.ServerReply
namespace ScionTime.ListenerTx
open ScionTime.Server ScionTime.Time64

theorem readTX_spec (k : Kernel) :
    (∃ id t, k = stampMsg id t) ∨ readTX k = .panic ∨ ∃ e, e ≠ .none ∧ readTX k = .ret zeroTime 0 e := by
  cases k with
  | connErr e => exact .inr (.inr ⟨.sys e, nofun, rfl⟩)
  | sys p r =>
    cases p with
    | err e => exact .inr (.inr ⟨.sys e, nofun, rfl⟩)
    | ready n =>
      by_cases hn : n = pollFdsLen
      · cases r with
        | err e => exact .inr (.inr ⟨.sys e, nofun, by simp [readTX, hn]⟩)
        | msg m fl src c =>
          by_cases hm : m = 0
          · by_cases hf : fl = msgErrqueue
            · cases src with
              | true => exact .inr (.inr ⟨.unexpectedData, nofun, by simp [readTX, hn, hm, hf]⟩)
              | false =>
                cases c with
                | malformed => exact .inr (.inr ⟨.unexpectedData, nofun, by simp [readTX, hn, hm, hf]⟩)
                | panics => exact .inr (.inl (by simp [readTX, hn, hm, hf]))
                | fields ts i =>
                  cases ts <;> cases i <;> simp [readTX, stampMsg, pollFdsLen, hn, hm, hf]
            · exact .inr (.inr ⟨.unexpectedData, nofun, by simp [readTX, hn, hm, hf]⟩)
          · exact .inr (.inr ⟨.unexpectedData, nofun, by simp [readTX, hn, hm]⟩)
      · exact .inr (.inr ⟨.notFound, nofun, by simp [readTX, hn]⟩)

theorem readTX_stampMsg (id : Nat) (t : Int) : readTX (stampMsg id t) = .ret t id .none := by
  simp [readTX, stampMsg, pollFdsLen]

theorem arrive_forall (P : Stamp → Prop) : ∀ l : List (Nat × Stamp), (∀ p ∈ l, P p.2) →
    (∀ x ∈ (arrive l).1, P x) ∧ (∀ p ∈ (arrive l).2, P p.2) := by
  intro l
  induction l with
  | nil => exact fun _ => ⟨nofun, nofun⟩
  | cons q l ih =>
    intro h
    have ih' := ih fun p hp => h p (List.mem_cons_of_mem _ hp)
    have hq := h q List.mem_cons_self
    obtain ⟨d, s⟩ := q
    unfold arrive
    simp only
    split
    · exact ⟨List.forall_mem_cons.2 ⟨hq, ih'.1⟩, ih'.2⟩
    · exact ⟨ih'.1, List.forall_mem_cons.2 ⟨hq, ih'.2⟩⟩

/-- the repaired read loop skips every timestamp of an earlier datagram -/
theorem reads_fixed_stale (txid : Nat) : ∀ (q r : List Stamp), (∀ x ∈ q, x.id < txid) →
    reads true txid (q ++ r) =
      ((reads true txid r).1, (reads true txid r).2.1, (reads true txid r).2.2 + q.length) := by
  intro q
  induction q with
  | nil => intro r _; simp
  | cons s q ih =>
    intro r h
    have hs : s.id < txid := h s List.mem_cons_self
    have ih' := ih r (fun x hx => h x (List.mem_cons_of_mem _ hx))
    simp only [List.cons_append, reads, hs, Bool.true_and, decide_true, if_true, ih', List.length_cons]
    simp only [Prod.mk.injEq, true_and]
    omega

theorem reads_own (fixed : Bool) (txid : Nat) (t : Int) :
    reads fixed txid [⟨txid, t⟩] = ((t, txid, .none), [], 1) := by
  simp [reads]

theorem reads_nil (fixed : Bool) (txid : Nat) :
    reads fixed txid [] = ((zeroTime, 0, .notFound), [], 1) := rfl

/-- the number of `ReadTXTimestamp` calls of an iteration is bounded by what is on the queue -/
theorem reads_count_le (fixed : Bool) (txid : Nat) : ∀ q : List Stamp,
    1 ≤ (reads fixed txid q).2.2 ∧ (reads fixed txid q).2.2 ≤ q.length + 1 := by
  intro q
  induction q with
  | nil => simp [reads]
  | cons s q ih =>
    unfold reads
    split
    · simp only [List.length_cons]; omega
    · simp

theorem reads_old_once (txid : Nat) (q : List Stamp) : (reads false txid q).2.2 = 1 := by
  cases q <;> simp [reads]

/-- the single read of one iteration is `ReadTXTimestamp` on the kernel's answer for the head
    of the error queue -/
theorem reads_old_eq_readTX (txid : Nat) (q : List Stamp) :
    readTX (kernelRead q).1 =
      .ret (reads false txid q).1.1 (reads false txid q).1.2.1 (reads false txid q).1.2.2 ∧
    (kernelRead q).2 = (reads false txid q).2.1 := by
  cases q with
  | nil => exact ⟨rfl, rfl⟩
  | cons s q => exact ⟨readTX_stampMsg s.id s.t, rfl⟩

/-- `txid` is the number of datagrams written on the socket, and every transmit timestamp on
    the error queue or still under way belongs to an earlier datagram -/
structure Aligned (s : LSock) : Prop where
  txid : s.txid = s.sent
  queue : ∀ x ∈ s.queue, x.id < s.sent
  pending : ∀ p ∈ s.pending, p.2.id < s.sent

theorem aligned_init : Aligned LSock.init := ⟨rfl, by simp [LSock.init], by simp [LSock.init]⟩

/-- closed form of write + reads + bookkeeping of the repaired code on an aligned socket -/
theorem sendRead_fixed_eq (sr : Bool) (s : LSock) (al : Aligned s) (txt0 : Int) (kb : KB) :
    sendRead ⟨true, sr, true⟩ s txt0 kb =
      { sock := { txid := s.sent + 1, sent := s.sent + 1, queue := [],
                  pending := (arrive s.pending).2 ++ (match kb with | .late d t => [(d, ⟨s.sent, t⟩)] | _ => []) }
        txt1 := kb.own.getD txt0
        nreads := s.queue.length + (arrive s.pending).1.length + 1
        dgram := s.sent } := by
  have hq : ∀ x ∈ s.queue ++ (arrive s.pending).1, x.id < s.sent := by
    intro x hx
    rcases List.mem_append.1 hx with h | h
    · exact al.queue x h
    · exact (arrive_forall (·.id < s.sent) _ al.pending).1 x h
  simp only [sendRead, LSock.send, al.txid]
  rw [reads_fixed_stale s.sent _ _ hq]
  cases kb <;> simp [reads_own, reads_nil, decide3, KB.own, List.length_append] <;> omega

theorem sendRead_fixed (sr : Bool) (s : LSock) (al : Aligned s) (txt0 : Int) (kb : KB) :
    Aligned (sendRead ⟨true, sr, true⟩ s txt0 kb).sock := by
  rw [sendRead_fixed_eq sr s al txt0 kb]
  refine ⟨rfl, by simp, fun p hp => ?_⟩
  simp only at hp ⊢
  rcases List.mem_append.1 hp with h | h
  · exact Nat.lt_succ_of_lt ((arrive_forall (·.id < s.sent) _ al.pending).2 p h)
  · cases kb with
    | late d t => simp only [List.mem_singleton] at h; subst h; simp
    | intime t => simp at h
    | never => simp at h

theorem arrive_length : ∀ l : List (Nat × Stamp), (arrive l).1.length + (arrive l).2.length = l.length := by
  intro l
  induction l with
  | nil => simp [arrive]
  | cons p l ih =>
    obtain ⟨d, s⟩ := p
    unfold arrive
    simp only
    split <;> simp only [List.length_cons] <;> omega

/-- datagrams written one after the other on one socket (any branch of the listener): the socket
    afterwards and the total number of `ReadTXTimestamp` calls -/
def runSock (sr : Bool) : LSock → List KB → LSock × Nat
  | s, [] => (s, 0)
  | s, kb :: kbs =>
    let p := sendRead ⟨true, sr, true⟩ s 0 kb
    let r := runSock sr p.sock kbs
    (r.1, p.nreads + r.2)

theorem runSock_reads (sr : Bool) : ∀ (kbs : List KB) (s : LSock), Aligned s → s.queue = [] →
    (runSock sr s kbs).2 + (runSock sr s kbs).1.pending.length ≤ 2 * kbs.length + s.pending.length := by
  intro kbs
  induction kbs with
  | nil => intro s _ _; simp [runSock]
  | cons kb kbs ih =>
    intro s al hq
    have := ih _ (sendRead_fixed sr s al 0 kb) (by rw [sendRead_fixed_eq sr s al 0 kb])
    have ha := arrive_length s.pending
    simp only [runSock, List.length_cons]
    rw [sendRead_fixed_eq sr s al 0 kb] at this ⊢
    simp only [hq, List.length_nil, List.length_append] at this ⊢
    cases kb <;> simp only [List.length_nil, List.length_singleton, List.append_nil] at this ⊢ <;> omega

end ScionTime.ListenerTx
