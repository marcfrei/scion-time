/-
  The two control-message loops of net/udp (Model/Udp.lean `walkGen`, Model/UdpTx.lean `walk`) as
  loop rules: a property of every value an iteration can return at once is a property of the
  result, given fuel for one iteration per 16 bytes.
-/
import ScionTime.Model.UdpTx
import ScionTime.Proofs.Ite
namespace ScionTime.Udp

theorem align8_ge (n : Nat) : n ≤ align8 n := by unfold align8; omega

theorem cmsgSpace_sub (n : Nat) : cmsgSpace n - cmsgSpace 0 = align8 n := by
  have a0 : align8 0 = 0 := by decide
  unfold cmsgSpace; omega

/-- the measure of both loops -/
theorem length_drop_cmsg {oob : List Nat} {n fuel : Nat} (h : oob.length ≤ fuel + 1)
    (h16 : ¬ (n < sizeofCmsghdr ∨ n > oob.length)) : (oob.drop (align8 n)).length ≤ fuel := by
  have := align8_ge n
  unfold sizeofCmsghdr at h16
  rw [List.length_drop]; omega

theorem walkGen_rule {P : Outcome → Prop} (hnone : P .errNotFound) (herr : P .errUnexpectedData)
    (htime : ∀ sec nsec, P (timeUnix sec nsec)) (fuel : Nat) :
    ∀ oob : List Nat, oob.length ≤ fuel → P (walkGen true fuel oob) := by
  induction fuel with
  | zero =>
    intro oob h
    unfold walkGen
    exact ite_ind (fun _ => hnone) (absurd (Nat.lt_of_le_of_lt h (by decide)))
  | succ f ih =>
    intro oob h
    unfold walkGen
    refine ite_ind (fun _ => hnone) fun _ => ?_
    refine ite_ind (fun _ => herr) fun h16 => ?_
    rw [cmsgSpace_sub]
    refine ite_ind (fun _ => ?_) fun _ => ?_
    · refine ite_ind (fun _ => herr) fun _ => ?_
      refine ite_ind (fun _ => ?_) fun _ => ?_
      · exact ite_ind (fun _ => herr) fun _ => htime _ _
      · exact ite_ind (fun _ => herr) fun _ => htime _ _
    · refine ite_ind (fun _ => ?_) fun _ => ?_
      · exact ite_ind (fun _ => herr) fun _ => htime _ _
      · exact ite_ind (fun _ => herr) fun _ => ih _ (length_drop_cmsg h h16)

end ScionTime.Udp

namespace ScionTime.UdpTx
open ScionTime.Udp

theorem finish_ne_fuel (st : St) : finish st ≠ .fuel := by
  unfold finish; split <;> nofun

/-- `I`: an invariant of the buffers the loop goes through; the timestamping triple in `hstep` is
    the one `KernelChain` rules out. -/
theorem walk_rule {P : TxOutcome → Prop} {I : List Nat → Prop}
    (hfin : ∀ st, P (finish st)) (herr : P .errUnexpectedData)
    (hstep : ∀ oob, I oob → ¬ oob.length < cmsgSpace 0 →
      (¬ align8 (leU oob 0 8) ≤ oob.length → P .panicSlice) ∧
      (leI32 oob 8 = solSocket → leI32 oob 12 = soTimestampingNew → leU oob 0 8 = 64 →
        ¬ (leI64 oob 32 = 0 ∧ leI64 oob 40 = 0 ∧
          ((leI64 oob 48 = 0 ∧ leI64 oob 56 = 0) ∨ (leI64 oob 16 = 0 ∧ leI64 oob 24 = 0))) →
        P .panicExplicit) ∧
      I (oob.drop (align8 (leU oob 0 8))))
    (fuel : Nat) : ∀ (st : St) (oob : List Nat), I oob → oob.length ≤ fuel → P (walk fuel st oob) := by
  induction fuel with
  | zero =>
    intro st oob _ h
    unfold walk
    exact ite_ind (fun _ => hfin st) (absurd (Nat.lt_of_le_of_lt h (by decide)))
  | succ f ih =>
    intro st oob hI h
    unfold walk
    refine ite_ind (fun _ => hfin st) fun hlen => ?_
    obtain ⟨hslice, hexpl, hinv⟩ := hstep oob hI hlen
    refine ite_ind (fun _ => herr) fun h16 => ?_
    rw [cmsgSpace_sub]
    have hn : ∀ st', P (if align8 (leU oob 0 8) > oob.length then .panicSlice
        else walk f st' (oob.drop (align8 (leU oob 0 8)))) := fun st' =>
      ite_ind (fun h' => hslice (Nat.not_le_of_gt h')) fun _ =>
        ih st' _ hinv (length_drop_cmsg h h16)
    refine ite_ind (fun hlev => ?_) fun _ => ?_
    · refine ite_ind (fun htyp => ?_) fun _ => hn _
      refine ite_ind (fun _ => herr) fun h64 => ?_
      have h64 : leU oob 0 8 = 64 := Decidable.of_not_not h64
      refine ite_ind (fun h2 => ?_) fun _ => ?_
      · refine ite_ind (fun h01 => hexpl hlev htyp h64 ?_) fun _ => hn _
        exact fun ⟨z1, z2, hz⟩ => hz.elim (fun ⟨a, b⟩ => h2.elim (· a) (· b)) fun ⟨a, b⟩ =>
          h01.elim (· a) (·.elim (· b) (·.elim (· z1) (· z2)))
      · exact ite_ind (fun h1 => hexpl hlev htyp h64 fun ⟨z1, z2, _⟩ => h1.elim (· z1) (· z2))
          fun _ => hn _
    · refine ite_ind (fun _ => ?_) fun _ => hn _
      refine ite_ind (fun _ => herr) fun _ => ?_
      refine ite_ind (fun _ => herr) fun _ => ?_
      exact ite_ind (fun _ => herr) fun _ => hn _

end ScionTime.UdpTx
