/-
  Helper lemmas for Model/Server.lean: order on T64, the era-agnostic "later" relation on NTP
  timestamps, association-list map.
-/
import ScionTime.Model.Server
namespace ScionTime.Server
open ScionTime.Time64

theorem before_iff (a b : T64) :
    before a b = true ↔ a.sec < b.sec ∨ (a.sec = b.sec ∧ a.frac < b.frac) := by
  unfold before; simp

theorem before_false_iff (a b : T64) :
    before a b = false ↔ b.sec < a.sec ∨ (a.sec = b.sec ∧ b.frac ≤ a.frac) := by
  rw [← Bool.not_eq_true, before_iff]; omega

theorem after_eq (a b : T64) : after a b = before b a := by
  unfold after before
  simp only [gt_iff_lt]
  congr 2
  rw [Bool.eq_iff_iff]; simp only [beq_iff_eq]; exact eq_comm

/-- `a ≤ b` in the order of `Time64.Before` -/
def le64 (a b : T64) : Prop := before b a = false

theorem le64_iff (a b : T64) : le64 a b ↔ a.sec < b.sec ∨ (a.sec = b.sec ∧ a.frac ≤ b.frac) := by
  unfold le64; rw [before_false_iff]; omega

theorem le64_refl (a : T64) : le64 a a := by rw [le64_iff]; omega
theorem le64_trans {a b c : T64} (h1 : le64 a b) (h2 : le64 b c) : le64 a c := by
  rw [le64_iff] at *; omega
theorem le64_total (a b : T64) : le64 a b ∨ le64 b a := by
  rw [le64_iff, le64_iff]; omega
theorem le64_of_before {a b : T64} (h : before a b = true) : le64 a b := by
  rw [before_iff] at h; rw [le64_iff]; omega
theorem le64_antisymm {a b : T64} (h1 : le64 a b) (h2 : le64 b a) : a = b := by
  rw [le64_iff] at *
  cases a; cases b; simp only [T64.mk.injEq] at *; omega

theorem ofTime_split (t : Int) : ∃ s n : Int, t = s * 1000000000 + n ∧ 0 ≤ n ∧ n < 1000000000 ∧
    ofTime t = ⟨(s + 2208988800) % 4294967296, n * 4294967296 / 1000000000⟩ := by
  refine ⟨t / 1000000000, t % 1000000000, by omega, by omega, by omega, ?_⟩
  unfold ofTime unixSec nanosecond epoch era nsPerSec
  rw [Int.sub_neg]

/-- the fraction field is strictly monotone in the nanoseconds (2^32 > 10^9) -/
theorem frac_lt {a b : Int} (h : a < b) :
    a * 4294967296 / 1000000000 < b * 4294967296 / 1000000000 := by omega

theorem frac_range {a : Int} (h0 : 0 ≤ a) (h1 : a < 1000000000) :
    0 ≤ a * 4294967296 / 1000000000 ∧ a * 4294967296 / 1000000000 < 4294967296 := by omega

/-- the 64-bit fixed-point value of an NTP timestamp -/
def val64 (x : T64) : Int := x.sec * 4294967296 + x.frac

/-- `tx` is later than `rx` in NTP's era-agnostic sense: the 64-bit difference `tx - rx`
    (mod 2^64) lies in (0, 2^63) -/
def Later (rx tx : T64) : Prop :=
  0 < (val64 tx - val64 rx) % 18446744073709551616 ∧
    (val64 tx - val64 rx) % 18446744073709551616 < 9223372036854775808

instance (a b : T64) : Decidable (Later a b) := by unfold Later; infer_instance

theorem later_of_secs {a b fa fb : Int} (hab : a ≤ b) (hd : b - a ≤ 1073741824)
    (hfa : 0 ≤ fa ∧ fa < 4294967296) (hfb : 0 ≤ fb ∧ fb < 4294967296) (hf : a = b → fa < fb) :
    Later ⟨a % 4294967296, fa⟩ ⟨b % 4294967296, fb⟩ := by
  have hV : 0 < (b - a) * 4294967296 + (fb - fa) ∧
      (b - a) * 4294967296 + (fb - fa) < 9223372036854775808 := by omega
  -- the seconds wrap at 2^32, so the difference of the values is off by a multiple of 2^64
  have hD : b % 4294967296 * 4294967296 + fb - (a % 4294967296 * 4294967296 + fa) =
      ((b - a) * 4294967296 + (fb - fa)) +
        18446744073709551616 * (a / 4294967296 - b / 4294967296) := by omega
  unfold Later val64
  simp only
  rw [hD, Int.add_mul_emod_self_left, Int.emod_eq_of_lt (Int.le_of_lt hV.1) (by omega)]
  exact hV

/-- encodings of two instants less than 2^30 s apart compare like the instants -/
theorem later_ofTime (r t : Int) (h1 : r < t) (h2 : t - r < 1073741824000000000) :
    Later (ofTime r) (ofTime t) := by
  obtain ⟨sr, nr, er, hr0, hr1, eor⟩ := ofTime_split r
  obtain ⟨s, n, et, ht0, ht1, eot⟩ := ofTime_split t
  rw [eor, eot]
  exact later_of_secs (by omega) (by omega) (frac_range hr0 hr1) (frac_range ht0 ht1)
    (fun e => frac_lt (by omega))

namespace Map

@[simp] theorem find_nil (k : Nat) : find [] k = none := rfl
theorem find_cons (k' : Nat) (it : Item) (m : Map) (k : Nat) :
    find ((k', it) :: m) k = if k' = k then some it else find m k := rfl

theorem find_modify (m : Map) (k : Nat) (f : Item → Item) (k' : Nat) :
    find (modify m k f) k' = if k = k' then (find m k').map f else find m k' := by
  induction m with
  | nil => simp [modify]
  | cons p m ih =>
    obtain ⟨k0, it⟩ := p
    unfold modify
    by_cases h0 : k0 = k
    · subst h0
      simp only [if_true, find_cons]
      by_cases h1 : k0 = k' <;> simp [h1]
    · simp only [h0, if_false, find_cons]
      by_cases h1 : k0 = k'
      · subst h1; simp [Ne.symm h0]
      · simp [h1, ih]

theorem keys_modify (m : Map) (k : Nat) (f : Item → Item) : keys (modify m k f) = keys m := by
  induction m with
  | nil => rfl
  | cons p m ih =>
    unfold modify
    split
    · rfl
    · exact congrArg (p.1 :: ·) ih

theorem length_modify (m : Map) (k : Nat) (f : Item → Item) : (modify m k f).length = m.length := by
  have := congrArg List.length (keys_modify m k f)
  simpa [keys] using this

theorem find_none_iff (m : Map) (k : Nat) : find m k = none ↔ k ∉ keys m := by
  induction m with
  | nil => simp [keys]
  | cons p m ih =>
    unfold find
    split
    · simp [keys, ‹p.1 = k›]
    · simp [keys, ih, Ne.symm ‹¬p.1 = k›]

theorem find_erase (m : Map) (hn : (keys m).Nodup) (k k' : Nat) :
    find (erase m k) k' = if k = k' then none else find m k' := by
  induction m with
  | nil => simp [erase]
  | cons p m ih =>
    obtain ⟨k0, it⟩ := p
    obtain ⟨hk0, hn'⟩ : k0 ∉ keys m ∧ (keys m).Nodup := List.nodup_cons.1 hn
    unfold erase
    split
    · rename_i h0
      subst h0
      rw [find_cons]
      split
      · rename_i h1
        exact h1 ▸ (find_none_iff m k0).2 hk0
      · rfl
    · rename_i h0
      rw [find_cons, find_cons, ih hn']
      split
      · rename_i h1
        rw [if_neg (h1 ▸ Ne.symm h0)]
      · rfl

theorem keys_erase_sublist (m : Map) (k : Nat) : (keys (erase m k)).Sublist (keys m) := by
  induction m with
  | nil => exact .slnil
  | cons p m ih =>
    unfold erase
    split
    · exact List.sublist_cons_self _ _
    · exact ih.cons_cons _

theorem nodup_erase (m : Map) (hn : (keys m).Nodup) (k : Nat) : (keys (erase m k)).Nodup :=
  List.Nodup.sublist (keys_erase_sublist m k) hn

theorem length_erase (m : Map) (k : Nat) (it : Item) (h : find m k = some it) :
    (erase m k).length + 1 = m.length := by
  induction m with
  | nil => cases h
  | cons p m ih =>
    unfold erase
    unfold find at h
    split at h
    · rw [if_pos ‹_›]
      rfl
    · rw [if_neg ‹_›]
      exact congrArg (· + 1) (ih h)

end Map

def core (it : Item) : List Entry × T64 := (it.buf, it.qval)

/-- same keys, same buffers and qvals (qidx may differ) -/
def Same (m m' : Map) : Prop := ∀ k, (m.find k).map core = (m'.find k).map core

theorem Same.refl (m : Map) : Same m m := fun _ => rfl
theorem Same.trans {a b c : Map} (h1 : Same a b) (h2 : Same b c) : Same a c :=
  fun k => (h1 k).trans (h2 k)
theorem Same.symm {a b : Map} (h : Same a b) : Same b a := fun k => (h k).symm

theorem same_setQidx (m : Map) (k i : Nat) : Same m (setQidx m k i) := by
  intro k'
  unfold setQidx
  rw [Map.find_modify]
  by_cases h : k = k'
  · simp only [h, if_true, Option.map_map]
    cases Map.find m k' <;> simp [core]
  · simp [h]

theorem qv_same {m m' : Map} (h : Same m m') (k : Nat) : qv m k = qv m' k := by
  unfold qv
  have := h k
  cases h1 : Map.find m k <;> cases h2 : Map.find m' k <;> simp [h1, h2, core] at this ⊢
  exact this.2

theorem same_find {m m' : Map} (h : Same m m') {k : Nat} {it' : Item} (hf : m'.find k = some it') :
    ∃ it, m.find k = some it ∧ it.buf = it'.buf ∧ it.qval = it'.qval := by
  have := h k
  rw [hf] at this
  cases h1 : Map.find m k with
  | none => simp [h1] at this
  | some it =>
    refine ⟨it, rfl, ?_⟩
    simp [h1, core] at this
    exact this

end ScionTime.Server
