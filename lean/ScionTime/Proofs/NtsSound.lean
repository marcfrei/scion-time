/-
  Helper lemmas for C10 soundness: what a successful `authenticate` implies, and the invariant of
  the extension-field walk that locates the authenticator.
-/
import ScionTime.Proofs.NtsWalk
namespace ScionTime.Nts

/-- the common head of `Decrypt` and `authenticate`: key size, nonce length, `Open`, then `f`
    (without the check of the nonce length, `Open` panics on what the check refuses) -/
theorem open_then_ok {α : Type} (chk : Bool) (A : AEAD) (key n ct : Bytes) (ad : Option Bytes) (f : Bytes → Res α)
    (r : α) (h : (if !keyOk key then .err .keySize else if chk && n.length ≠ 16 then .err .nonceLen
      else openC A key n ct ad >>= f) = .ok r) :
    keyOk key = true ∧ n.length = 16 ∧ ∃ pt, A.openF key n ct ad = some pt ∧ f pt = .ok r := by
  by_cases hk : keyOk key = true
  · by_cases hn : n.length = 16
    · refine ⟨hk, hn, ?_⟩
      simp only [hk, Bool.not_true, Bool.false_eq_true, if_false, hn, ne_eq, not_true_eq_false, decide_false,
        Bool.and_false, openC, bind, Res.bind] at h
      cases ho : A.openF key n ct ad with
      | some pt => rw [ho] at h; exact ⟨pt, rfl, h⟩
      | none => simp [ho] at h
    · cases chk <;> simp [hk, hn, openC] at h
  · simp [hk] at h

theorem authenticate_ok (A : AEAD) (b key : Bytes) (d : Decoded) (cs : List Bytes)
    (h : authenticateG true A b key d = .ok cs) :
    keyOk key = true ∧ d.nonce.length = 16 ∧
      ∃ pt, A.openF key d.nonce d.ct (some (b.take d.pos)) = some pt ∧ ptLoop true (pt.length + 1) pt d.cookies = .ok cs :=
  open_then_ok true A key d.nonce d.ct _ _ cs h

theorem decryptCookie_ok (A : AEAD) (ec : Triple) (key : Bytes) (c : Triple)
    (h : decryptCookie A ec key = .ok c) :
    keyOk key = true ∧ ec.x.length = 16 ∧
      ∃ pt, A.openF key ec.x ec.y none = some pt ∧ scDecode pt = .ok c :=
  open_then_ok true A key ec.x ec.y none _ c h

/-- invariant of the `DecodePacket` loop: when it ends with an authenticator found, the remaining
    input splits at that field and `pos` is its offset -/
theorem decLoop_auth_inv (total : Nat) :
    ∀ (fuel : Nat) (rest : Bytes) (fu : Bool) (d : Decoded) (fu' : Bool) (d' : Decoded),
      decLoop true total fuel rest fu d = .ok (fu', true, d') →
      ∃ pre x y z w body, rest = pre ++ x :: y :: z :: w :: body ∧ d'.pos = total - (body.length + 4) ∧
        u16 x y = extAuthenticator ∧ unpackAuth body = .ok (d'.nonce, d'.ct) := by
  intro fuel
  induction fuel with
  | zero => intro rest fu d fu' d' h; cases h
  | succ fuel ih =>
    intro rest fu d fu' d' h
    by_cases h28 : rest.length < 28
    · rw [decLoop_short _ _ _ _ _ _ h28] at h; cases h
    · obtain ⟨a, b, c, e, body, rfl⟩ := cons4_of_length rest (by omega)
      rw [decLoop_cons_checked _ _ _ _ _ _ _ _ _ (by omega)] at h
      by_cases hc : u16 c e < 4 ∨ (a :: b :: c :: e :: body).length < u16 c e
      · rw [if_pos hc] at h; cases h
      rw [if_neg hc] at h
      by_cases ht : u16 a b = extAuthenticator
      · rw [if_pos ht] at h
        cases hu : unpackAuth body with
        | ok nc =>
          rw [hu] at h
          cases h
          exact ⟨[], a, b, c, e, body, rfl, by simp, ht, hu⟩
        | err _ | panic _ | hang => rw [hu] at h; cases h
      rw [if_neg ht] at h
      obtain ⟨pre, x, y, z, w, body', hr, hp, hx, hu⟩ := ih _ _ _ _ _ h
      refine ⟨(a :: b :: c :: e :: body).take (u16 c e) ++ pre, x, y, z, w, body', ?_, hp, hx, hu⟩
      rw [List.append_assoc, ← hr, List.take_append_drop]

theorem decodePacket_ok (chk : Bool) (b : Bytes) (d : Decoded) (h : decodePacketG chk b = .ok d) :
    decLoop chk b.length (b.length + 1) (b.drop ntpPacketLen) false {} = .ok (true, true, d) := by
  unfold decodePacketG at h
  cases hl : decLoop chk b.length (b.length + 1) (b.drop ntpPacketLen) false {} with
  | ok r =>
    obtain ⟨fu, fa, d0⟩ := r
    rw [hl] at h
    cases fu <;> cases fa <;> cases h
    rfl
  | err _ | panic _ | hang => rw [hl] at h; cases h

end ScionTime.Nts
