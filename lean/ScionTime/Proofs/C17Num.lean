/-
  Proofs/C17Num.lean — floating-point error analysis for the unfiltered path of the
  Ntimed filter (property C17), on top of the `fl` lemmas of Proofs/F64.lean.
  Core Lean only (`grind` for linear arithmetic over `Rat`).
-/
import ScionTime.Model.Filters
import ScionTime.Proofs.F64
import ScionTime.Proofs.C17
namespace ScionTime.Filters
open ScionTime.F64

/-- `2^-1075`, the absolute rounding error below the normal range. -/
abbrev eta : Rat := pow2 (-1075)

theorem eta_pos : 0 < eta := pow2_pos _
theorem eta_small : eta ≤ 1 / 1000000000000000000000 := by
  unfold eta; decide +kernel

/-- Anything up to `2^40` in magnitude is far from overflow. -/
theorem le_maxFin_of_le {q : Rat} (h : q.abs ≤ 1099511627776) : q.abs ≤ maxFin := by
  have h40 : pow2 40 ≤ maxFin := pow2_le_maxFin (by decide)
  have e : pow2 40 = 1099511627776 := by decide +kernel
  grind

/-- Pure rational core of `Duration.Seconds()`: `σ` whole seconds, `n` nanoseconds,
    with magnitudes `S`, `N`. -/
theorem durS_rat {σ n S N : Rat} (hs : σ.abs ≤ S) (hn : n.abs ≤ N) :
    (rnd (σ + rnd (n / 1000000000)) - (σ * 1000000000 + n) / 1000000000).abs
      ≤ (S * 1000000000 + N) / 1000000000 * (2000001 / 9007199254740992000000) + 3 * eta := by
  have he := eta_pos
  have he2 := eta_small
  rw [abs_le_iff] at hs hn ⊢
  -- each `B` bounds the argument of `rnd`; a rounded value is within `B·2⁻⁵³ + η` of it
  have e1 := rnd_err_le (q := n / 1000000000) (B := N / 1000000000) (abs_le_iff.2 (by grind))
  rw [abs_le_iff] at e1
  have e2 := rnd_err_le (q := σ + rnd (n / 1000000000))
    (B := S + N / 1000000000 * (1 + 1 / 9007199254740992) + eta) (abs_le_iff.2 (by grind))
  rw [abs_le_iff] at e2
  grind

/-- `time.Duration.Seconds()` for `|d| ≤ 2^62` ns, with `D = |d|`: finite, well-formed, and within
    `(2 + 10⁻⁶)·2⁻⁵³·D + 3η` (in seconds) of `d/10⁹` — sharper than the `3·2⁻⁵³` of
    `secondsVal_err`, which is too coarse for the final bound of `ntimed_num`. -/
theorem durS_spec (d : Int) (hd : d.natAbs ≤ 4611686018427387904) :
    isFinite (durationSeconds d) = true ∧ WF (durationSeconds d) ∧
    (d : Rat).abs ≤ ((d.natAbs : Nat) : Rat) ∧ ((d.natAbs : Nat) : Rat) ≤ 4611686018427387904 ∧
    (toRat (durationSeconds d) - (d : Rat) / 1000000000).abs
      ≤ ((d.natAbs : Nat) : Rat) / 1000000000 * (2000001 / 9007199254740992000000) + 3 * eta := by
  obtain ⟨fin, wf, val⟩ := durationSeconds_val (d := d) (Nat.le_trans hd (by decide))
  refine ⟨fin, wf, intCast_abs_le (Nat.le_refl _),
    by simpa using Rat.natCast_le_natCast.2 hd, ?_⟩
  rw [val, secondsVal]
  obtain ⟨hdec, hpos, hneg, hnlt⟩ := tdiv_tmod_facts d
  have habs : (d.tdiv 1000000000).natAbs * 1000000000 + (d.tmod 1000000000).natAbs = d.natAbs := by
    omega
  have hA := congrArg (fun k : Nat => (k : Rat)) habs
  have hD := congrArg (fun i : Int => (i : Rat)) hdec
  simp only [Rat.natCast_add, Rat.natCast_mul, Rat.natCast_ofNat] at hA
  simp only [Rat.intCast_add, Rat.intCast_mul, Rat.intCast_ofNat] at hD
  rw [← hA, hD]
  exact durS_rat (intCast_abs_le (Nat.le_refl _)) (intCast_abs_le (Nat.le_refl _))

/-- Pure rational core of `Duration((lo + hi) / 2)`: `lo`, `hi` approximate `a/10⁹`, `b/10⁹`
    (`a`, `b` nanoseconds of magnitude `An`, `Bn ≤ 2^62`) as `durS_spec` says; then nothing on the
    way overflows, and the product `p` that is truncated to nanoseconds is within
    `3·2⁻⁵³·(An+Bn) + 10⁻³` of `(a+b)/2`. -/
theorem mid_rat {lo hi a b An Bn : Rat} (ha : a.abs ≤ An) (hb : b.abs ≤ Bn)
    (hA : An ≤ 4611686018427387904) (hB : Bn ≤ 4611686018427387904)
    (hl : (lo - a / 1000000000).abs
      ≤ An / 1000000000 * (2000001 / 9007199254740992000000) + 3 * eta)
    (hh : (hi - b / 1000000000).abs
      ≤ Bn / 1000000000 * (2000001 / 9007199254740992000000) + 3 * eta) :
    (lo + hi).abs ≤ 1099511627776 ∧
    (rnd (lo + hi) / 2).abs ≤ 1099511627776 ∧
    (rnd (rnd (lo + hi) / 2) * 1000000000).abs ≤ 9223372036854774784 ∧
    (rnd (rnd (rnd (lo + hi) / 2) * 1000000000) - (a + b) / 2).abs
      ≤ (An + Bn) * (3 / 9007199254740992) + 1 / 1000 := by
  have he := eta_pos
  have he2 := eta_small
  simp only [abs_le_iff] at ha hb hl hh ⊢
  -- each `B` is the one before times `1 + 2⁻⁵³` plus `η`, then halved or scaled by `10⁹`; the
  -- numerators `4000000`, `5000000` and the multiples of `η` are these products rounded up
  have e1 := rnd_err_le (q := lo + hi)
    (B := (An + Bn) / 1000000000 * (1 + 2000001 / 9007199254740992000000) + 6 * eta)
    (abs_le_iff.2 (by grind))
  rw [abs_le_iff] at e1
  have e2 := rnd_err_le (q := rnd (lo + hi) / 2)
    (B := (An + Bn) / 1000000000 * (1 + 4000000 / 9007199254740992000000) / 2 + 4 * eta)
    (abs_le_iff.2 (by grind))
  rw [abs_le_iff] at e2
  have e3 := rnd_err_le (q := rnd (rnd (lo + hi) / 2) * 1000000000)
    (B := (An + Bn) * (1 + 5000000 / 9007199254740992000000) / 2 + 6000000000 * eta)
    (abs_le_iff.2 (by grind))
  rw [abs_le_iff] at e3
  grind

theorem c2_eq : c2 = .fin 2 := by decide +kernel

/-- From the rational error bound to the integer statement (pure arithmetic): `p` the product,
    `P` its truncation, `raw` the integer half-sum of `-a`, `-b`.  `14636698788954112 = 13·2^50`:
    the errors `1` (truncation), `1/2` (`raw`) and `10⁻³`, times `2^53`, with `1.501` rounded up to
    `13/8`, the largest value from which `ntimed_num`'s integer bound `1 + legs/2^50` follows. -/
theorem final_rat {p P raw a b An Bn : Rat}
    (hp : (p - (a + b) / 2).abs ≤ (An + Bn) * (3 / 9007199254740992) + 1 / 1000)
    (ht : (P - p).abs < 1) (hr : (2 * raw + (a + b)).abs ≤ 1)
    (ha : a.abs ≤ An) (hb : b.abs ≤ Bn)
    (hA : An ≤ 4611686018427387904) (hB : Bn ≤ 4611686018427387904) :
    -9223372036854775808 < P ∧
    -(14636698788954112 + 3 * (An + Bn)) < (-P - raw) * 9007199254740992 ∧
    (-P - raw) * 9007199254740992 < 14636698788954112 + 3 * (An + Bn) := by
  rw [abs_le_iff] at hp hr ha hb
  rw [abs_lt_iff] at ht
  grind

/-- `Inv(Duration((lo + hi) / 2))` against `ntp.ClockOffset`, for legs below `2^62` ns. -/
theorem ntimed_num (x : Sample)
    (ha1 : -4611686018427387904 < x.cTx - x.sRx) (ha2 : x.cTx - x.sRx < 4611686018427387904)
    (hb1 : -4611686018427387904 < x.cRx - x.sTx) (hb2 : x.cRx - x.sTx < 4611686018427387904) :
    -(1125899906842624 + (((x.cTx - x.sRx).natAbs : Int) + ((x.cRx - x.sTx).natAbs : Int)))
      ≤ 1125899906842624 * (inv64 (toDuration (ntimedMid x)) - (clockOffset x.cTx x.sRx x.sTx x.cRx).toInt) ∧
    1125899906842624 * (inv64 (toDuration (ntimedMid x)) - (clockOffset x.cTx x.sRx x.sTx x.cRx).toInt)
      ≤ 1125899906842624 + (((x.cTx - x.sRx).natAbs : Int) + ((x.cRx - x.sTx).natAbs : Int)) := by
  -- the integer side: `raw` is the half-sum of the two legs negated, up to the truncation
  have hlo := timeSub_toInt x.cTx x.sRx (by omega) (by omega)
  have hhi := timeSub_toInt x.cRx x.sTx (by omega) (by omega)
  have hraw := clockOffset_toInt x.cTx x.sRx x.sTx x.cRx (by omega) (by omega) (by omega) (by omega)
  have hf := Int.mul_tdiv_add_tmod (x.sRx - x.cTx + (x.sTx - x.cRx)) 2
  have hm := Int.tmod_two_eq (x.sRx - x.cTx + (x.sTx - x.cRx))
  generalize (clockOffset x.cTx x.sRx x.sTx x.cRx).toInt = raw at *
  have hn : (2 * raw + (x.cTx - x.sRx + (x.cRx - x.sTx))).natAbs ≤ 1 := by omega
  unfold ntimedMid ntimedLo ntimedHi
  rw [hlo, hhi, c2_eq]
  generalize x.cTx - x.sRx = a at *
  generalize x.cRx - x.sTx = b at *
  have hr := intCast_abs_le hn
  simp only [Rat.intCast_add, Rat.intCast_mul, Rat.intCast_ofNat, Rat.natCast_ofNat] at hr
  -- the float side: sum, half, product with 1e9, none of which overflows
  obtain ⟨fl, wl, ba, hAn, el⟩ := durS_spec a (by omega)
  obtain ⟨fh, wh, bb, hBn, eh⟩ := durS_spec b (by omega)
  obtain ⟨m1, m2, m3, e⟩ := mid_rat ba bb hAn hBn el eh
  obtain ⟨fs, ts⟩ := toRat_add wl wh fl fh (le_maxFin_of_le m1)
  obtain ⟨fm, tm⟩ := toRat_div fs (b := .fin 2) rfl (by rw [toRat_fin]; decide)
    (by rw [ts, toRat_fin]; exact le_maxFin_of_le m2)
  rw [ts, toRat_fin] at tm
  rw [toDuration_val fm (by rw [tm]; exact m3), tm]
  -- the truncation, and back to the integers
  have hZ := final_rat e (trunc_err _) hr ba bb hAn hBn
  generalize trunc _ = P at hZ ⊢
  simp only [← Rat.intCast_natCast, ← Rat.intCast_ofNat, ← Rat.intCast_neg, ← Rat.intCast_add,
    ← Rat.intCast_sub, ← Rat.intCast_mul, Rat.intCast_lt_intCast] at hZ
  rw [inv64, minI64, if_neg (by omega)]
  omega

end ScionTime.Filters
