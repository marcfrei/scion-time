/-
  Generated loops that walk a buffer by position under a budget (`for { ...; pos += n }` rendered with
  `Go.forFuel`): the equations of the budgeted loop, the induction over such a walk (`forFuel_walk`),
  and the int64 arithmetic of a position inside a buffer shorter than 2^62 bytes.
-/
import ScionTime.Model.GoPrelude2
import ScionTime.Proofs.GoPrelude
import ScionTime.Proofs.LeafBytes
namespace ScionTime.LeafNtsDec
open ScionTime ScionTime.GoLemmas ScionTime.LeafBytes

theorem forFuel_next {σ ρ : Type} (n : Nat) (s s' : σ) (body : σ → Go.Ctl σ ρ) (h : body s = .next s') :
    Go.forFuel (n + 1) s body = Go.forFuel n s' body := by
  simp only [Go.forFuel, h]

theorem forFuel_brk {σ ρ : Type} (n : Nat) (s s' : σ) (body : σ → Go.Ctl σ ρ) (h : body s = .brk s') :
    Go.forFuel (n + 1) s body = some (.inl s') := by
  simp only [Go.forFuel, h]

theorem forFuel_ret {σ ρ : Type} (n : Nat) (s : σ) (r : ρ) (body : σ → Go.Ctl σ ρ) (h : body s = .ret r) :
    Go.forFuel (n + 1) s body = some (.inr r) := by
  simp only [Go.forFuel, h]

/-- **a walk over positions `p ≤ L`**: the loop is in state `st p a` (position `p`, the rest of the
    state `a`); `Q n p a o` says that ending with `o` is right for a start at `(p, a)` with budget `n`.
    If every iteration breaks or returns with a right end, or moves to a position further on from
    which every right end is also right for `(p, a)`, then a budget above the distance to `L` is
    enough and the loop ends right. -/
theorem forFuel_walk {σ ρ α : Type} (body : σ → Go.Ctl σ ρ) (st : Nat → α → σ) (L : Nat)
    (Q : Nat → Nat → α → σ ⊕ ρ → Prop)
    (step : ∀ n p a, p ≤ L →
      (∃ s, body (st p a) = .brk s ∧ Q (n + 1) p a (.inl s)) ∨
      (∃ r, body (st p a) = .ret r ∧ Q (n + 1) p a (.inr r)) ∨
      (∃ p' a', body (st p a) = .next (st p' a') ∧ p < p' ∧ p' ≤ L ∧ ∀ o, Q n p' a' o → Q (n + 1) p a o)) :
    ∀ n p a, p ≤ L → L - p < n → ∃ o, Go.forFuel n (st p a) body = some o ∧ Q n p a o := by
  intro n
  induction n with
  | zero => intro p a _ h; omega
  | succ n ih =>
    intro p a hp hn
    rcases step n p a hp with ⟨s, hb, hq⟩ | ⟨r, hb, hq⟩ | ⟨p', a', hb, hlt, hp', hq⟩
    · exact ⟨_, forFuel_brk n _ _ body hb, hq⟩
    · exact ⟨_, forFuel_ret n _ _ body hb, hq⟩
    · obtain ⟨o, ho, hqo⟩ := ih p' a' hp' (by omega)
      exact ⟨o, (forFuel_next n _ _ body hb).trans ho, hq o hqo⟩

theorem left_toInt {α : Type} (b : List α) (p : Nat) (hL : b.length < 4611686018427387904) (hp : p < 4611686018427387904) :
    (Go.len b - Int64.ofNat p).toInt = (b.length : Int) - p := by
  have hlen : (Go.len b).toInt = b.length := by unfold Go.len; exact Int64.toInt_ofNat_of_lt (by omega)
  have hpos : (Int64.ofNat p).toInt = p := Int64.toInt_ofNat_of_lt (by omega)
  rw [toInt_sub_of_fits _ _ (by omega) (by omega), hlen, hpos]

theorem left_ge {α : Type} (b : List α) (p : Nat) (k : Int64) (hL : b.length < 4611686018427387904) (hp : p < 4611686018427387904) :
    decide (Go.len b - Int64.ofNat p ≥ k) = decide (k.toInt ≤ (b.length : Int) - p) :=
  decide_eq_decide.mpr (by rw [ge_iff_le, Int64.le_iff_toInt_le, left_toInt b p hL hp])

/-- the test `eh.Length < 4 || int(eh.Length) > len(b) - pos` of a 16-bit length -/
theorem badLen_iff {α : Type} (b : List α) (p : Nat) (l : UInt16) (hL : b.length < 4611686018427387904) (hp : p < 4611686018427387904) :
    (decide (l < 4) || decide (l.toUInt64.toInt64 > Go.len b - Int64.ofNat p)) = true ↔
      (l.toNat < 4 ∨ l.toNat > b.length - p) := by
  have h4u : (4 : UInt16).toNat = 4 := rfl
  rw [Bool.or_eq_true, decide_eq_true_eq, decide_eq_true_eq, gt_iff_lt, Int64.lt_iff_toInt_lt, left_toInt b p hL hp,
    widen16, UInt16.lt_iff_toNat_lt, h4u]
  omega

theorem type_eq {t k : UInt16} {n c : Nat} (ht : t.toNat = n) (hk : k.toNat = c) (h : n = c) : t = k :=
  UInt16.toNat_inj.mp (ht.trans (h.trans hk.symm))

theorem type_ne {t k : UInt16} {n c : Nat} (ht : t.toNat = n) (hk : k.toNat = c) (h : n ≠ c) : ¬ ((t == k) = true) :=
  fun e => h (ht.symm.trans ((congrArg UInt16.toNat (eq_of_beq e)).trans hk))

theorem pos_add4 (p : Nat) : Int64.ofNat p + 4 = Int64.ofNat (p + 4) := (Int64.ofNat_add p 4).symm

theorem pos_sub4 (p : Nat) : Int64.ofNat (p + 4) - 4 = Int64.ofNat p := by
  rw [← pos_add4]; exact Int64.add_sub_cancel _ _

theorem widen16_ofNat (l : UInt16) : l.toUInt64.toInt64 = Int64.ofNat l.toNat := by
  have := l.toNat_lt
  exact Int64.toInt_inj.mp (by rw [widen16, Int64.toInt_ofNat_of_lt (by omega)])

/-- `pos += int(eh.Length) - 4` behind the header: the next field starts `Length` bytes after this
    one (an identity of wrapping arithmetic: no bound is needed) -/
theorem pos_next (p : Nat) (l : UInt16) :
    Int64.ofNat (p + 4) + (l.toUInt64.toInt64 - 4) = Int64.ofNat (p + l.toNat) := by
  rw [Int64.ofNat_add, Int64.ofNat_add, widen16_ofNat, Int64.add_assoc]
  congr 1
  rw [Int64.add_comm]; exact Int64.sub_add_cancel _ _

end ScionTime.LeafNtsDec
