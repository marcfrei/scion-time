/-
  Proofs/Provider.lean — invariants of the key provider model (helper lemmas for Props/C12).
-/
import ScionTime.Model.Provider
namespace ScionTime.Provider

/-- Newest first: ids strictly decreasing, generation times non-increasing. -/
def Sorted (keys : List Key) : Prop := keys.Pairwise (fun a b => b.id < a.id ∧ b.nb ≤ a.nb)

/-- What holds of every state reached at (last clock reading) `now`. -/
structure Inv (P : Params) (now : Int) (s : State) : Prop where
  sorted : Sorted s.keys
  head : ∃ k rest, s.keys = k :: rest ∧ k.id = s.currentId ∧ k.nb = s.generatedAt
  wf : ∀ k ∈ s.keys, k.na = k.nb + P.validity ∧ k.nb ≤ now

theorem validAt_iff (k : Key) (t : Int) : k.validAt t = true ↔ k.nb ≤ t ∧ t ≤ k.na := by
  unfold Key.validAt
  simp only [Bool.not_eq_true', Bool.or_eq_false_iff, decide_eq_false_iff_not]
  omega

theorem find_some {keys : List Key} {id : Int} {k : Key} (h : find keys id = some k) :
    k ∈ keys ∧ k.id = id := by
  unfold find at h
  refine ⟨List.mem_of_find?_eq_some h, ?_⟩
  have := List.find?_some h
  simpa using this

theorem sorted_inj {keys : List Key} (hs : Sorted keys) {a b : Key} (ha : a ∈ keys) (hb : b ∈ keys)
    (hid : a.id = b.id) : a = b := by
  induction keys with
  | nil => cases ha
  | cons x xs ih =>
    have hp := List.pairwise_cons.mp hs
    rcases List.mem_cons.mp ha with rfl | ha' <;> rcases List.mem_cons.mp hb with rfl | hb'
    · rfl
    · have := (hp.1 b hb').1; omega
    · have := (hp.1 a ha').1; omega
    · exact ih hp.2 ha' hb'

theorem find_of_mem {keys : List Key} (hs : Sorted keys) {k : Key} (hk : k ∈ keys) :
    find keys k.id = some k := by
  cases h : find keys k.id with
  | none =>
    unfold find at h
    have := List.find?_eq_none.mp h k hk
    simp at this
  | some k' =>
    have := find_some h
    rw [sorted_inj hs this.1 hk this.2]

theorem inv_ids_le {P now s} (h : Inv P now s) : ∀ k ∈ s.keys, k.id ≤ s.currentId := by
  obtain ⟨k0, rest, hk, hid, _⟩ := h.head
  intro k hk'
  have hs := h.sorted
  rw [hk] at hs hk'
  have hp := List.pairwise_cons.mp hs
  rcases List.mem_cons.mp hk' with rfl | hm
  · omega
  · have := (hp.1 k hm).1; omega

theorem find_current {P now s} (h : Inv P now s) :
    ∃ k, find s.keys s.currentId = some k ∧ k ∈ s.keys ∧ k.nb = s.generatedAt := by
  obtain ⟨k, rest, hk, hid, hnb⟩ := h.head
  have hm : k ∈ s.keys := by rw [hk]; exact List.mem_cons_self
  exact ⟨k, hid ▸ find_of_mem h.sorted hm, hm, hnb⟩

theorem needsRenewal_iff {P now s t} (h : Inv P now s) (hle : now ≤ t) :
    needsRenewal P s t = true ↔ s.generatedAt + P.validity < t ∨ s.generatedAt + P.renewal < t := by
  obtain ⟨k, hf, hk, hnb⟩ := find_current h
  have hwf := h.wf k hk
  simp only [needsRenewal, hf, Bool.or_eq_true, Bool.not_eq_true', decide_eq_true_eq]
  rw [← Bool.not_eq_true, validAt_iff]
  omega

theorem get_some {s : State} {id t : Int} {k : Key} (h : get s id t = some k) :
    find s.keys id = some k ∧ k.validAt t = true := by
  unfold get at h
  split at h
  · cases h
  · rename_i hf
    split at h
    · rename_i hv
      cases h
      exact ⟨hf, hv⟩
    · cases h

theorem get_of_mem {s : State} (hs : Sorted s.keys) {k : Key} (hk : k ∈ s.keys) (t : Int) :
    get s k.id t = if k.validAt t then some k else none := by
  simp only [get, find_of_mem hs hk]

theorem inv_mono {P now now' s} (h : Inv P now s) (hle : now ≤ now') : Inv P now' s :=
  ⟨h.sorted, h.head, fun k hk => ⟨(h.wf k hk).1, by have := (h.wf k hk).2; omega⟩⟩

theorem inv_generateNext {P now s t} (h : Inv P now s) (hle : now ≤ t) :
    Inv P t (generateNext P s t) := by
  refine ⟨?_, ⟨_, _, rfl, rfl, rfl⟩, ?_⟩
  · unfold generateNext Sorted
    simp only
    refine List.pairwise_cons.mpr ⟨?_, List.Pairwise.filter _ h.sorted⟩
    intro b hb
    have hb' := (List.mem_filter.mp hb).1
    have := inv_ids_le h b hb'
    have := (h.wf b hb').2
    simp only
    omega
  · intro k hk
    unfold generateNext at hk
    simp only at hk
    rcases List.mem_cons.mp hk with rfl | hm
    · simp
    · have hm' := (List.mem_filter.mp hm).1
      have := h.wf k hm'
      omega

theorem inv_init (P : Params) (t0 : Int) : Inv P t0 (init P t0) := by
  refine ⟨?_, ⟨_, _, rfl, rfl, rfl⟩, ?_⟩
  · simp [init, generateNext, Sorted]
  · intro k hk
    simp [init, generateNext] at hk
    subst hk
    simp

theorem inv_step {P now s} (op : Op) (h : Inv P now s) (h1 : now ≤ op.tIn) (h2 : op.tIn ≤ op.tOut) :
    Inv P op.tOut (step P s op).1 := by
  cases op with
  | current t1 t2 =>
    simp only [Op.tIn, Op.tOut] at h1 h2 ⊢
    simp only [step, current]
    split
    · exact inv_generateNext h (by omega)
    · exact inv_mono h (by omega)
  | get id t =>
    simp only [Op.tIn, Op.tOut] at h1 h2 ⊢
    exact inv_mono h (by omega)

theorem timed_le_end {now : Int} {ops : List Op} (h : Timed now ops) : now ≤ endTime now ops := by
  induction ops generalizing now with
  | nil => exact Int.le_refl _
  | cons op rest ih =>
    obtain ⟨h1, h2, h3⟩ := h
    have := ih h3
    simp only [endTime]
    omega

theorem inv_exec {P now s} (ops : List Op) (h : Inv P now s) (ht : Timed now ops) :
    Inv P (endTime now ops) (exec P s ops) := by
  induction ops generalizing now s with
  | nil => exact h
  | cons op rest ih =>
    obtain ⟨h1, h2, h3⟩ := ht
    exact ih (inv_step op h h1 h2) h3

theorem timed_append {now : Int} {a b : List Op} :
    Timed now (a ++ b) ↔ Timed now a ∧ Timed (endTime now a) b := by
  induction a generalizing now with
  | nil => simp [Timed, endTime]
  | cons op rest ih => simp only [List.cons_append, Timed, endTime, ih, and_assoc]

theorem endTime_append {now : Int} {a b : List Op} :
    endTime now (a ++ b) = endTime (endTime now a) b := by
  induction a generalizing now with
  | nil => rfl
  | cons op rest ih => simp only [List.cons_append, endTime, ih]

theorem exec_append {P s} {a b : List Op} : exec P s (a ++ b) = exec P (exec P s a) b := by
  induction a generalizing s with
  | nil => rfl
  | cons op rest ih => simp only [List.cons_append, exec, ih]

/-- States reachable from `NewProvider()` at `t0` by a history whose last clock reading is `now`. -/
def Reach (P : Params) (t0 now : Int) (s : State) : Prop :=
  ∃ ops, Timed t0 ops ∧ s = exec P (init P t0) ops ∧ now = endTime t0 ops

theorem reach_inv {P t0 now s} (h : Reach P t0 now s) : Inv P now s := by
  obtain ⟨ops, ht, rfl, rfl⟩ := h
  exact inv_exec ops (inv_init P t0) ht

theorem reach_exec {P t0 now s} (h : Reach P t0 now s) {ops : List Op} (ht : Timed now ops) :
    Reach P t0 (endTime now ops) (exec P s ops) := by
  obtain ⟨ops0, ht0, rfl, rfl⟩ := h
  exact ⟨ops0 ++ ops, timed_append.mpr ⟨ht0, ht⟩, exec_append.symm, endTime_append.symm⟩

/-- A step only adds keys with ids above the old `currentID`; `currentID` never decreases. -/
theorem keys_sub_step {P s} (op : Op) :
    s.currentId ≤ (step P s op).1.currentId ∧
    ∀ k ∈ (step P s op).1.keys, k ∈ s.keys ∨ s.currentId < k.id := by
  cases op with
  | get id t => exact ⟨Int.le_refl _, fun k hk => Or.inl hk⟩
  | current t1 t2 =>
    simp only [step, current]
    split
    · refine ⟨by simp only [generateNext]; omega, fun k hk => ?_⟩
      simp only [generateNext] at hk
      rcases List.mem_cons.mp hk with rfl | hm
      · right; simp only; omega
      · left; exact (List.mem_filter.mp hm).1
    · exact ⟨Int.le_refl _, fun k hk => Or.inl hk⟩

theorem keys_sub_exec {P s} (ops : List Op) :
    s.currentId ≤ (exec P s ops).currentId ∧
    ∀ k ∈ (exec P s ops).keys, k ∈ s.keys ∨ s.currentId < k.id := by
  induction ops generalizing s with
  | nil => exact ⟨Int.le_refl _, fun k hk => Or.inl hk⟩
  | cons op rest ih =>
    have h1 := keys_sub_step (P := P) (s := s) op
    have h2 := ih (s := (step P s op).1)
    refine ⟨by simp only [exec]; omega, fun k hk => ?_⟩
    rcases h2.2 k hk with hm | hlt
    · exact h1.2 k hm
    · right; omega

theorem keys_retained_step {P s} (op : Op) {k : Key} (hk : k ∈ s.keys)
    (hv : k.nb ≤ op.tOut ∧ op.tOut ≤ k.na) : k ∈ (step P s op).1.keys := by
  cases op with
  | get id t => exact hk
  | current t1 t2 =>
    simp only [step, current]
    split
    · simp only [generateNext]
      exact List.mem_cons_of_mem _ (List.mem_filter.mpr ⟨hk, (validAt_iff k t2).mpr hv⟩)
    · exact hk

theorem keys_retained_exec {P s now} (ops : List Op) {k : Key} (hk : k ∈ s.keys)
    (ht : Timed now ops) (hnb : k.nb ≤ now) (hna : endTime now ops ≤ k.na) :
    k ∈ (exec P s ops).keys := by
  induction ops generalizing s now with
  | nil => exact hk
  | cons op rest ih =>
    obtain ⟨h1, h2, h3⟩ := ht
    have hle := timed_le_end h3
    simp only [endTime] at hna
    exact ih (keys_retained_step op hk ⟨by omega, by omega⟩) h3 (by omega) hna

/-- `Current` answers the head of the map: the key with id `currentID`, generated at `generatedAt`. -/
theorem current_key {P now s} (h : Inv P now s) {t1 t2 : Int} (h1 : now ≤ t1) (h2 : t1 ≤ t2) :
    (current P s t1 t2).2 ∈ (current P s t1 t2).1.keys ∧
    (current P s t1 t2).2.id = (current P s t1 t2).1.currentId ∧
    (current P s t1 t2).2.nb = (current P s t1 t2).1.generatedAt := by
  obtain ⟨k, hf, hk, hnb⟩ := find_current (inv_step (.current t1 t2) h h1 h2)
  have e : (current P s t1 t2).2 = k := congrArg (·.getD zeroKey) hf
  rw [e]
  exact ⟨hk, (find_some hf).2, hnb⟩

theorem ans_mem {P now s} (h : Inv P now s) (op : Op) (h1 : now ≤ op.tIn) (h2 : op.tIn ≤ op.tOut)
    {k : Key} (ha : (step P s op).2 = some k) : k ∈ (step P s op).1.keys := by
  cases op with
  | get id t => exact (find_some (get_some ha).1).1
  | current t1 t2 =>
    cases ha
    exact (current_key h h1 h2).1

theorem mem_exec_inj {P now s} (hi : Inv P now s) {k k' : Key} (hk : k ∈ s.keys) (ops : List Op)
    (hk' : k' ∈ (exec P s ops).keys) (hid : k'.id = k.id) : k' = k := by
  rcases (keys_sub_exec ops).2 k' hk' with hin | hlt
  · exact sorted_inj hi.sorted hin hk hid
  · have := inv_ids_le hi k hk
    omega

theorem get_exec_of_mem {P now s} (hi : Inv P now s) {k : Key} (hk : k ∈ s.keys) (ops : List Op)
    (ht : Timed now ops) {t : Int} (he : endTime now ops ≤ t) :
    get (exec P s ops) k.id t = if t ≤ k.na then some k else none := by
  have hnb := (hi.wf k hk).2
  have hle := timed_le_end ht
  split
  · rename_i hna
    have hk2 := keys_retained_exec (P := P) ops hk ht hnb (by omega)
    rw [get_of_mem (inv_exec ops hi ht).sorted hk2, if_pos ((validAt_iff k t).mpr ⟨by omega, hna⟩)]
  · rename_i hna
    cases hg : get (exec P s ops) k.id t with
    | none => rfl
    | some k' =>
      obtain ⟨hf, hv⟩ := get_some hg
      rw [mem_exec_inj hi hk ops (find_some hf).1 (find_some hf).2] at hv
      have := (validAt_iff k t).mp hv
      omega

theorem useStep_ntp (P : Params) (s : State) (id t : Int) (auth : Bool) (c1 c2 : Int) :
    useStep P s (.ntp id t auth c1 c2) =
      if (get s id t).isSome && auth then
        ((current P s c1 c2).1, ⟨get s id t, some (current P s c1 c2).2⟩)
      else (s, ⟨get s id t, none⟩) := by
  simp only [useStep]
  cases get s id t with
  | none => rfl
  | some k => cases auth <;> rfl

theorem useStep_opened (P : Params) (s : State) (id t : Int) (auth : Bool) (c1 c2 : Int) :
    (useStep P s (.ntp id t auth c1 c2)).2.opened = get s id t := by
  rw [useStep_ntp]
  split <;> rfl

end ScionTime.Provider
