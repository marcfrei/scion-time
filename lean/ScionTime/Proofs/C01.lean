/-
  Proofs/C01.lean — helper lemmas for Props/C01.lean (synchronization loop, Model/Sync.lean):
  `Abs`, `Sgn`, `Midpoint` over `Int64.toInt`; the clamp and its bound in the float sense (`FBound`)
  and in the exact sense; one round of the loop; what an accepted configuration satisfies over the
  rationals (`AdmissibleReal`).
-/
import ScionTime.Model.Sync
import ScionTime.Proofs.F64
import ScionTime.Proofs.Int64Arith
import ScionTime.Proofs.Sort

namespace ScionTime.Sync
open ScionTime.F64

theorem absDur_toInt (x : Int64) :
    (absDur x).toInt = if x.toInt = -2^63 then 2^63 - 1 else (x.toInt.natAbs : Int) := by
  have := Int64.le_toInt x
  have := Int64.toInt_lt x
  unfold absDur
  by_cases h0 : x ≥ 0
  · rw [if_pos h0]
    rw [ge_iff_le, Int64.le_iff_toInt_le, Int64.toInt_zero] at h0
    split <;> omega
  · rw [if_neg h0]
    rw [ge_iff_le, Int64.le_iff_toInt_le, Int64.toInt_zero] at h0
    by_cases he : x = Int64.minValue
    · subst he; decide
    · have hne := (Int64Arith.neg_toInt he).1
      rw [if_neg he, (Int64Arith.neg_toInt he).2]
      split <;> omega

theorem absDur_nonneg (x : Int64) : 0 ≤ (absDur x).toInt := by
  rw [absDur_toInt]; split <;> omega

theorem absDur_le_natAbs (x : Int64) : (absDur x).toInt ≤ x.toInt.natAbs := by
  rw [absDur_toInt]; split <;> omega

theorem absDur_eq_natAbs {x : Int64} (h : x.toInt ≠ -2^63) : (absDur x).toInt = x.toInt.natAbs := by
  rw [absDur_toInt]; split <;> omega

theorem absDur_zero_iff (x : Int64) : (absDur x).toInt = 0 ↔ x.toInt = 0 := by
  rw [absDur_toInt]; split <;> omega

theorem sgn_eq (x : Int64) :
    sgn x = if x.toInt < 0 then -1 else if x.toInt > 0 then 1 else 0 := by
  unfold sgn
  have e1 : (x < 0) ↔ x.toInt < 0 := by rw [Int64.lt_iff_toInt_lt, Int64.toInt_zero]
  have e2 : (x > 0) ↔ x.toInt > 0 := by
    show (0 < x) ↔ _; rw [Int64.lt_iff_toInt_lt, Int64.toInt_zero]
  simp only [e1, e2]

/-- `timemath.Midpoint` without wrap-around: when both arguments are below `2^62` in
    magnitude, the result is `x + (y - x) quot 2` over the integers. -/
theorem midpoint_toInt {x y : Int64} (hx : x.toInt.natAbs < 2^62) (hy : y.toInt.natAbs < 2^62) :
    (midpoint x y).toInt = x.toInt + (y.toInt - x.toInt).tdiv 2 :=
  Timemath.midpoint_toInt x y (by omega) (by omega) (by omega) (by omega)

theorem midpoint_between {x y : Int64} (hx : x.toInt.natAbs < 2^62) (hy : y.toInt.natAbs < 2^62) :
    (x.toInt ≤ (midpoint x y).toInt ∧ (midpoint x y).toInt ≤ y.toInt) ∨
    (y.toInt ≤ (midpoint x y).toInt ∧ (midpoint x y).toInt ≤ x.toInt) := by
  rw [midpoint_toInt hx hy]
  have := Timemath.tdiv_two (y.toInt - x.toInt)
  omega

theorem midpoint_natAbs_le {x y : Int64} (hx : x.toInt.natAbs < 2^62) (hy : y.toInt.natAbs < 2^62) :
    (midpoint x y).toInt.natAbs ≤ max x.toInt.natAbs y.toInt.natAbs := by
  have := midpoint_between hx hy
  omega

theorem lt_imp_le {a b : F64} (h : F64.lt a b = true) : F64.le a b = true := le_of_lt h

theorem gt_zero_iff (a : F64) :
    F64.gt a fzero = true ↔ a = .inf false ∨ ∃ q, a = .fin q ∧ 0 < q :=
  gt_iff_of_nonneg a (b := .zero false) rfl Rat.le_refl

/-- `time.Duration(f)` followed by `Abs()` never exceeds `|trunc f|`, including the
    "integer indefinite" result for out-of-range values -/
theorem absDur_ofInt_sat (t : Int) :
    (absDur (Int64.ofInt (if t < -9223372036854775808 ∨ t > 9223372036854775807
        then -9223372036854775808 else t))).toInt ≤ t.natAbs := by
  split
  · have : (Int64.ofInt (-9223372036854775808)).toInt = -2^63 := by decide
    rw [absDur_toInt, this]; simp; omega
  · rename_i h
    have e : (Int64.ofInt t).toInt = t := Int64.toInt_ofInt_of_le (by omega) (by omega)
    have := absDur_le_natAbs (Int64.ofInt t)
    rw [e] at this; exact this

/-- `|time.Duration(v)| ≤ |v|` for a finite double `v`, whatever its size -/
theorem absDur_durOfF64_le (v : Rat) : ((absDur (durOfF64 (.fin v))).toInt : Rat) ≤ v.abs := by
  have e : durOfF64 (.fin v) = Int64.ofInt (if trunc v < -9223372036854775808 ∨
      trunc v > 9223372036854775807 then -9223372036854775808 else trunc v) := rfl
  rw [e]
  refine Rat.le_trans (Rat.intCast_le_intCast.mpr (absDur_ofInt_sat (trunc v))) ?_
  rcases Rat.le_total (a := 0) (b := v) with hv | hv
  · obtain ⟨t0, t1, _⟩ := trunc_of_nonneg hv
    rw [Rat.abs_of_nonneg hv, show ((trunc v).natAbs : Int) = trunc v by omega]
    exact t1
  · obtain ⟨t0, t1, _⟩ := trunc_of_nonpos hv
    rw [Rat.abs_of_nonpos hv, show ((trunc v).natAbs : Int) = -trunc v by omega, Rat.intCast_neg]
    grind

theorem clamp_cases (M : F64) (x : Int64) :
    (F64.gt (f64OfDur (absDur x)) M = false ∧ clamp M x = x) ∨
    (F64.gt (f64OfDur (absDur x)) M = true ∧
      clamp M x = durOfF64 (F64.mul (F64.ofInt (sgn x)) M)) := by
  unfold clamp
  cases h : F64.gt (f64OfDur (absDur x)) M <;> simp

/-- In the clamped branch with a positive finite cap `m`: the new value is
    `time.Duration(±m)`, and its magnitude is at most `m`. -/
theorem clamped_le {m : Rat} (hW : WF (.fin m)) (hm : 0 < m) {x : Int64}
    (hgt : F64.gt (f64OfDur (absDur x)) (.fin m) = true) :
    ((absDur (durOfF64 (F64.mul (F64.ofInt (sgn x)) (.fin m)))).toInt : Rat) ≤ m := by
  have hm' : m.abs = m := Rat.abs_of_nonneg (Rat.le_of_lt hm)
  rw [sgn_eq]
  split
  · rw [mul_negone_left hW]
    have := absDur_durOfF64_le (-m)
    rwa [Rat.abs_neg, hm'] at this
  · split
    · rw [mul_one_left hW]
      have := absDur_durOfF64_le m
      rwa [hm'] at this
    · exfalso
      have hz : x.toInt = 0 := by omega
      have : (absDur x).toInt = 0 := (absDur_zero_iff x).mpr hz
      unfold f64OfDur at hgt
      rw [this, ofInt_zero] at hgt
      simp only [F64.gt, F64.lt, toRat] at hgt
      have := of_decide_eq_true hgt
      grind

/-- the bound "in the float sense": `float64(|x|) <= M` as doubles -/
def FBound (M : F64) (x : Int64) : Prop := F64.le (f64OfDur (absDur x)) M = true

/-- **the clamp bounds** (float sense): for every well-formed cap `M > 0` and every int64 `x` -/
theorem clamp_fbound {M : F64} (hW : WF M) (hpos : F64.gt M fzero = true) (x : Int64) :
    FBound M (clamp M x) := by
  unfold FBound
  have hMn : M ≠ .nan := by intro h; subst h; simp [F64.gt, F64.lt, fzero] at hpos
  rcases clamp_cases M x with ⟨hg, e⟩ | ⟨hg, e⟩
  · rw [e]; exact gt_false_imp_le (roundNE_ne_nan _) hMn hg
  · rcases (gt_zero_iff M).mp hpos with hi | ⟨m, rfl, hm⟩
    · subst hi; unfold F64.gt at hg; rw [lt_inf_false] at hg; exact absurd hg (by simp)
    · rw [e]
      have h := clamped_le hW hm hg
      have := le_roundNE_of_le h
      rw [roundNE_of_WF hW] at this
      exact this

theorem FBound_zero {M : F64} (hpos : F64.gt M fzero = true) : FBound M 0 := by
  unfold FBound f64OfDur
  have : (absDur 0).toInt = 0 := by decide
  rw [this, ofInt_zero]
  rcases (gt_zero_iff M).mp hpos with hi | ⟨m, rfl, hm⟩
  · subst hi; rfl
  · simp only [F64.le, toRat]; exact decide_eq_true (Rat.le_of_lt hm)

theorem ofInt_pow53 : ofInt (2^53) = .fin ((2^53 : Int) : Rat) := ofInt_exact (by decide) (by decide)
theorem ofInt_pow62 : ofInt (2^62) = .fin ((2^62 : Int) : Rat) := by decide +kernel

theorem lt_of_fle {A K : Int} {m : Rat} (hK : ofInt K = .fin (K : Rat)) (hm : m < (K : Rat))
    (h : F64.le (ofInt A) (.fin m) = true) : A < K := by
  by_cases hA : A < K
  · exact hA
  · exfalso
    have h1 := ofInt_mono (show K ≤ A by omega)
    rw [hK] at h1
    have := le_fin_iff.mp (le_trans' h1 h)
    grind

theorem le_of_fle_exact {A : Int} {m : Rat} (hA : 0 ≤ A) (hm : m < ((2^53 : Int) : Rat))
    (h : F64.le (ofInt A) (.fin m) = true) : (A : Rat) ≤ m := by
  have hA2 := lt_of_fle ofInt_pow53 hm h
  by_cases h0 : A = 0
  · subst h0; rw [ofInt_zero] at h
    simp only [F64.le, toRat] at h
    simpa using of_decide_eq_true h
  · rw [ofInt_exact h0 (by omega)] at h
    exact le_fin_iff.mp h

/-- below `2^53` the float-sense bound is the exact one, `|x| ≤ M` over the rationals -/
theorem exact_of_FBound {M : F64} {x : Int64} (hM : ∃ m, M = .fin m ∧ 0 < m)
    (h53 : toRat M < ((2^53 : Int) : Rat)) (h : FBound M x) :
    ((x.toInt.natAbs : Int) : Rat) ≤ toRat M := by
  obtain ⟨m, rfl, _⟩ := hM
  have hm : m < ((2^53 : Int) : Rat) := h53
  unfold FBound f64OfDur at h
  have h1 := le_of_fle_exact (absDur_nonneg _) hm h
  have hne : x.toInt ≠ -2^63 := by
    intro hh
    rw [absDur_toInt, if_pos hh] at h1
    have : (((2^63 - 1 : Int)) : Rat) < ((2^53 : Int) : Rat) := by grind
    have := Rat.intCast_lt_intCast.mp this
    omega
  rw [absDur_eq_natAbs hne] at h1
  exact h1

theorem FBound_mono {M : F64} {x y : Int64} (h : (absDur x).toInt ≤ (absDur y).toInt)
    (hy : FBound M y) : FBound M x := by
  unfold FBound f64OfDur at *
  exact le_trans' (ofInt_mono h) hy

theorem FBound_weaken {M N : F64} {x : Int64} (h : F64.le M N = true) (hx : FBound M x) :
    FBound N x := le_trans' hx h

theorem natAbs_lt_of_FBound {m : Rat} {x : Int64} (hm : m < ((2^62 : Int) : Rat))
    (h : FBound (.fin m) x) : x.toInt.natAbs < 2^62 := by
  unfold FBound f64OfDur at h
  have h1 := lt_of_fle ofInt_pow62 hm h
  have := Int64.le_toInt x
  rw [absDur_toInt] at h1
  split at h1 <;> omega

theorem peerPart_within_cutoff {M : F64} {cutoff x : Int64} (hp : Bool)
    (h : absDur x ≤ cutoff) : peerPart M cutoff hp x = (x, false) := by
  unfold peerPart
  rw [if_neg (Int64.not_lt.mpr h)]

theorem peerPart_beyond_cutoff {M : F64} {cutoff x : Int64} (hp : Bool)
    (h : absDur x > cutoff) : peerPart M cutoff hp x = (clamp M x, hp) := by
  unfold peerPart; rw [if_pos h]

/-- the midpoint of two values bounded (float sense) by caps below `2^62` is bounded by one
    of the two caps -/
theorem midpoint_FBound {mr mp : Rat} {a b : Int64}
    (hr62 : mr < ((2^62 : Int) : Rat)) (hp62 : mp < ((2^62 : Int) : Rat))
    (ha : FBound (.fin mr) a) (hb : FBound (.fin mp) b) :
    FBound (.fin mr) (midpoint a b) ∨ FBound (.fin mp) (midpoint a b) := by
  have ha2 := natAbs_lt_of_FBound hr62 ha
  have hb2 := natAbs_lt_of_FBound hp62 hb
  have hm := midpoint_natAbs_le ha2 hb2
  have hmid := absDur_le_natAbs (midpoint a b)
  have ea : (absDur a).toInt = a.toInt.natAbs := absDur_eq_natAbs (by omega)
  have eb : (absDur b).toInt = b.toInt.natAbs := absDur_eq_natAbs (by omega)
  by_cases hc : (midpoint a b).toInt.natAbs ≤ a.toInt.natAbs
  · exact Or.inl (FBound_mono (by omega) ha)
  · exact Or.inr (FBound_mono (by omega) hb)

/-- **one round, float sense**: whatever the two measured offsets are, the argument of
    `adj.Do` is bounded by the reference cap or by the peer cap. -/
theorem correction_FBound (c : Cfg) {mr mp : Rat}
    (er : refCap c = .fin mr) (ep : peerCap c = .fin mp) (hr : 0 < mr) (hp : 0 < mp)
    (hr62 : mr < ((2^62 : Int) : Rat)) (hp62 : mp < ((2^62 : Int) : Rat))
    (haveRefs havePeers : Bool) (refOff peerOff : Int64) :
    FBound (refCap c) (correction c haveRefs havePeers refOff peerOff) ∨
    FBound (peerCap c) (correction c haveRefs havePeers refOff peerOff) := by
  have wr : WF (refCap c) := WF_mul _ _
  have wp : WF (peerCap c) := WF_mul _ _
  have gr : F64.gt (refCap c) fzero = true := (gt_zero_iff _).mpr (Or.inr ⟨mr, er, hr⟩)
  have gp : F64.gt (peerCap c) fzero = true := (gt_zero_iff _).mpr (Or.inr ⟨mp, ep, hp⟩)
  have ha := clamp_fbound wr gr refOff
  have hb := clamp_fbound wp gp peerOff
  unfold correction peerPart
  by_cases hcut : absDur peerOff > c.cutoff
  · rw [if_pos hcut]
    cases haveRefs <;> cases havePeers <;> simp only [combine]
    · exact Or.inl (FBound_zero gr)
    · exact Or.inr hb
    · exact Or.inl ha
    · rw [er, ep] at *
      exact midpoint_FBound hr62 hp62 ha hb
  · rw [if_neg hcut]
    cases haveRefs <;> simp only [combine]
    · exact Or.inl (FBound_zero gr)
    · exact Or.inl ha

theorem one_eq : one = .fin 1 := by
  unfold one; rw [ofInt_exact (by decide) (by decide)]; simp

theorem isNone_ite_some {α : Type} {p : Prop} [Decidable p] (e : α) (r : Option α) :
    (if p then some e else r).isNone = true ↔ ¬ p ∧ r.isNone = true := by
  split <;> simp [*]

/-- literal reading of `startup`, the prologue of `Run` with the F14 NaN/Inf checks -/
theorem admissible_iff_literal (c : Cfg) : admissible c = true ↔
    F64.gt c.refImpact one = true ∧ F64.gt c.peerImpact one = true ∧
    F64.gt (F64.sub c.peerImpact one) c.refImpact = true ∧
    ¬ c.interval ≤ 0 ∧ ¬ (c.timeout < 0 ∨ c.timeout > c.interval / 2) ∧
    F64.gt (refCap c) fzero = true ∧ refCap c ≠ .inf false ∧
    F64.gt (peerCap c) fzero = true ∧ peerCap c ≠ .inf false := by
  unfold admissible startup
  simp only [isNone_ite_some, Option.isNone_none, and_true, Bool.not_eq_true', Bool.not_eq_false,
    Bool.or_eq_true, not_or, beq_iff_eq, ne_eq, and_assoc]

theorem gt_pos_fin {a : F64} (h : F64.gt a fzero = true) (hi : a ≠ .inf false) :
    ∃ q, a = .fin q ∧ 0 < q := by
  rcases (gt_zero_iff a).mp h with h | h
  · exact absurd h hi
  · exact h

theorem refCap_pos_fin {c : Cfg} (ha : admissible c = true) : ∃ m, refCap c = .fin m ∧ 0 < m := by
  obtain ⟨_, _, _, _, _, h6, h7, _, _⟩ := (admissible_iff_literal c).mp ha
  exact gt_pos_fin h6 h7

theorem peerCap_pos_fin {c : Cfg} (ha : admissible c = true) : ∃ m, peerCap c = .fin m ∧ 0 < m := by
  obtain ⟨_, _, _, _, _, _, _, h8, h9⟩ := (admissible_iff_literal c).mp ha
  exact gt_pos_fin h8 h9

theorem run_of_admissible {c : Cfg} (ha : admissible c = true) (h : List RoundInput) :
    run c h = .ok (runFrom c (init c) h) := by
  unfold admissible at ha
  unfold run
  cases hs : startup c with
  | some e => rw [hs] at ha; exact absurd ha (by simp)
  | none => rfl

theorem roundNE_pos_arg {q : Rat} (h : F64.gt (roundNE q) fzero = true) : 0 < q := by
  rcases (gt_zero_iff _).mp h with hi | ⟨v, e, hv⟩
  · rcases roundNE_class q with ⟨_, _, h0⟩ | ⟨e', _⟩ | ⟨hf, _⟩
    · exact h0
    · rw [hi] at e'; exact F64.noConfusion e' (fun h => by cases h)
    · rw [hi] at hf; exact Bool.noConfusion hf
  · by_cases hq : 0 < q
    · exact hq
    · exfalso
      have := roundNE_nonpos (show q ≤ 0 by grind)
      rw [e] at this; simp only [toRat] at this; grind

theorem interval_timeout_int {interval timeout : Int64}
    (h1 : ¬ interval ≤ 0) (h2 : ¬ (timeout < 0 ∨ timeout > interval / 2)) :
    0 < interval.toInt ∧ 0 ≤ timeout.toInt ∧ 2 * timeout.toInt ≤ interval.toInt := by
  simp only [Int64.le_iff_toInt_le, Int64.toInt_zero] at h1
  simp only [gt_iff_lt, Int64.lt_iff_toInt_lt, Int64.toInt_zero, Int64Arith.toInt_half] at h2
  rw [Int.tdiv_eq_ediv_of_nonneg (by omega)] at h2
  omega

/-- What an accepted configuration satisfies, over the rationals / integers: the
    inequalities of the property statement, positive finite ordered caps. -/
structure AdmissibleReal (c : Cfg) (r p d mr mp : Rat) : Prop where
  refImpact : c.refImpact = .fin r
  peerImpact : c.peerImpact = .fin p
  ref_gt_one : 1 < r
  peer_gt_one : 1 < p
  gap : r < p - 1
  drift_f : f64OfDur c.drift = .fin d
  drift_pos : 0 < c.drift.toInt
  d_pos : 0 < d
  interval_pos : 0 < c.interval.toInt
  timeout_nonneg : 0 ≤ c.timeout.toInt
  timeout_le : 2 * c.timeout.toInt ≤ c.interval.toInt
  refCap : refCap c = .fin mr
  peerCap : peerCap c = .fin mp
  refCap_eq : F64.fin mr = roundNE (r * d)
  peerCap_eq : F64.fin mp = roundNE (p * d)
  mr_pos : 0 < mr
  caps_le : mr ≤ mp

theorem admissible_real (c : Cfg) (wr : WF c.refImpact)
    (h : admissible c = true) : ∃ r p d mr mp, AdmissibleReal c r p d mr mp := by
  obtain ⟨h1, h2, h3, h4, h5, h6, h7, h8, h9⟩ := (admissible_iff_literal c).mp h
  obtain ⟨hi, ht, ht2⟩ := interval_timeout_int h4 h5
  obtain ⟨mr, emr, hmr⟩ := gt_pos_fin h6 h7
  obtain ⟨mp, emp, hmp⟩ := gt_pos_fin h8 h9
  -- finite caps: the factors and the drift are finite doubles
  obtain ⟨r, d, er, ed, emr'⟩ := mul_eq_fin emr
  obtain ⟨p, d', ep, ed', emp'⟩ := mul_eq_fin emp
  obtain rfl : d = d' := by rw [ed] at ed'; cases ed'; rfl
  rw [er, one_eq] at h1
  rw [ep, one_eq] at h2
  have hr : 1 < r := lt_fin_iff.mp h1
  have hp : 1 < p := lt_fin_iff.mp h2
  have hrd : 0 < r * d := roundNE_pos_arg (by rw [← emr']; exact (gt_zero_iff _).mpr (Or.inr ⟨mr, rfl, hmr⟩))
  have hd : 0 < d := by
    by_cases hd : 0 < d
    · exact hd
    · exfalso
      have : r * d ≤ 0 := by
        have := Rat.mul_le_mul_of_nonneg_left (show d ≤ 0 by grind) (show 0 ≤ r by grind)
        simpa using this
      grind
  have hdrift : 0 < c.drift.toInt := by
    have := roundNE_pos_arg (q := (c.drift.toInt : Rat))
      (by rw [show roundNE _ = f64OfDur c.drift from rfl, ed]; exact (gt_zero_iff _).mpr (Or.inr ⟨d, rfl, hd⟩))
    exact_mod_cast this
  -- peer − 1 > ref over the rationals
  have hgap : r < p - 1 := by
    by_cases hg : r < p - 1
    · exact hg
    · exfalso
      rw [er, ep, one_eq] at h3
      have e3 : F64.sub (.fin p) (.fin 1) = roundNE (p + -1) := rfl
      rw [e3] at h3
      have hle := le_roundNE_of_le (show p + -1 ≤ r by grind)
      rw [er] at wr
      rw [roundNE_of_WF wr] at hle
      have := lt_of_lt_of_le' h3 hle
      exact Rat.lt_irrefl (lt_fin_iff.mp this)
  have hcaps : mr ≤ mp := by
    have := mul_mono_left (Rat.le_of_lt hd) (show r ≤ p by grind)
    rw [← emr', ← emp'] at this
    exact le_fin_iff.mp this
  exact ⟨r, p, d, mr, mp, ⟨er, ep, hr, hp, hgap, ed, hdrift, hd, hi, ht, ht2, emr, emp, emr', emp', hmr, hcaps⟩⟩

/-- a property of the corrections holds along every history if each round establishes it and
    keeps an invariant of the result slices -/
theorem runFrom_forall_inv (c : Cfg) (I : State → Prop) (P : Int64 → Prop)
    (hP : ∀ st i, I st → I (round c st i).1 ∧ P (round c st i).2) :
    ∀ (h : List RoundInput) (st : State), I st → ∀ x ∈ runFrom c st h, P x := by
  intro h
  induction h with
  | nil => intro st _ x hx; simp [runFrom] at hx
  | cons i is ih =>
    intro st hI x hx
    simp only [runFrom, List.mem_cons] at hx
    rcases hx with rfl | hx
    · exact (hP st i hI).2
    · exact ih _ (hP st i hI).1 x hx

theorem runFrom_forall (c : Cfg) (P : Int64 → Prop) (hP : ∀ st i, P (round c st i).2)
    (h : List RoundInput) (st : State) : ∀ x ∈ runFrom c st h, P x :=
  runFrom_forall_inv c (fun _ => True) P (fun st i _ => ⟨trivial, hP st i⟩) h st trivial

theorem correction_no_peers (c : Cfg) (haveRefs : Bool) (r p : Int64) :
    correction c haveRefs false r p = if haveRefs then clamp (refCap c) r else 0 := by
  unfold correction peerPart
  split <;> cases haveRefs <;> rfl

theorem insertSorted_length (x : Int64) (l : List Int64) : (insertSorted x l).length = l.length + 1 := by
  induction l with
  | nil => rfl
  | cons y ys ih => unfold insertSorted; split <;> simp [ih]

theorem sortOffsets_length (l : List Int64) : (sortOffsets l).length = l.length := by
  induction l with
  | nil => rfl
  | cons x xs ih => simp [sortOffsets, insertSorted_length, ih]

/-- the cap is the real product up to one rounding: relative error at most 2^-53 -/
theorem cap_rel_err {f d m : Rat} (hf : 1 < f) (hd : 1 ≤ d) (h : F64.fin m = roundNE (f * d)) :
    (m - f * d).abs ≤ (f * d) / pow2 53 := by
  have hpos : 1 ≤ f * d := by
    have := Rat.mul_le_mul_of_nonneg_left hd (show (0:Rat) ≤ f by grind)
    grind
  have habs : (f * d).abs = f * d := Rat.abs_of_nonneg (by grind)
  have := rnd_err_rel (q := f * d) (by rw [habs]; exact Rat.le_trans (pow2_le_one (by decide)) hpos)
  rwa [habs, ← (roundNE_eq_fin h.symm).1] at this

theorem drift_d_ge_one {x : Int64} {d : Rat} (h : f64OfDur x = .fin d) (hx : 0 < x.toInt) : 1 ≤ d := by
  have := ofInt_mono (show (1 : Int) ≤ x.toInt by omega)
  unfold f64OfDur at h
  rw [h, ofInt_exact (by decide) (by decide)] at this
  simpa using le_fin_iff.mp this

theorem drift_d_exact {x : Int64} {d : Rat} (h : f64OfDur x = .fin d) (hx : 0 < x.toInt)
    (h53 : x.toInt ≤ 2^53) : d = (x.toInt : Rat) := by
  unfold f64OfDur at h
  rw [ofInt_exact (by omega) (by omega)] at h
  cases h; rfl

end ScionTime.Sync
