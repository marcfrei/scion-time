/-
  Byte-level lemmas for the ties of the wire codecs (leaf translator): the bytes
  Go's `byte(x >> 8k)` writes for one field (`b16`, `b32`, `b64`, `bi16`, `arrN`) and the value
  `uintN(b0)<<… | … | uintN(bk)` reads (`be16` … `be64`), over the naturals. Core Lean only.
-/
import ScionTime.Model.WireFields
import ScionTime.Proofs.GoPrelude
import ScionTime.Model.GoPrelude2
import ScionTime.Proofs.WireFields
namespace ScionTime.LeafBytes
open ScionTime ScionTime.Wire ScionTime.GoLemmas

/-- `A | B = A + B` when `B` fits below the lowest set bit of `A` -/
theorem or_eq_add (A B i : Nat) (hB : B < 2 ^ i) (hA : 2 ^ i ∣ A) : A ||| B = A + B := by
  obtain ⟨k, rfl⟩ := hA
  rw [Nat.mul_comm, ← Nat.shiftLeft_eq]
  exact (Nat.shiftLeft_add_eq_or_of_lt hB k).symm

theorem mask_ne (y k : UInt8) : ((y &&& k) != y) = true ↔ y.toNat &&& k.toNat ≠ y.toNat := by
  rw [bne_iff_ne, ne_eq, ← UInt8.toNat_inj, UInt8.toNat_and]

/-! ### encoders: the bytes written for one field, `byte(x >> 8(w-1)), …, byte(x)` -/

def b16 (x : UInt16) : List UInt8 := [(x >>> (8 : UInt16)).toUInt64.toUInt8, x.toUInt64.toUInt8]

def b32 (x : UInt32) : List UInt8 :=
  [(x >>> (24 : UInt32)).toUInt64.toUInt8, (x >>> (16 : UInt32)).toUInt64.toUInt8, (x >>> (8 : UInt32)).toUInt64.toUInt8,
    x.toUInt64.toUInt8]

def b64 (x : UInt64) : List UInt8 :=
  [(x >>> (56 : UInt64)).toUInt8, (x >>> (48 : UInt64)).toUInt8, (x >>> (40 : UInt64)).toUInt8, (x >>> (32 : UInt64)).toUInt8,
    (x >>> (24 : UInt64)).toUInt8, (x >>> (16 : UInt64)).toUInt8, (x >>> (8 : UInt64)).toUInt8, x.toUInt8]

/-- a fixed-size array `[n]byte` copied element by element, `b[k] = a[0]; …; b[k+n-1] = a[n-1]` -/
def arrN (n : Nat) (a : List UInt8) : List UInt8 := (List.range n).map fun i => Go.arrGet a i 0

theorem b16_bytes (x : UInt16) : (b16 x).map UInt8.toNat = beBytes 2 x.toNat := by
  simp [b16, beBytes, Nat.shiftRight_eq_div_pow]

theorem b32_bytes (x : UInt32) : (b32 x).map UInt8.toNat = beBytes 4 x.toNat := by
  simp [b32, beBytes, Nat.shiftRight_eq_div_pow]

theorem b64_bytes (x : UInt64) : (b64 x).map UInt8.toNat = beBytes 8 x.toNat := by
  simp [b64, beBytes, Nat.shiftRight_eq_div_pow]

theorem allBytes_map (l : List UInt8) : AllBytes (l.map UInt8.toNat) := by
  intro x hx
  obtain ⟨y, _, rfl⟩ := List.mem_map.mp hx
  exact y.toNat_lt

theorem arrN_eq (a : List UInt8) : arrN a.length a = a := by
  apply List.ext_getElem (by simp [arrN])
  intro i h1 h2
  simp [arrN, Go.arrGet, h2]

theorem arrN_bytes (n : Nat) (a : List UInt8) (h : a.length = n) :
    (arrN n a).map UInt8.toNat = beBytes n (beVal (a.map UInt8.toNat)) := by
  subst h
  rw [arrN_eq]
  exact ((List.length_map (as := a) UInt8.toNat) ▸ beBytes_beVal _ (allBytes_map a)).symm

theorem u64_b (x : UInt64) (k : Nat) (hk : k < 8) :
    (((x >>> (UInt64.ofNat (8 * k)))).toUInt8).toNat = x.toNat / 256 ^ k % 256 := by
  have : k = 0 ∨ k = 1 ∨ k = 2 ∨ k = 3 ∨ k = 4 ∨ k = 5 ∨ k = 6 ∨ k = 7 := by omega
  rcases this with rfl | rfl | rfl | rfl | rfl | rfl | rfl | rfl <;> simp [Nat.shiftRight_eq_div_pow]

/-! ### decoders: `uintN(b0)<<8(n-1) | … | uintN(b(n-1))` -/

theorem byte_shl_lt (y s w : Nat) (hy : y < 256) (hs : s + 8 ≤ w) : y * 2 ^ s < 2 ^ w :=
  Nat.lt_of_lt_of_le (Nat.mul_lt_mul_of_pos_right hy (Nat.pow_pos (by decide)))
    (by rw [show 2 ^ 8 * 2 ^ s = 2 ^ (8 + s) from (Nat.pow_add 2 8 s).symm]; exact Nat.pow_le_pow_right (by decide) (by omega))

/-- one more byte under the partial OR: the bits of `y · 2^s` lie below those of `beVal l · 2^(s+8)` -/
theorem or_byte (X y : Nat) (l : List Nat) (s : Nat) (hy : y < 256) (hX : X = beVal l * 2 ^ (s + 8)) :
    X ||| y * 2 ^ s = beVal (l ++ [y]) * 2 ^ s := by
  rw [hX, beVal_snoc,
    or_eq_add _ _ (s + 8) (by rw [Nat.pow_add, Nat.mul_comm]; exact Nat.mul_lt_mul_of_pos_left hy (Nat.pow_pos (by decide)))
      (Nat.dvd_mul_left _ _),
    Nat.pow_add, Nat.add_mul, Nat.mul_assoc, Nat.mul_comm (2 ^ s) (2 ^ 8)]

theorem or_byte_last (X y : Nat) (l : List Nat) (hy : y < 256) (hX : X = beVal l * 2 ^ 8) : X ||| y = beVal (l ++ [y]) := by
  rw [hX, beVal_snoc, or_eq_add _ _ 8 hy (Nat.dvd_mul_left _ _)]

theorem be16 (a b : UInt8) :
    (((a).toUInt64.toUInt16 <<< (8 : UInt16)) ||| ((b).toUInt64.toUInt16)).toNat = beVal [a.toNat, b.toNat] := by
  have ha := a.toNat_lt; have hb := b.toNat_lt
  simp only [UInt16.toNat_or, UInt16.toNat_shiftLeft, UInt64.toNat_toUInt16, UInt8.toNat_toUInt64]
  have e : (8 : UInt16).toNat % 16 = 8 := rfl
  rw [e, Nat.shiftLeft_eq, Nat.mod_eq_of_lt (show b.toNat < 2 ^ 16 by omega)]
  exact or_byte_last _ _ [a.toNat] hb (by rw [beVal_single]; omega)

theorem low32 (y : UInt8) : y.toUInt64.toUInt32.toNat = y.toNat := by
  rw [UInt64.toNat_toUInt32, UInt8.toNat_toUInt64, Nat.mod_eq_of_lt (Nat.lt_trans y.toNat_lt (by decide))]

theorem shl32_toNat (y : UInt8) (s : Nat) (hs : s ≤ 24) : (y.toUInt64.toUInt32 <<< UInt32.ofNat s).toNat = y.toNat * 2 ^ s := by
  have h1 : (UInt32.ofNat s).toNat % 32 = s := by
    rw [UInt32.toNat_ofNat_of_lt' (Nat.lt_of_le_of_lt hs (by decide))]
    exact Nat.mod_eq_of_lt (by omega)
  rw [UInt32.toNat_shiftLeft, h1, low32, Nat.shiftLeft_eq, Nat.mod_eq_of_lt (byte_shl_lt _ s 32 y.toNat_lt (by omega))]

theorem or_shl32 (X : UInt32) (y : UInt8) (l : List Nat) (s : Nat) (hs : s ≤ 24) (hX : X.toNat = beVal l * 2 ^ (s + 8)) :
    (X ||| (y.toUInt64.toUInt32 <<< UInt32.ofNat s)).toNat = beVal (l ++ [y.toNat]) * 2 ^ s := by
  rw [UInt32.toNat_or, shl32_toNat y s hs]
  exact or_byte _ _ l s y.toNat_lt hX

theorem or_last32 (X : UInt32) (y : UInt8) (l : List Nat) (hX : X.toNat = beVal l * 2 ^ 8) :
    (X ||| y.toUInt64.toUInt32).toNat = beVal (l ++ [y.toNat]) := by
  rw [UInt32.toNat_or, low32]
  exact or_byte_last _ _ l y.toNat_lt hX

theorem be32 (a b c d : UInt8) :
    ((((a).toUInt64.toUInt32 <<< (24 : UInt32)) ||| ((b).toUInt64.toUInt32 <<< (16 : UInt32))) |||
      ((c).toUInt64.toUInt32 <<< (8 : UInt32)) ||| ((d).toUInt64.toUInt32)).toNat =
      beVal [a.toNat, b.toNat, c.toNat, d.toNat] :=
  or_last32 _ d _ (or_shl32 _ c _ 8 (by decide) (or_shl32 _ b _ 16 (by decide)
    ((shl32_toNat a 24 (by decide)).trans (by rw [beVal_single]))))

theorem shl_toNat (y : UInt8) (s : Nat) (hs : s ≤ 56) : (y.toUInt64 <<< UInt64.ofNat s).toNat = y.toNat * 2 ^ s := by
  have h1 : (UInt64.ofNat s).toNat % 64 = s := by
    rw [UInt64.toNat_ofNat_of_lt' (Nat.lt_of_le_of_lt hs (by decide))]
    exact Nat.mod_eq_of_lt (by omega)
  rw [UInt64.toNat_shiftLeft, UInt8.toNat_toUInt64, h1, Nat.shiftLeft_eq,
    Nat.mod_eq_of_lt (byte_shl_lt _ s 64 y.toNat_lt (by omega))]

theorem or_shl (X : UInt64) (y : UInt8) (l : List Nat) (s : Nat) (hs : s ≤ 56) (hX : X.toNat = beVal l * 2 ^ (s + 8)) :
    (X ||| (y.toUInt64 <<< UInt64.ofNat s)).toNat = beVal (l ++ [y.toNat]) * 2 ^ s := by
  rw [UInt64.toNat_or, shl_toNat y s hs]
  exact or_byte _ _ l s y.toNat_lt hX

theorem or_last (X : UInt64) (y : UInt8) (l : List Nat) (hX : X.toNat = beVal l * 2 ^ 8) :
    (X ||| y.toUInt64).toNat = beVal (l ++ [y.toNat]) := by
  rw [UInt64.toNat_or, UInt8.toNat_toUInt64]
  exact or_byte_last _ _ l y.toNat_lt hX

theorem shl_first (y : UInt8) (s : Nat) (hs : s ≤ 56) : (y.toUInt64 <<< UInt64.ofNat s).toNat = beVal [y.toNat] * 2 ^ s := by
  rw [shl_toNat y s hs, beVal_single]

theorem be48 (a b c d e f : UInt8) :
    (((((((a).toUInt64 <<< (40 : UInt64)) ||| ((b).toUInt64 <<< (32 : UInt64))) ||| ((c).toUInt64 <<< (24 : UInt64))) ||| ((d).toUInt64 <<< (16 : UInt64))) ||| ((e).toUInt64 <<< (8 : UInt64))) ||| ((f).toUInt64)).toNat =
      beVal [a.toNat, b.toNat, c.toNat, d.toNat, e.toNat, f.toNat] :=
  or_last _ f _ (or_shl _ e _ 8 (by decide) (or_shl _ d _ 16 (by decide) (or_shl _ c _ 24 (by decide)
    (or_shl _ b _ 32 (by decide) (shl_first a 40 (by decide))))))

theorem be64 (a b c d e f g h : UInt8) :
    (((((((((a).toUInt64 <<< (56 : UInt64)) ||| ((b).toUInt64 <<< (48 : UInt64))) ||| ((c).toUInt64 <<< (40 : UInt64))) ||| ((d).toUInt64 <<< (32 : UInt64))) ||| ((e).toUInt64 <<< (24 : UInt64))) ||| ((f).toUInt64 <<< (16 : UInt64))) ||| ((g).toUInt64 <<< (8 : UInt64))) ||| ((h).toUInt64)).toNat =
      beVal [a.toNat, b.toNat, c.toNat, d.toNat, e.toNat, f.toNat, g.toNat, h.toNat] :=
  or_last _ h _ (or_shl _ g _ 8 (by decide) (or_shl _ f _ 16 (by decide) (or_shl _ e _ 24 (by decide)
    (or_shl _ d _ 32 (by decide) (or_shl _ c _ 40 (by decide) (or_shl _ b _ 48 (by decide) (shl_first a 56 (by decide))))))))

/-- `byte(x >> 8), byte(x)` for an `int16` -/
def bi16 (x : Int16) : List UInt8 := [(x >>> (8 : Int16)).toInt64.toUInt64.toUInt8, x.toInt64.toUInt64.toUInt8]

/-- `byte(uint64(z))` keeps the low eight bits of the two's complement -/
theorem i64_low (z : Int64) : (z.toUInt64.toUInt8).toNat = toU 8 z.toInt := by
  have h := toNat_toUInt64 z
  rw [UInt64.toNat_toUInt8]
  unfold toU
  omega

theorem i8_b (x : Int8) : ((x).toInt64.toUInt64.toUInt8).toNat = toU 8 x.toInt := by
  rw [i64_low, Int8.toInt_toInt64]

theorem bi16_bytes (x : Int16) : (bi16 x).map UInt8.toNat = beBytes 2 (toU 16 x.toInt) := by
  have hs : (x >>> (8 : Int16)).toInt = x.toInt / 256 := by
    rw [← Int16.toInt_toBitVec, Int16.toBitVec_shiftRight, BitVec.toInt_sshiftRight']
    have : ((8 : Int16).toBitVec.smod 16).toNat = 8 := by decide
    rw [this, Int16.toInt_toBitVec, Int.shiftRight_eq_div_pow]
    rfl
  have h1 : toU 8 (x.toInt / 256) = toU 16 x.toInt / 256 % 256 := by
    unfold toU
    omega
  have h0 : toU 8 x.toInt = toU 16 x.toInt % 256 := by
    unfold toU
    omega
  simp only [bi16, List.map_cons, List.map_nil, i64_low, Int16.toInt_toInt64, hs, h1, h0, beBytes, Nat.pow_zero,
    Nat.pow_one, Nat.div_one]

/-- `uint64(x)` / `int64(u)`: two's complement -/
theorem i64_u (x : Int64) : x.toUInt64.toNat = toU 64 x.toInt := by
  have := toNat_toUInt64 x
  unfold toU
  omega

theorem u_i64 (u : UInt64) : u.toInt64.toInt = ofU 64 u.toNat := by
  have h := toNat_toUInt64 u.toInt64
  rw [UInt64.toUInt64_toInt64] at h
  have hl := Int64.le_toInt u.toInt64
  have hu := Int64.toInt_lt u.toInt64
  unfold ofU
  split <;> omega

theorem widen16 (u : UInt16) : (u.toUInt64.toInt64).toInt = u.toNat := by
  have := u.toNat_lt
  rw [u_i64, UInt16.toNat_toUInt64]
  unfold ofU
  rw [if_pos (by omega)]

/-- `intN(int64(uint64(u)))` reduces `u` symmetrically (`Int.bmod`), which is `ofU` on `u < 2^N` -/
theorem u16_i16 (u : UInt16) : (u.toUInt64.toInt64.toInt16).toInt = ofU 16 u.toNat := by
  have := u.toNat_lt
  rw [Int64.toInt_toInt16, widen16, Int.bmod_def]
  unfold ofU
  split <;> split <;> omega

theorem u8_i8 (x : UInt8) : ((x).toUInt64.toInt64.toInt8).toInt = ofU 8 x.toNat := by
  have := x.toNat_lt
  rw [Int64.toInt_toInt8, u_i64, UInt8.toNat_toUInt64, Int.bmod_def]
  unfold ofU
  rw [if_pos (show x.toNat < 2 ^ (64 - 1) by omega)]
  split <;> split <;> omega

theorem u8_b (x : UInt8) : x.toNat / 256 ^ 0 % 256 = x.toNat := by
  have := x.toNat_lt; omega

theorem toU8_b (x : Int) : toU 8 x / 256 ^ 0 % 256 = toU 8 x := by
  have := toU_lt8 x; omega

theorem list6 {α : Type} (l : List α) (h : l.length = 6) : ∃ a b c d e f, l = [a, b, c, d, e, f] := by
  match l, h with
  | [a, b, c, d, e, f], _ => exact ⟨a, b, c, d, e, f, rfl⟩

/-! ### decoders without destructuring the input: fields read at absolute positions -/

def fieldsAt : List Nat → List Nat → Nat → List Nat
  | [], _, _ => []
  | w :: ws, l, k => beVal ((List.range w).map (fun i => l.getD (k + i) 0)) :: fieldsAt ws l (k + w)

theorem take_drop_range (l : List Nat) (k w : Nat) (h : k + w ≤ l.length) :
    (l.drop k).take w = (List.range w).map (fun i => l.getD (k + i) 0) := by
  apply List.ext_getElem
  · simp; omega
  · intro i h1 h2
    simp only [List.getElem_take, List.getElem_drop, List.getElem_map, List.getElem_range]
    simp only [List.length_take, List.length_drop] at h1
    simp only [List.getD_eq_getElem?_getD, List.getElem?_eq_getElem (show k + i < l.length by omega), Option.getD_some]

theorem fieldsOf_at : ∀ (ws : List Nat) (l : List Nat) (k : Nat), k + layoutLen ws ≤ l.length →
    fieldsOf ws (l.drop k) = fieldsAt ws l k
  | [], _, _, _ => rfl
  | w :: ws, l, k, h => by
    simp only [layoutLen] at h
    simp only [fieldsOf, fieldsAt, List.drop_drop]
    rw [take_drop_range l k w (by omega), fieldsOf_at ws l (k + w) (by omega)]

theorem getK_getD (b : List UInt8) (k : Nat) (h : k < b.length) : Go.getK? b k = some (b.getD k 0) := by
  unfold Go.getK?
  simp only [List.getD_eq_getElem?_getD, List.getElem?_eq_getElem h, Option.getD_some]

theorem getK_none (b : List UInt8) (k : Nat) (h : b.length ≤ k) : Go.getK? b k = none :=
  List.getElem?_eq_none h

theorem len_lt {α : Type} (b : List α) (hb : b.length < 4611686018427387904) (x : Int64) (m : Nat) (hx : x.toInt = m) :
    Go.len b < x ↔ b.length < m := by
  unfold Go.len
  rw [Int64.lt_iff_toInt_lt, Int64.toInt_ofNat_of_lt (by omega), hx]
  omega

theorem getK_below (b : List UInt8) (n : Nat) (h : n ≤ b.length) (k : Nat) (hk : k < n) :
    Go.getK? b k = some (b.getD k 0) :=
  getK_getD b k (Nat.lt_of_lt_of_le hk h)

theorem getD_bytes (b : List UInt8) (k : Nat) : (b.map UInt8.toNat).getD k 0 = (b.getD k 0).toNat := by
  simp only [List.getD_eq_getElem?_getD, List.getElem?_map]
  cases b[k]? <;> rfl

theorem fieldsOf_at0 (ws : List Nat) (l : List Nat) (h : layoutLen ws ≤ l.length) : fieldsOf ws l = fieldsAt ws l 0 := by
  have := fieldsOf_at ws l 0 (by omega)
  simpa using this

/-- `List.range w` for the field widths `w`, spelt out so that `simp only [fieldsAt, …]` unfolds a layout -/
theorem range1 : List.range 1 = [0] := rfl

theorem range2 : List.range 2 = [0, 1] := rfl

theorem range3 : List.range 3 = [0, 1, 2] := rfl

theorem range4 : List.range 4 = [0, 1, 2, 3] := rfl

theorem range6 : List.range 6 = [0, 1, 2, 3, 4, 5] := rfl

theorem range8 : List.range 8 = [0, 1, 2, 3, 4, 5, 6, 7] := rfl

end ScionTime.LeafBytes
