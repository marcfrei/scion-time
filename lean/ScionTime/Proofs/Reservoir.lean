/-
  Joint uniformity of the ideal reservoir (Algorithm R): every k-subset of the n items is
  produced by the same number, (n-k)!, of draw vectors. Helper lemmas and the induction.
  The marginal (`inclusion_count` in Proofs/Sample.lean: each item is kept by k/n of the draw vectors)
  is an induction of its own over the same recursion `outcomes_succ`; neither is derived from the other.
-/
import ScionTime.Proofs.Sample
namespace ScionTime.Sample
open List

def fact : Nat → Nat
  | 0 => 1
  | m + 1 => (m + 1) * fact m

/-- a duplicate-free list contained in another is a sub-multiset of it -/
theorem exists_perm_append_of_subset : ∀ (A B : List Nat), A.Nodup → A ⊆ B → ∃ rest, B ~ A ++ rest
  | [], B, _, _ => ⟨B, by simp⟩
  | a :: A, B, hn, hs => by
    have ha : a ∈ B := hs (by simp)
    have hn' := nodup_cons.mp hn
    have hsub : A ⊆ B.erase a := by
      intro x hx
      have hxa : x ≠ a := fun h => hn'.1 (h ▸ hx)
      exact (mem_erase_of_ne hxa).mpr (hs (by simp [hx]))
    obtain ⟨rest, hr⟩ := exists_perm_append_of_subset A (B.erase a) hn'.2 hsub
    exact ⟨rest, (perm_cons_erase ha).trans (by simpa using Perm.cons a hr)⟩

/-- pigeonhole: a duplicate-free list contained in a list that is not longer is a
    permutation of it -/
theorem perm_of_subset_of_length_le (A B : List Nat) (hn : A.Nodup) (hs : A ⊆ B) (hl : B.length ≤ A.length) :
    B ~ A := by
  obtain ⟨rest, hr⟩ := exists_perm_append_of_subset A B hn hs
  have := hr.length_eq
  rw [length_append] at this
  have : rest = [] := length_eq_zero_iff.mp (by omega)
  subst this
  simpa using hr

theorem countP_eq_sum_ite {α : Type} (p : α → Bool) (Y : List α) :
    countP p Y = (Y.map fun b => if p b then 1 else 0).sum := by
  rw [sum_map_ite, Nat.one_mul]

theorem sum_map_add {α : Type} (Y : List α) (f g : α → Nat) :
    (Y.map fun b => f b + g b).sum = (Y.map f).sum + (Y.map g).sum := by
  induction Y with
  | nil => rfl
  | cons b Y ih => simp only [map_cons, sum_cons, ih]; omega

/-- double counting -/
theorem countP_swap {α β : Type} (q : α → β → Bool) (L : List α) (Y : List β) :
    (L.map fun a => countP (fun b => q a b) Y).sum = (Y.map fun b => countP (fun a => q a b) L).sum := by
  induction L with
  | nil =>
    have : ∀ Y : List β, (Y.map fun _ => 0).sum = 0 := by
      intro Y; induction Y <;> simp_all
    simp [this]
  | cons a L ih =>
    simp only [map_cons, sum_cons, countP_cons, ih]
    rw [sum_map_add, countP_eq_sum_ite]
    omega

/-! ### one step of the reservoir, counted against a target set `S` (as a permutation class) -/

/-- the new item is not wanted: the `n+1-k` draws that leave the reservoir alone -/
theorem stepA (k n : Nat) (res S : List Nat) (h : ResInv k n res) (hk : k ≤ n + 1) (hnS : n ∉ S) :
    countP (fun j => decide (stepRes res j n ~ S)) (List.range (n + 1)) =
      if decide (res ~ S) then n + 1 - k else 0 := by
  obtain ⟨h1, _, _⟩ := h
  rw [countP_congr (q := fun j => !decide (j < k) && decide (res ~ S))]
  · by_cases hp : res ~ S
    · simp only [hp, decide_true, Bool.and_true, ↓reduceIte]
      rw [countP_not, countP_lt_range (n + 1) k hk, length_range]
    · simp only [hp, decide_false, Bool.and_false]
      exact countP_eq_zero.mpr (fun _ _ => by simp)
  · intro j _
    unfold stepRes
    rw [h1]
    by_cases hj : j < k
    · simp only [hj, ↓reduceIte, decide_eq_true_eq, decide_true, Bool.not_true, Bool.false_and,
        Bool.false_eq_true, iff_false]
      intro hperm
      exact hnS (hperm.subset (mem_set (by omega) n))
    · simp [hj]

/-- if the reservoir contains `S'` (one item fewer), the extra item is unique -/
theorem extra_item (k n : Nat) (res S' : List Nat) (h : ResInv k n res) (hS' : S'.Nodup)
    (hl : S'.length + 1 = k) (hsub : S' ⊆ res) :
    ∃ y, y < n ∧ y ∉ S' ∧ res ~ y :: S' ∧ ∀ y', res ~ y' :: S' → y' = y := by
  obtain ⟨h1, h2, h3⟩ := h
  obtain ⟨rest, hr⟩ := exists_perm_append_of_subset S' res hS' hsub
  have hlen := hr.length_eq
  rw [length_append] at hlen
  obtain ⟨y, rfl⟩ := length_eq_one_iff.mp (show rest.length = 1 by omega)
  have hperm : res ~ y :: S' := hr.trans (perm_append_singleton y S')
  have hnd : (y :: S').Nodup := hperm.nodup h2
  refine ⟨y, h3 y (hperm.symm.subset (by simp)), (nodup_cons.mp hnd).1, hperm, ?_⟩
  intro y' hy'
  have hmem : y' ∈ y :: S' := (hy'.symm.trans hperm).subset (by simp)
  exact (mem_cons.mp hmem).resolve_right (nodup_cons.mp (hy'.nodup h2)).1

/-- the new item is wanted (`S ~ n :: S'`): exactly one draw works if the reservoir contains
    `S'`, none otherwise -/
theorem stepB (k n : Nat) (res S S' : List Nat) (h : ResInv k n res) (hk : k ≤ n + 1)
    (hS : S ~ n :: S') (hS' : S'.Nodup) (hl : S'.length + 1 = k) :
    countP (fun j => decide (stepRes res j n ~ S)) (List.range (n + 1)) =
      if S' ⊆ res then 1 else 0 := by
  have hinv := h
  obtain ⟨h1, h2, h3⟩ := h
  have hnres : n ∉ res := fun hm => Nat.lt_irrefl _ (h3 n hm)
  -- a draw works iff it hits a slot and what stays in the reservoir is `S'`
  have hwork : ∀ j, stepRes res j n ~ S ↔ ∃ hj : j < res.length, res.eraseIdx j ~ S' := by
    intro j
    unfold stepRes
    by_cases hj : j < res.length
    · rw [if_pos hj]
      exact ⟨fun hp => ⟨hj, ((set_perm_eraseIdx res j n hj).symm.trans (hp.trans hS)).cons_inv⟩,
        fun ⟨_, he⟩ => (set_perm_eraseIdx res j n hj).trans ((he.cons n).trans hS.symm)⟩
    · rw [if_neg hj]
      exact ⟨fun hp => absurd ((hp.trans hS).symm.subset (by simp)) hnres,
        fun ⟨hj', _⟩ => absurd hj' hj⟩
  by_cases hsub : S' ⊆ res
  · rw [if_pos hsub]
    obtain ⟨y, _, _, hperm, huniq⟩ := extra_item k n res S' hinv hS' hl hsub
    obtain ⟨j0, hj0, hyj⟩ := mem_iff_getElem.mp (hperm.symm.subset (by simp) : y ∈ res)
    apply countP_range_unique (n + 1) j0 _ (by omega)
    intro j _
    rw [decide_eq_true_eq, hwork]
    constructor
    · rintro ⟨hj, he⟩
      exact (getElem_inj h2).mp
        ((huniq _ ((perm_eraseIdx res j hj).trans (he.cons _))).trans hyj.symm)
    · rintro rfl
      have := (perm_eraseIdx res j hj0).symm.trans hperm
      rw [hyj] at this
      exact ⟨hj0, this.cons_inv⟩
  · rw [if_neg hsub]
    refine countP_eq_zero.mpr fun j _ => ?_
    rw [decide_eq_true_eq, hwork]
    rintro ⟨hj, he⟩
    exact hsub fun x hx => (eraseIdx_sublist res j).subset (he.symm.subset hx)

/-- the same indicator, written as a count over the possible extra items -/
theorem partitionB (k n : Nat) (res S' : List Nat) (h : ResInv k n res) (hS' : S'.Nodup)
    (hl : S'.length + 1 = k) :
    countP (fun y => decide (y ∉ S' ∧ res ~ y :: S')) (List.range n) = if S' ⊆ res then 1 else 0 := by
  by_cases hsub : S' ⊆ res
  · simp only [hsub, ↓reduceIte]
    obtain ⟨y, hyn, hyS, hperm, huniq⟩ := extra_item k n res S' h hS' hl hsub
    apply countP_range_unique n y _ hyn
    intro y' _
    simp only [decide_eq_true_eq]
    exact ⟨fun ⟨_, hp⟩ => huniq y' hp, fun he => he ▸ ⟨hyS, hperm⟩⟩
  · simp only [hsub, ↓reduceIte]
    apply countP_eq_zero.mpr
    intro y _
    simp only [decide_eq_true_eq, not_and]
    intro _ hp
    exact hsub (fun x hx => hp.symm.subset (by simp [hx]))

/-- `#{y < n : y ∉ S'} = n - |S'|` for duplicate-free `S' ⊆ [0, n)` -/
theorem count_not_mem (n : Nat) (S' : List Nat) (hS' : S'.Nodup) (hb : ∀ y ∈ S', y < n) :
    countP (fun y => decide (y ∉ S')) (List.range n) = n - S'.length := by
  obtain ⟨rest, hr⟩ := exists_perm_append_of_subset S' (List.range n) hS' (fun y hy => by simpa using hb y hy)
  have hnd : (S' ++ rest).Nodup := hr.nodup nodup_range
  have hlen := hr.length_eq
  rw [length_append, length_range] at hlen
  rw [hr.countP_eq, countP_append]
  have h1 : countP (fun y => decide (y ∉ S')) S' = 0 :=
    countP_eq_zero.mpr (fun y hy => by simp [hy])
  have h2 : countP (fun y => decide (y ∉ S')) rest = rest.length :=
    countP_eq_length.mpr (fun y hy => by
      simp only [decide_eq_true_eq]
      exact fun hyS => (nodup_append.mp hnd).2.2 y hyS y hy rfl)
  rw [h1, h2]; omega

theorem joint_uniform (k : Nat) : ∀ (m : Nat) (S : List Nat), S.Nodup → S.length = k →
    (∀ y ∈ S, y < k + m) → countP (fun res => decide (res ~ S)) (outcomes k m) = fact m
  | 0, S, hn, hl, hb => by
    rw [outcomes_zero]
    have : List.range k ~ S :=
      perm_of_subset_of_length_le S (List.range k) hn (fun y hy => by simpa using hb y hy) (by simp [hl])
    simp [this, fact]
  | m + 1, S, hn, hl, hb => by
    rw [outcomes_succ, countP_flatMap]
    by_cases hnS : k + m ∈ S
    · -- the newest item is in S
      have hS : S ~ (k + m) :: S.erase (k + m) := perm_cons_erase hnS
      have hS' : (S.erase (k + m)).Nodup := hn.erase _
      have hl' : (S.erase (k + m)).length + 1 = k := by
        have := hS.length_eq
        rw [length_cons] at this; omega
      have hb' : ∀ y ∈ S.erase (k + m), y < k + m := by
        intro y hy
        have := (hn.mem_erase_iff).mp hy
        have := hb y this.2
        omega
      generalize S.erase (k + m) = S' at *
      rw [map_congr_left (g := fun res => countP (fun y => decide (y ∉ S' ∧ res ~ y :: S')) (List.range (k + m)))]
      · rw [countP_swap]
        rw [map_congr_left (g := fun y => if decide (y ∉ S') then fact m else 0)]
        · rw [sum_map_ite, count_not_mem (k + m) S' hS' hb']
          have : k + m - S'.length = m + 1 := by omega
          rw [this, fact, Nat.mul_comm]
        · intro y hy
          simp only [mem_range] at hy
          by_cases hyS : y ∈ S'
          · simp only [hyS, not_true_eq_false, false_and, decide_false, Bool.false_eq_true, ↓reduceIte]
            exact countP_eq_zero.mpr (fun _ _ => by simp)
          · simp only [hyS, not_false_eq_true, true_and, decide_true, ↓reduceIte]
            exact joint_uniform k m (y :: S') (nodup_cons.mpr ⟨hyS, hS'⟩) (by simp; omega)
              (forall_mem_cons.mpr ⟨hy, hb'⟩)
      · intro res hres
        simp only [Function.comp, countP_map]
        rw [partitionB k (k + m) res S' (outcomes_inv k m res hres) hS' hl']
        exact stepB k (k + m) res S S' (outcomes_inv k m res hres) (by omega) hS hS' hl'
    · -- the newest item is not in S
      have hb' : ∀ y ∈ S, y < k + m := by
        intro y hy
        have := hb y hy
        have : y ≠ k + m := fun h => hnS (h ▸ hy)
        omega
      rw [map_congr_left (g := fun res => if decide (res ~ S) then m + 1 else 0)]
      · rw [sum_map_ite, joint_uniform k m S hn hl hb', fact]
      · intro res hres
        simp only [Function.comp, countP_map]
        exact (stepA k (k + m) res S (outcomes_inv k m res hres) (by omega) hnS).trans
          (by rw [Nat.add_assoc, Nat.add_sub_cancel_left])

end ScionTime.Sample
