/-
  Helper lemmas for the CSPTP part of C18.
-/
import ScionTime.Model.CsptpConv
import ScionTime.Proofs.Int64Arith
namespace ScionTime.CsptpConv
open ScionTime.Int64Arith

theorem div_nsPerSec_neg (t : Int) : t / nsPerSec < 0 ↔ t < 0 := by
  rw [Int.ediv_lt_iff_lt_mul (by decide), Int.zero_mul]

theorem div_nsPerSec_gt (t : Int) : t / nsPerSec > 2^48 - 1 ↔ 2^48 * 1000000000 ≤ t := by
  unfold nsPerSec
  rw [← Int.le_ediv_iff_mul_le (by decide)]
  generalize t / 1000000000 = s
  omega

theorem secBytes_lt (s b : Nat) (hb : b ∈ secBytes s) : b < 256 := by
  simp only [secBytes, List.mem_cons, List.mem_nil_iff, or_false] at hb
  omega

theorem secOfBytes_six (b0 b1 b2 b3 b4 b5 : Nat) :
    secOfBytes [b0, b1, b2, b3, b4, b5] = b0 * 2^40 + b1 * 2^32 + b2 * 2^24 + b3 * 2^16 + b4 * 2^8 + b5 := rfl

theorem secOfBytes_secBytes (s : Nat) (h : s < 2^48) : secOfBytes (secBytes s) = s := by
  unfold secBytes
  rw [secOfBytes_six]
  have h5 := @Nat.mod_mul (2^40) 256 s
  have h4 := @Nat.mod_mul (2^32) 256 s
  have h3 := @Nat.mod_mul (2^24) 256 s
  have h2 := @Nat.mod_mul (2^16) 256 s
  have h1 := @Nat.mod_mul (2^8) 256 s
  omega

theorem wf_bytes (ts : Timestamp) (h : ts.WF) :
    ∃ b0 b1 b2 b3 b4 b5, ts.seconds = [b0, b1, b2, b3, b4, b5] ∧
      b0 < 256 ∧ b1 < 256 ∧ b2 < 256 ∧ b3 < 256 ∧ b4 < 256 ∧ b5 < 256 := by
  obtain ⟨hl, hb, _⟩ := h
  match hs : ts.seconds, hl with
  | [b0, b1, b2, b3, b4, b5], _ =>
    rw [hs] at hb
    simp only [List.forall_mem_cons] at hb
    obtain ⟨h0, h1, h2, h3, h4, h5, _⟩ := hb
    exact ⟨b0, b1, b2, b3, b4, b5, rfl, h0, h1, h2, h3, h4, h5⟩

theorem secOfBytes_lt (ts : Timestamp) (h : ts.WF) : secOfBytes ts.seconds < 2^48 := by
  obtain ⟨b0, b1, b2, b3, b4, b5, hs, h0, h1, h2, h3, h4, h5⟩ := wf_bytes ts h
  rw [hs, secOfBytes_six]
  omega

theorem secBytes_secOfBytes (ts : Timestamp) (h : ts.WF) : secBytes (secOfBytes ts.seconds) = ts.seconds := by
  obtain ⟨b0, b1, b2, b3, b4, b5, hs, h0, h1, h2, h3, h4, h5⟩ := wf_bytes ts h
  rw [hs, secOfBytes_six]
  unfold secBytes
  simp only [List.cons.injEq, and_true]
  omega

theorem timeSub_exact (t u : Int) (h1 : -9223372036854775808 ≤ t - u) (h2 : t - u ≤ 9223372036854775807) :
    (timeSub t u).toInt = t - u := by
  unfold timeSub
  rw [if_neg (by omega), if_neg (by omega), Int64.toInt_ofInt_of_le (by omega) (by omega)]

theorem timeSub_sub_toInt (t u : Int) (c : Int64) (x : Int) (hx : t - u = x + c.toInt)
    (hbx : -2^61 < x ∧ x < 2^61) (hbc : -2^61 < c.toInt ∧ c.toInt < 2^61) :
    (timeSub t u - c).toInt = x := by
  have e := timeSub_exact t u (by omega) (by omega)
  rw [toInt_sub_of_fits _ _ (by omega) (by omega), e]
  omega

theorem clockOffset_meanPathDelay_toInt (t0 t1 t2 t3 : Int) (c1 c3 : Int64) (x y : Int)
    (hx : t1 - t0 = x + c1.toInt) (hy : t3 - t2 = y + c3.toInt)
    (hbx : -2^61 < x ∧ x < 2^61) (hby : -2^61 < y ∧ y < 2^61)
    (hb1 : -2^61 < c1.toInt ∧ c1.toInt < 2^61) (hb3 : -2^61 < c3.toInt ∧ c3.toInt < 2^61) :
    (clockOffset t0 t1 t2 t3 c1 c3).toInt = (x - y).tdiv 2 ∧
    (meanPathDelay t0 t1 t2 t3 c1 c3).toInt = (x + y).tdiv 2 := by
  have ha := timeSub_sub_toInt t1 t0 c1 x hx hbx hb1
  have hb := timeSub_sub_toInt t3 t2 c3 y hy hby hb3
  unfold clockOffset meanPathDelay
  rw [toInt_half, toInt_half, toInt_sub_of_fits _ _ (by omega) (by omega),
      toInt_add_of_fits _ _ (by omega) (by omega), ha, hb]
  exact ⟨rfl, rfl⟩

end ScionTime.CsptpConv
