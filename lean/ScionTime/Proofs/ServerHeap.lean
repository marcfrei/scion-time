/-
  Lemmas about the transcribed container/heap functions of Model/Server.lean:
  map/heap agreement (`WF`), sizes and item contents are preserved by `swap`, `up`, `down`.
-/
import ScionTime.Proofs.ServerMap
namespace ScionTime.Server
open ScionTime.Time64

def pos (m : Map) (k : Nat) : Option Nat := (m.find k).map (·.qidx)

/-- map/heap agreement: same number of entries, no duplicate map keys, every heap slot's
    id is in the map with `qidx` = the slot, every map item's `qidx` is a slot holding its id. -/
structure WF (st : State) : Prop where
  nodup : (Map.keys st.items).Nodup
  len : st.items.length = st.heap.size
  fwd : ∀ i, i < st.heap.size → pos st.items (hkey st i) = some i
  bwd : ∀ k q, pos st.items k = some q → q < st.heap.size ∧ hkey st q = k

theorem WF.inj {st : State} (h : WF st) {i j : Nat} (hi : i < st.heap.size) (hj : j < st.heap.size)
    (e : hkey st i = hkey st j) : i = j := by
  have a := h.fwd i hi
  have b := h.fwd j hj
  rw [e] at a; rw [a] at b; exact Option.some.inj b

theorem WF.slot {st : State} (h : WF st) {k : Nat} {it : Item} (hit : st.items.find k = some it) :
    it.qidx < st.heap.size ∧ hkey st it.qidx = k :=
  h.bwd k it.qidx (by unfold pos; rw [hit]; rfl)

theorem pos_setQidx (m : Map) (k i k' : Nat) :
    pos (setQidx m k i) k' = if k = k' then (m.find k').map (fun _ => i) else pos m k' := by
  unfold pos setQidx
  rw [Map.find_modify]
  by_cases h : k = k'
  · simp only [h, if_true, Option.map_map]; rfl
  · simp [h]

theorem hkey_swap (st : State) (i j x : Nat) (hi : i < st.heap.size) (hj : j < st.heap.size) :
    hkey (swap st i j) x = if x = j then hkey st i else if x = i then hkey st j else hkey st x := by
  unfold swap hkey
  simp only [Array.getD_eq_getD_getElem?, Array.getElem?_setIfInBounds, Array.size_setIfInBounds]
  by_cases h1 : x = j
  · subst h1; simp [hj]
  · by_cases h2 : x = i
    · subst h2; simp [hi, h1, Ne.symm h1]
    · simp [h1, h2, Ne.symm h1, Ne.symm h2]

theorem hkey_push (m : Map) (st : State) (id x : Nat) :
    hkey { items := m, heap := st.heap.push id } x =
      if x = st.heap.size then id else hkey st x := by
  unfold hkey
  simp only [Array.getD_eq_getD_getElem?, Array.getElem?_push]
  split <;> rfl

theorem hkey_pop (m : Map) (st : State) (x : Nat) (hx : x < st.heap.size - 1) :
    hkey { items := m, heap := st.heap.pop } x = hkey st x := by
  unfold hkey
  simp only [Array.getD_eq_getD_getElem?, Array.getElem?_pop, hx, if_true]

theorem WF.absent {st : State} (h : WF st) {id : Nat} (hnone : st.items.find id = none) {i : Nat}
    (hi : i < st.heap.size) : hkey st i ≠ id := by
  intro e
  have := h.fwd i hi
  rw [e] at this; unfold pos at this; rw [hnone] at this; cases this

@[simp] theorem size_swap (st : State) (i j : Nat) : (swap st i j).heap.size = st.heap.size := by
  unfold swap; simp

theorem same_swap (st : State) (i j : Nat) : Same st.items (swap st i j).items := by
  unfold swap
  exact (same_setQidx _ _ _).trans (same_setQidx _ _ _)

theorem keys_swap (st : State) (i j : Nat) : Map.keys (swap st i j).items = Map.keys st.items := by
  unfold swap setQidx; simp [Map.keys_modify]

theorem length_swap (st : State) (i j : Nat) : (swap st i j).items.length = st.items.length := by
  unfold swap setQidx; simp [Map.length_modify]

theorem pos_swap (st : State) (h : WF st) (i j : Nat) (hi : i < st.heap.size) (hj : j < st.heap.size)
    (k : Nat) :
    pos (swap st i j).items k =
      if k = hkey st i then some j else if k = hkey st j then some i else pos st.items k := by
  obtain ⟨iti, hfi, _⟩ := Option.map_eq_some_iff.1 (h.fwd i hi)
  obtain ⟨itj, hfj, _⟩ := Option.map_eq_some_iff.1 (h.fwd j hj)
  unfold pos swap setQidx
  simp only [Map.find_modify]
  by_cases h1 : hkey st i = k
  · subst h1
    by_cases h2 : hkey st j = hkey st i <;> simp [h2, hfi]
  · by_cases h2 : hkey st j = k
    · subst h2; simp [h1, hfj, Ne.symm h1]
    · simp [h1, h2, Ne.symm h1, Ne.symm h2]

theorem wf_swap (st : State) (h : WF st) (i j : Nat) (hi : i < st.heap.size) (hj : j < st.heap.size) :
    WF (swap st i j) := by
  refine ⟨by rw [keys_swap]; exact h.nodup, by rw [length_swap, size_swap]; exact h.len, ?_, ?_⟩
  · intro x hx
    rw [size_swap] at hx
    rw [pos_swap st h i j hi hj, hkey_swap st i j x hi hj]
    by_cases h1 : x = j
    · rw [if_pos h1, if_pos rfl, h1]
    · rw [if_neg h1]
      by_cases h2 : x = i
      · rw [if_pos h2, if_neg (fun e => h1 (h2.trans (h.inj hj hi e).symm)), if_pos rfl, h2]
      · rw [if_neg h2, if_neg (fun e => h2 (h.inj hx hi e)), if_neg (fun e => h1 (h.inj hx hj e))]
        exact h.fwd x hx
  · intro k q hq
    rw [size_swap]
    rw [pos_swap st h i j hi hj] at hq
    rw [hkey_swap st i j q hi hj]
    by_cases h1 : k = hkey st i
    · rw [if_pos h1] at hq
      cases hq
      exact ⟨hj, by rw [if_pos rfl, h1]⟩
    · rw [if_neg h1] at hq
      by_cases h2 : k = hkey st j
      · rw [if_pos h2] at hq
        cases hq
        refine ⟨hi, ?_⟩
        rw [if_neg (fun e => h1 (by rw [h2, e])), if_pos rfl, h2]
      · rw [if_neg h2] at hq
        obtain ⟨a, b⟩ := h.bwd k q hq
        refine ⟨a, ?_⟩
        rw [if_neg (fun e => h2 (by rw [← b, e])), if_neg (fun e => h1 (by rw [← b, e])), b]

def swapK (k : Nat → T64) (i j : Nat) : Nat → T64 :=
  fun x => if x = j then k i else if x = i then k j else k x

theorem swapK_l {k : Nat → T64} {i j : Nat} (h : i ≠ j) : swapK k i j i = k j := by
  simp [swapK, h]

theorem swapK_r {k : Nat → T64} {i j : Nat} : swapK k i j j = k i := by
  simp [swapK]

theorem swapK_o {k : Nat → T64} {i j x : Nat} (h1 : x ≠ i) (h2 : x ≠ j) : swapK k i j x = k x := by
  simp [swapK, h1, h2]

theorem kv_swap (st : State) (i j : Nat) (hi : i < st.heap.size) (hj : j < st.heap.size) :
    kv (swap st i j) = swapK (kv st) i j := by
  funext x
  unfold kv swapK
  rw [hkey_swap st i j x hi hj, funext fun k => (qv_same (same_swap st i j) k).symm]
  simp only [apply_ite (qv st.items)]

def parent (c : Nat) : Nat := (c - 1) / 2

theorem parent_lt {c : Nat} (h : 0 < c) : parent c < c := by unfold parent; omega

theorem child_spec (st : State) (i n : Nat) (h : 2 * i + 1 < n) :
    i < child st i n ∧ child st i n < n ∧ parent (child st i n) = i := by
  unfold child parent
  split
  · rename_i hc; simp at hc; omega
  · omega

/-- what every heap routine preserves -/
structure Keeps (st st' : State) : Prop where
  wf : WF st'
  size : st'.heap.size = st.heap.size
  same : Same st.items st'.items

theorem Keeps.refl {st : State} (h : WF st) : Keeps st st := ⟨h, rfl, Same.refl _⟩
theorem Keeps.trans {a b c : State} (h1 : Keeps a b) (h2 : Keeps b c) : Keeps a c :=
  ⟨h2.wf, h2.size.trans h1.size, h1.same.trans h2.same⟩

theorem keeps_swap (st : State) (h : WF st) (i j : Nat) (hi : i < st.heap.size) (hj : j < st.heap.size) :
    Keeps st (swap st i j) := ⟨wf_swap st h i j hi hj, size_swap st i j, same_swap st i j⟩

theorem keeps_up (f : Nat) (st : State) (j : Nat) (h : WF st) (hj : j < st.heap.size) :
    Keeps st (up st j f) := by
  induction f generalizing st j with
  | zero => exact Keeps.refl h
  | succ f ih =>
    unfold up
    simp only
    split
    · exact Keeps.refl h
    · have hi : (j - 1) / 2 < st.heap.size := by omega
      have k1 := keeps_swap st h ((j - 1) / 2) j hi hj
      exact k1.trans (ih _ _ k1.wf (by rw [k1.size]; exact hi))

theorem keeps_down (f : Nat) (st : State) (i n : Nat) (h : WF st) (hn : n ≤ st.heap.size) :
    Keeps st (down st i n f).1 := by
  induction f generalizing st i with
  | zero => exact Keeps.refl h
  | succ f ih =>
    unfold down
    split
    · exact Keeps.refl h
    · rename_i hj1
      split
      · exact Keeps.refl h
      · have hc := child_spec st i n (by omega)
        have k1 := keeps_swap st h i (child st i n) (by omega) (by omega)
        exact k1.trans (ih _ _ k1.wf (by rw [k1.size]; exact hn))

/-- `if !down(h, i, n) { up(h, i) }`: the body of `heap.Fix` (where `n = h.Len()`) and of
    `heap.Remove` -/
def fixn (st : State) (i n : Nat) : State :=
  if (down st i n n).2 > i then (down st i n n).1 else up (down st i n n).1 i (i + 1)

theorem keeps_fixn (st : State) (h : WF st) (i n : Nat) (hi : i < st.heap.size)
    (hn : n ≤ st.heap.size) : Keeps st (fixn st i n) := by
  unfold fixn
  have k1 := keeps_down n st i n h hn
  split
  · exact k1
  · exact k1.trans (keeps_up _ _ _ k1.wf (by rw [k1.size]; exact hi))

theorem remove_eq (st : State) (i key : Nat) : remove st i key =
    { items := (if st.heap.size - 1 ≠ i then fixn (swap st i (st.heap.size - 1)) i (st.heap.size - 1)
        else st).items.erase key,
      heap := (if st.heap.size - 1 ≠ i then fixn (swap st i (st.heap.size - 1)) i (st.heap.size - 1)
        else st).heap.pop } := rfl

theorem down_ge (f : Nat) (st : State) (i n : Nat) :
    i ≤ (down st i n f).2 ∧ ((down st i n f).2 = i → (down st i n f).1 = st) := by
  induction f generalizing st i with
  | zero => exact ⟨Nat.le_refl _, fun _ => rfl⟩
  | succ f ih =>
    unfold down
    split
    · exact ⟨Nat.le_refl _, fun _ => rfl⟩
    · split
      · exact ⟨Nat.le_refl _, fun _ => rfl⟩
      · have hc := child_spec st i n (by omega)
        have := (ih (swap st i (child st i n)) (child st i n)).1
        exact ⟨by omega, fun e => by omega⟩

end ScionTime.Server
