/-
  One step of the two extension-field walks of net/nts (`DecodePacket`: `decLoop`, `authenticate`:
  `ptLoop`), stated once: what happens on fewer than 28 bytes, and on `a :: b :: c :: e :: body`.
  Every fact about the walks is an induction over these two equations; with them, what `copyN` and
  `valueLen` do with the value of a field.
-/
import ScionTime.Model.Nts
namespace ScionTime.Nts

theorem cons4_of_length (rest : Bytes) (h : 4 ≤ rest.length) : ∃ a b c e body, rest = a :: b :: c :: e :: body := by
  match rest, h with
  | a :: b :: c :: e :: body, _ => exact ⟨a, b, c, e, body, rfl⟩

theorem drop4 (a b c e : Nat) (l : Bytes) (n : Nat) : (a :: b :: c :: e :: l).drop (4 + n) = l.drop n := by
  rw [Nat.add_comm]; rfl

/-- what a field of type `t` ≠ authenticator with value `v` does to (foundUniqueID, packet) -/
def absorb (t : Nat) (v : Bytes) (s : Bool × Decoded) : Bool × Decoded :=
  if t = extUniqueIdentifier then (true, { s.2 with uid := v })
  else if t = extCookie then (s.1, { s.2 with cookies := s.2.cookies ++ [v] })
  else if t = extCookiePlaceholder then (s.1, { s.2 with nph := s.2.nph + 1 })
  else s

theorem copyN_length (n : Nat) (s : Bytes) : (copyN n s).length = n := by
  unfold copyN
  simp only [List.length_append, List.length_take, List.length_replicate, zeros]
  omega

theorem copyN_append_of_le (n : Nat) (s t : Bytes) (h : n ≤ s.length) : copyN n (s ++ t) = copyN n s := by
  unfold copyN
  rw [List.take_append_of_le_length h, List.length_append, Nat.sub_eq_zero_of_le h,
    Nat.sub_eq_zero_of_le (Nat.le_trans h (Nat.le_add_right _ _))]

theorem valueLen_le (l : Nat) (h : 4 ≤ l) : valueLen l ≤ l - 4 := by
  unfold valueLen; omega

theorem decLoop_short (chk : Bool) (total fuel : Nat) (rest : Bytes) (fu : Bool) (d : Decoded) (h : rest.length < 28) :
    decLoop chk total (fuel + 1) rest fu d = .ok (fu, false, d) := by
  unfold decLoop; rw [if_pos h]

theorem decLoop_cons (chk : Bool) (total fuel a b c e : Nat) (body : Bytes) (fu : Bool) (d : Decoded)
    (h : 28 ≤ (a :: b :: c :: e :: body).length) :
    decLoop chk total (fuel + 1) (a :: b :: c :: e :: body) fu d =
      if chk = true ∧ (u16 c e < 4 ∨ (a :: b :: c :: e :: body).length < u16 c e) then .err .extLen
      else if u16 a b = extAuthenticator then
        (unpackAuth body).bind fun nc =>
          .ok (fu, true, { d with nonce := nc.1, ct := nc.2, pos := total - (a :: b :: c :: e :: body).length })
      else if u16 c e = 0 then .hang
      else decLoop chk total fuel ((a :: b :: c :: e :: body).drop (u16 c e))
        (absorb (u16 a b) (copyN (valueLen (u16 c e)) body) (fu, d)).1
        (absorb (u16 a b) (copyN (valueLen (u16 c e)) body) (fu, d)).2 := by
  rw [decLoop, if_neg (by omega)]
  simp only [Bool.and_eq_true, Bool.or_eq_true, decide_eq_true_eq, gt_iff_lt]
  refine ite_congr rfl (fun _ => rfl) fun _ => ite_congr rfl (fun _ => ?_) fun _ => ite_congr rfl (fun _ => rfl) fun _ => ?_
  · cases unpackAuth body <;> rfl
  · unfold absorb
    by_cases h1 : u16 a b = extUniqueIdentifier
    · simp only [if_pos h1]
    by_cases h2 : u16 a b = extCookie
    · simp only [if_neg h1, if_pos h2]
    by_cases h3 : u16 a b = extCookiePlaceholder
    · simp only [if_neg h1, if_neg h2, if_pos h3]
    · simp only [if_neg h1, if_neg h2, if_neg h3]

/-- with the length check on (`chk = true`, the code as it stands) a field length that passes is
    at least 4, so the walk cannot stall -/
theorem decLoop_cons_checked (total fuel a b c e : Nat) (body : Bytes) (fu : Bool) (d : Decoded)
    (h : 28 ≤ (a :: b :: c :: e :: body).length) :
    decLoop true total (fuel + 1) (a :: b :: c :: e :: body) fu d =
      if u16 c e < 4 ∨ (a :: b :: c :: e :: body).length < u16 c e then .err .extLen
      else if u16 a b = extAuthenticator then
        (unpackAuth body).bind fun nc =>
          .ok (fu, true, { d with nonce := nc.1, ct := nc.2, pos := total - (a :: b :: c :: e :: body).length })
      else decLoop true total fuel ((a :: b :: c :: e :: body).drop (u16 c e))
        (absorb (u16 a b) (copyN (valueLen (u16 c e)) body) (fu, d)).1
        (absorb (u16 a b) (copyN (valueLen (u16 c e)) body) (fu, d)).2 := by
  rw [decLoop_cons _ _ _ _ _ _ _ _ _ _ h]
  by_cases hc : u16 c e < 4 ∨ (a :: b :: c :: e :: body).length < u16 c e
  · rw [if_pos hc, if_pos ⟨rfl, hc⟩]
  · rw [if_neg hc, if_neg fun h' => hc h'.2]
    exact ite_congr rfl (fun _ => rfl) fun _ => if_neg (by omega)

theorem extLen_bounds {l n : Nat} (h : ¬ (l < 4 ∨ n < l)) : 4 ≤ l ∧ l ≤ n := by omega

theorem ptLoop_short (chk : Bool) (fuel : Nat) (rest : Bytes) (cs : List Bytes) (h : rest.length < 28) :
    ptLoop chk (fuel + 1) rest cs = .ok cs := by
  unfold ptLoop; rw [if_pos h]

theorem ptLoop_cons (chk : Bool) (fuel a b c e : Nat) (body : Bytes) (cs : List Bytes)
    (h : 28 ≤ (a :: b :: c :: e :: body).length) :
    ptLoop chk (fuel + 1) (a :: b :: c :: e :: body) cs =
      if chk = true ∧ (u16 c e < 4 ∨ (a :: b :: c :: e :: body).length < u16 c e) then .err .extLen
      else if u16 c e = 0 then .hang
      else ptLoop chk fuel ((a :: b :: c :: e :: body).drop (u16 c e))
        (if u16 a b = extCookie then cs ++ [copyN (valueLen (u16 c e)) body] else cs) := by
  rw [ptLoop, if_neg (by omega)]
  simp only [Bool.and_eq_true, Bool.or_eq_true, decide_eq_true_eq, gt_iff_lt]
  exact ite_congr rfl (fun _ => rfl) fun _ => ite_congr rfl (fun _ => rfl) fun _ => (apply_ite _ _ _ _).symm

theorem ptLoop_cons_checked (fuel a b c e : Nat) (body : Bytes) (cs : List Bytes)
    (h : 28 ≤ (a :: b :: c :: e :: body).length) :
    ptLoop true (fuel + 1) (a :: b :: c :: e :: body) cs =
      if u16 c e < 4 ∨ (a :: b :: c :: e :: body).length < u16 c e then .err .extLen
      else ptLoop true fuel ((a :: b :: c :: e :: body).drop (u16 c e))
        (if u16 a b = extCookie then cs ++ [copyN (valueLen (u16 c e)) body] else cs) := by
  rw [ptLoop_cons _ _ _ _ _ _ _ _ h]
  by_cases hc : u16 c e < 4 ∨ (a :: b :: c :: e :: body).length < u16 c e
  · rw [if_pos hc, if_pos ⟨rfl, hc⟩]
  · rw [if_neg hc, if_neg fun h' => hc h'.2, if_neg (by omega)]

end ScionTime.Nts
