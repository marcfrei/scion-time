/-
  Proofs/C17.lean — helper lemmas for property C17 (offset filters).
  Core Lean only.
-/
import ScionTime.Model.Filters
import ScionTime.Proofs.Int64Arith
namespace ScionTime.Filters
open List ScionTime.F64 ScionTime.Int64Arith

theorem insertBy_perm (key : Meas → Int64) (x : Meas) :
    ∀ l, (insertBy key x l).Perm (x :: l)
  | [] => Perm.refl _
  | y :: ys => by
    unfold insertBy
    split
    · exact Perm.refl _
    · exact ((insertBy_perm key x ys).cons y).trans (Perm.swap x y ys)

theorem foldl_insertBy_perm (key : Meas → Int64) :
    ∀ (l acc : List Meas), (l.foldl (fun acc x => insertBy key x acc) acc).Perm (l ++ acc)
  | [], _ => Perm.refl _
  | x :: xs, acc => by
    simp only [List.foldl_cons]
    refine (foldl_insertBy_perm key xs (insertBy key x acc)).trans ?_
    exact ((insertBy_perm key x acc).append_left xs).trans perm_middle

theorem sortBy_perm (key : Meas → Int64) (l : List Meas) : (sortBy key l).Perm l := by
  have := foldl_insertBy_perm key l []
  simpa [sortBy] using this

theorem insertBy_sorted (key : Meas → Int64) (x : Meas) :
    ∀ l, l.Pairwise (fun a b => key a ≤ key b) →
      (insertBy key x l).Pairwise (fun a b => key a ≤ key b)
  | [], _ => List.pairwise_singleton _ _
  | y :: ys, h => by
    unfold insertBy
    have hc := List.pairwise_cons.mp h
    split
    · rename_i hlt
      refine List.pairwise_cons.mpr ⟨?_, h⟩
      intro z hz
      rcases List.mem_cons.mp hz with rfl | hz
      · exact Int64.le_of_lt hlt
      · exact Int64.le_of_lt (Int64.lt_of_lt_of_le hlt (hc.1 z hz))
    · rename_i hnlt
      refine List.pairwise_cons.mpr ⟨?_, insertBy_sorted key x ys hc.2⟩
      intro z hz
      have hz' := (insertBy_perm key x ys).subset hz
      rcases List.mem_cons.mp hz' with rfl | hz''
      · exact Int64.not_lt.mp hnlt
      · exact hc.1 z hz''

theorem foldl_insertBy_sorted (key : Meas → Int64) :
    ∀ (l acc : List Meas), acc.Pairwise (fun a b => key a ≤ key b) →
      (l.foldl (fun acc x => insertBy key x acc) acc).Pairwise (fun a b => key a ≤ key b)
  | [], _, h => h
  | x :: xs, acc, h => by
    simp only [List.foldl_cons]
    exact foldl_insertBy_sorted key xs _ (insertBy_sorted key x acc h)

theorem sortBy_sorted (key : Meas → Int64) (l : List Meas) :
    (sortBy key l).Pairwise (fun a b => key a ≤ key b) :=
  foldl_insertBy_sorted key l [] List.Pairwise.nil

theorem sortBy_length (key : Meas → Int64) (l : List Meas) : (sortBy key l).length = l.length :=
  (sortBy_perm key l).length_eq

/-- `luckySelect pick w` and the rest of the window. -/
def luckyRest (pick : Nat) (w : List Meas) : List Meas :=
  if pick < w.length then (sortBy Meas.rtd w).drop pick else []

theorem luckySelect_perm (pick : Nat) (w : List Meas) :
    (luckySelect pick w ++ luckyRest pick w).Perm w := by
  unfold luckySelect luckyRest
  split
  · rw [List.take_append_drop]; exact sortBy_perm _ _
  · simp

theorem luckySelect_length (pick : Nat) (w : List Meas) :
    (luckySelect pick w).length = min pick w.length := by
  unfold luckySelect
  split
  · rw [List.length_take, sortBy_length]
  · omega

theorem luckySelect_low (pick : Nat) (w : List Meas) :
    ∀ a ∈ luckySelect pick w, ∀ b ∈ luckyRest pick w, a.rtd ≤ b.rtd := by
  unfold luckySelect luckyRest
  split
  · have h := sortBy_sorted Meas.rtd w
    rw [← List.take_append_drop pick (sortBy Meas.rtd w)] at h
    exact (List.pairwise_append.mp h).2.2
  · intro a _ b hb; simp at hb

theorem luckyDo_state (f : Lucky) (x : Sample) (h : f.cap ≠ 0) :
    (luckyDo f x).1 = { f with state := luckyPush f x.meas } := by
  unfold luckyDo; rw [if_neg h]

theorem luckyDo_value (f : Lucky) (x : Sample) (h : f.cap ≠ 0) :
    (luckyDo f x).2
      = medianI64 ((sortBy Meas.off (luckySelect f.pick (luckyPush f x.meas))).map Meas.off) := by
  unfold luckyDo; rw [if_neg h]

theorem perm_filter_of_split {α : Type} (P : α → Bool) {w sel rest : List α}
    (hperm : (sel ++ rest).Perm w) (hsel : ∀ x ∈ sel, P x = true)
    (hrest : ∀ x ∈ rest, ¬ P x = true) : sel.Perm (w.filter P) := by
  have hf := hperm.filter P
  rw [List.filter_append, List.filter_eq_self.mpr hsel, List.filter_eq_nil_iff.mpr hrest,
    List.append_nil] at hf
  exact hf

/-- With pairwise distinct delays, membership in a "lowest delays" selection is decided by
    counting the samples of smaller delay: the selection is `w.filter P` up to order. -/
theorem selection_perm_filter (w sel rest : List Meas)
    (hperm : (sel ++ rest).Perm w)
    (hdist : w.Pairwise (fun a b => a.rtd ≠ b.rtd))
    (hlow : ∀ a ∈ sel, ∀ b ∈ rest, a.rtd ≤ b.rtd) :
    sel.Perm (w.filter (fun x => decide (w.countP (fun y => decide (y.rtd < x.rtd)) < sel.length))) := by
  have hcross : ∀ a ∈ sel, ∀ b ∈ rest, a.rtd ≠ b.rtd :=
    (List.pairwise_append.mp (hperm.symm.pairwise hdist fun h e => h e.symm)).2.2
  refine perm_filter_of_split _ hperm (fun x hx => ?_) (fun x hx => ?_)
  · -- nothing in `rest` is below `x`, and `x` itself is a member of `sel` that is not
    have h0 : rest.countP (fun y => decide (y.rtd < x.rtd)) = 0 :=
      List.countP_eq_zero.mpr fun b hb => by
        rw [decide_eq_true_eq]; exact Int64.not_lt.mpr (hlow x hx b hb)
    have h1 : sel.countP (fun y => decide (y.rtd < x.rtd)) ≠ sel.length := fun he =>
      Int64.lt_irrefl (of_decide_eq_true (List.countP_eq_length.mp he x hx))
    have h2 : sel.countP (fun y => decide (y.rtd < x.rtd)) ≤ sel.length := List.countP_le_length
    rw [← hperm.countP_eq, List.countP_append, h0, decide_eq_true_eq]
    omega
  · -- all of `sel` is below `x`
    have h1 : sel.countP (fun y => decide (y.rtd < x.rtd)) = sel.length :=
      List.countP_eq_length.mpr fun a ha => by
        rw [decide_eq_true_eq]
        exact Int64.lt_of_le_of_ne (hlow a ha x hx) (hcross a ha x hx)
    rw [← hperm.countP_eq, List.countP_append, h1, decide_eq_true_eq]
    omega

/-- The last `n` elements. -/
def lastN {α : Type} (n : Nat) (l : List α) : List α := l.drop (l.length - n)

theorem lastN_length {α : Type} (n : Nat) (l : List α) : (lastN n l).length = min n l.length := by
  unfold lastN; rw [List.length_drop]; omega

theorem push_window {α : Type} (cap : Nat) (hcap : 1 ≤ cap) (h : List α) (m : α) :
    (if (lastN cap h).length = cap then (lastN cap h).drop 1 else lastN cap h) ++ [m]
      = lastN cap (h ++ [m]) := by
  rw [lastN_length]
  unfold lastN
  rw [List.length_append, List.length_singleton]
  by_cases hl : cap ≤ h.length
  · rw [if_pos (by omega), List.drop_drop, List.drop_append_of_le_length (by omega)]
    congr 2; omega
  · rw [if_neg (by omega), show h.length - cap = 0 by omega, show h.length + 1 - cap = 0 by omega]
    rfl

theorem luckyPush_window (f : Lucky) (hcap : 1 ≤ f.cap) (h : List Sample)
    (hst : f.state = lastN f.cap (h.map Sample.meas)) (x : Sample) :
    luckyPush f x.meas = lastN f.cap ((h ++ [x]).map Sample.meas) := by
  unfold luckyPush
  rw [hst, List.map_append]
  exact push_window f.cap hcap _ _

theorem medianI64_odd (s : List Int64) (h : s.length % 2 ≠ 0) :
    medianI64 s = s[s.length / 2]? := by
  unfold medianI64
  exact if_pos h

theorem medianI64_even (s : List Int64) {a b : Int64} (h : s.length % 2 = 0) (h0 : s.length ≠ 0)
    (ha : s[s.length / 2 - 1]? = some a) (hb : s[s.length / 2]? = some b) :
    medianI64 s = some (midpoint64 a b) := by
  unfold medianI64
  simp only
  rw [if_neg (fun hn => hn h), ha, hb]
  exact if_neg (by omega)

/-- The median of a non-empty slice exists (no index panic). -/
theorem medianI64_isSome (s : List Int64) (h : 0 < s.length) : ∃ v, medianI64 s = some v := by
  by_cases hodd : s.length % 2 ≠ 0
  · exact ⟨_, (medianI64_odd s hodd).trans (List.getElem?_eq_getElem (by omega))⟩
  · exact ⟨_, medianI64_even s (by omega) (by omega) (List.getElem?_eq_getElem (by omega))
      (List.getElem?_eq_getElem (by omega))⟩

theorem toInt_range (a : Int64) : -9223372036854775808 ≤ a.toInt ∧ a.toInt ≤ 9223372036854775807 := by
  have h1 := Int64.le_toInt a
  have h2 := Int64.toInt_lt a
  omega

theorem midpoint64_toInt (x y : Int64)
    (hx : -4611686018427387904 < x.toInt) (hy : y.toInt < 4611686018427387904)
    (hxy : x.toInt ≤ y.toInt) :
    (midpoint64 x y).toInt = x.toInt + (y.toInt - x.toInt) / 2 := by
  have hh : ((y - x) / 2).toInt = (y.toInt - x.toInt) / 2 := by
    rw [toInt_half, toInt_sub_of_fits _ _ (by omega) (by omega),
      Int.tdiv_eq_ediv_of_nonneg (by omega)]
  rw [midpoint64, toInt_add_of_fits _ _ (by omega) (by omega), hh]

theorem timeSub_toInt (t u : Int) (h1 : -9223372036854775808 ≤ t - u)
    (h2 : t - u ≤ 9223372036854775807) : (timeSub t u).toInt = t - u := by
  unfold timeSub
  rw [if_neg (by unfold minI64; omega), if_neg (by unfold maxI64; omega)]
  exact Int64.toInt_ofInt_of_le h1 (by omega)

theorem clockOffset_toInt (t0 t1 t2 t3 : Int)
    (ha1 : -4611686018427387904 ≤ t1 - t0) (ha2 : t1 - t0 ≤ 4611686018427387904)
    (hb1 : -4611686018427387904 ≤ t2 - t3) (hb2 : t2 - t3 ≤ 4611686018427387903) :
    (clockOffset t0 t1 t2 t3).toInt = Int.tdiv ((t1 - t0) + (t2 - t3)) 2 := by
  have h1 := timeSub_toInt t1 t0 (by omega) (by omega)
  have h2 := timeSub_toInt t2 t3 (by omega) (by omega)
  rw [clockOffset, toInt_half, toInt_add_of_fits _ _ (by omega) (by omega), h1, h2]

/-- The float value of a small sample count. -/
def natF (n : Nat) : F64 := if n = 0 then .zero false else .fin (n : Rat)

/-- Counting up to `filterAverage` is exact: complete table over `0..19`. -/
theorem navg_table : ∀ i : Fin 20,
    lt (natF i.val) c20 = true ∧ add (natF i.val) c1 = natF (i.val + 1) := by decide +kernel

theorem navg_le3_table : ∀ i : Fin 4, gt (natF i.val) c3 = false := by decide +kernel

theorem ntimedReset_navg (e : Nat) (f : Ntimed) : (ntimedReset e f).navg = natF 0 := rfl
theorem ntimedReset_epoch (e : Nat) (f : Ntimed) : (ntimedReset e f).epoch = e := rfl

theorem ntimedReset_const (e : Nat) (f g : Ntimed) : ntimedReset e f = ntimedReset e g := rfl

theorem ntimedEnter_same (e : Nat) (f : Ntimed) (h : f.epoch = e) : ntimedEnter e f = f := by
  unfold ntimedEnter; simp [h]

theorem ntimedEnter_change (e : Nat) (f : Ntimed) (h : f.epoch ≠ e) :
    ntimedEnter e f = ntimedReset e f := by
  unfold ntimedEnter; simp [h]

theorem ntimedEnter_reset (e : Nat) (f : Ntimed) :
    ntimedEnter e (ntimedReset e f) = ntimedReset e f :=
  ntimedEnter_same e _ (ntimedReset_epoch e f)

theorem ntimedEnter_epoch (e : Nat) (f : Ntimed) : (ntimedEnter e f).epoch = e := by
  unfold ntimedEnter
  split
  · rfl
  · rename_i h; simpa using h

theorem ntimedEnter_idem (e : Nat) (f : Ntimed) :
    ntimedEnter e (ntimedEnter e f) = ntimedEnter e f :=
  ntimedEnter_same e _ (ntimedEnter_epoch e f)

/-- `Do` only looks at the state through `ntimedEnter`. -/
theorem ntimedDoFull_enter (e : Nat) (f : Ntimed) (x : Sample) :
    ntimedDoFull e (ntimedEnter e f) x = ntimedDoFull e f x := by
  unfold ntimedDoFull
  simp only [ntimedEnter_idem]

theorem ntimedDo_reset (e : Nat) (f : Ntimed) (x : Sample) (h : f.epoch ≠ e) :
    ntimedDo e (ntimedReset e f) x = ntimedDo e f x := by
  unfold ntimedDo
  rw [← ntimedEnter_change e f h, ntimedDoFull_enter]

theorem ntimedDoFull_state_epoch (e : Nat) (f : Ntimed) (x : Sample) :
    (ntimedDoFull e f x).state.epoch = e := by
  unfold ntimedDoFull
  exact ntimedEnter_epoch e f

theorem ntimedDoFull_state_navg (e : Nat) (f : Ntimed) (x : Sample) :
    (ntimedDoFull e f x).state.navg = ntimedNavg (ntimedEnter e f) := rfl

/-- The value returned is `Inv(Duration(mid))` for the `mid` the branch chain leaves. -/
theorem ntimedDoFull_out (e : Nat) (f : Ntimed) (x : Sample) :
    (ntimedDoFull e f x).out = inv64 (toDuration (ntimedDoFull e f x).mid) := by
  simp only [ntimedDoFull, combine]

theorem ntimedDoFull_branch (e : Nat) (f : Ntimed) (x : Sample) :
    ntimedBranch (ntimedEnter e f) (ntimedDoFull e f x).state.navg (ntimedLo x) (ntimedHi x)
        (ntimedMid x) (ntimedDoFull e f x).failLo (ntimedDoFull e f x).failHi
      = ((ntimedDoFull e f x).branch, (ntimedDoFull e f x).mid) := by
  simp only [ntimedDoFull]

theorem ntimedBranch_cases (f : Ntimed) (navg lo hi mid : F64) (failLo failHi : Bool) :
    let bm := ntimedBranch f navg lo hi mid failLo failHi
    (bm.1 = 1 ∧ failLo = true ∧ failHi = true ∧ bm.2 = mid) ∨
    (bm.1 = 2 ∧ gt navg c3 = true ∧ failLo = true ∧ failHi = false ∧ bm.2 = add f.amid (sub hi f.ahi)) ∨
    (bm.1 = 3 ∧ gt navg c3 = true ∧ failLo = false ∧ failHi = true ∧ bm.2 = add f.amid (sub lo f.alo)) ∨
    (bm.1 = 4 ∧ ¬ (failLo = true ∧ failHi = true) ∧ (gt navg c3 = false ∨ (failLo = false ∧ failHi = false))
       ∧ bm.2 = mid) := by
  unfold ntimedBranch
  cases failLo <;> cases failHi <;> cases gt navg c3 <;> simp

theorem navg_step (e : Nat) (f : Ntimed) (x : Sample) (n : Nat) (he : f.epoch = e)
    (hn : f.navg = natF n) (h : n < 20) : (ntimedDoFull e f x).state.navg = natF (n + 1) := by
  rw [ntimedDoFull_state_navg, ntimedEnter_same e f he, ntimedNavg, hn, (navg_table ⟨n, h⟩).1,
    if_pos rfl, (navg_table ⟨n, h⟩).2]

theorem navg_after (e : Nat) : ∀ (xs : List Sample) (f : Ntimed) (n : Nat),
    f.epoch = e → f.navg = natF n → n + xs.length ≤ 20 →
    (ntimedFinal f (xs.map (NOp.sample e))).epoch = e ∧
    (ntimedFinal f (xs.map (NOp.sample e))).navg = natF (n + xs.length)
  | [], _, _, he, hn, _ => ⟨he, hn⟩
  | x :: xs, f, n, he, hn, hlen => by
    rw [List.length_cons] at hlen
    have := navg_after e xs (ntimedDoFull e f x).state (n + 1) (ntimedDoFull_state_epoch e f x)
      (navg_step e f x n he hn (by omega)) (by omega)
    rwa [Nat.add_right_comm] at this

theorem ntimedRun_append (s : Ntimed) : ∀ (pre ops : List NOp),
    ntimedRun s (pre ++ ops) = ntimedRun s pre ++ ntimedRun (ntimedFinal s pre) ops
  | [], _ => rfl
  | op :: pre, ops => by
    simp only [List.cons_append, ntimedRun, ntimedFinal, ntimedRun_append _ pre ops]
    cases (ntimedStep s op).2 <;> rfl

theorem luckyRun_append (f : Lucky) : ∀ (pre ops : List LOp),
    luckyRun f (pre ++ ops) = luckyRun f pre ++ luckyRun (luckyFinal f pre) ops
  | [], _ => rfl
  | op :: pre, ops => by
    simp only [List.cons_append, luckyRun, luckyFinal, luckyRun_append _ pre ops]
    cases (luckyStep f op).2 <;> rfl

theorem luckyStep_config (f : Lucky) (op : LOp) :
    (luckyStep f op).1.cap = f.cap ∧ (luckyStep f op).1.pick = f.pick := by
  cases op with
  | sample x =>
    simp only [luckyStep, luckyDo]
    split <;> exact ⟨rfl, rfl⟩
  | reset => exact ⟨rfl, rfl⟩

theorem luckyFinal_config (f : Lucky) : ∀ ops : List LOp,
    (luckyFinal f ops).cap = f.cap ∧ (luckyFinal f ops).pick = f.pick
  | [] => ⟨rfl, rfl⟩
  | op :: ops => by
    have h := luckyFinal_config (luckyStep f op).1 ops
    have h' := luckyStep_config f op
    simp only [luckyFinal]
    exact ⟨h.1.trans h'.1, h.2.trans h'.2⟩

end ScionTime.Filters
