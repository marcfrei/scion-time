/-
  Helper lemmas for Model/NtpMath.lean: the int64 formulas equal the integer formulas
  when nothing saturates or wraps; the three fields of a packet's first byte as shifts and masks.
-/
import ScionTime.Model.NtpMath
namespace ScionTime.NtpMath

theorem sub64_toInt (t u : Int) (hlo : -9223372036854775808 ≤ t - u)
    (hhi : t - u ≤ 9223372036854775807) : (sub64 t u).toInt = t - u := by
  unfold sub64
  rw [if_neg (by omega), if_neg (by omega)]
  exact Int64.toInt_ofInt_of_le (by omega) (by omega)

/-- saturating `Sub` always has the sign of the exact difference -/
theorem sub64_neg_iff (t u : Int) : (sub64 t u < 0) ↔ t - u < 0 := by
  rw [Int64.lt_iff_toInt_lt]
  show (sub64 t u).toInt < 0 ↔ _
  unfold sub64
  split
  · rw [Int64.toInt_minValue]; omega
  · split
    · rw [Int64.toInt_maxValue]; omega
    · rw [Int64.toInt_ofInt_of_le (by omega) (by omega)]

theorem tdiv2_bounds (x : Int) : 2 * Int.tdiv x 2 ≤ x + 1 ∧ x - 1 ≤ 2 * Int.tdiv x 2 ∧
    (0 ≤ x → 2 * Int.tdiv x 2 ≤ x) ∧ (x ≤ 0 → x ≤ 2 * Int.tdiv x 2) := by
  rcases Int.le_total 0 x with h | h
  · rw [Int.tdiv_eq_ediv_of_nonneg h]; omega
  · have : Int.tdiv x 2 = -((-x) / 2) := by
      rw [← Int.tdiv_eq_ediv_of_nonneg (by omega), Int.neg_tdiv, Int.neg_neg]
    rw [this]; omega

theorem clockOffset64_eq (t0 t1 t2 t3 : Int) (h : InRange t0 t1 t2 t3) :
    (clockOffset64 t0 t1 t2 t3).toInt = clockOffset t0 t1 t2 t3 := by
  obtain ⟨a1, a2, b1, b2, _, _, _, _⟩ := h
  unfold clockOffset64 clockOffset
  have h2 : (2 : Int64).toInt = 2 := by decide
  rw [Int64.toInt_div, Int64.toInt_add, sub64_toInt _ _ (by omega) (by omega),
    sub64_toInt _ _ (by omega) (by omega), h2]
  rw [Int.bmod_eq_of_le (n := (t1 - t0 + (t2 - t3))) (by omega) (by omega)]
  have := tdiv2_bounds (t1 - t0 + (t2 - t3))
  exact Int.bmod_eq_of_le (by omega) (by omega)

theorem roundTripDelay64_eq (t0 t1 t2 t3 : Int) (h : InRange t0 t1 t2 t3) :
    (roundTripDelay64 t0 t1 t2 t3).toInt = roundTripDelay t0 t1 t2 t3 := by
  obtain ⟨_, _, _, _, c1, c2, d1, d2⟩ := h
  unfold roundTripDelay64 roundTripDelay
  rw [Int64.toInt_sub, sub64_toInt _ _ (by omega) (by omega),
    sub64_toInt _ _ (by omega) (by omega)]
  exact Int.bmod_eq_of_le (by omega) (by omega)

/-- Half round-trip bound for client stamps that enclose the exchange: transmit stamp not after
    the departure `T0`, receive stamp not before the arrival `T3` (up to the 1 ns of the wire
    format); server stamps exact up to 1 ns. -/
theorem offset_half_rtt_enclosed (T0 T1 T2 T3 d1 d2 θ t0 t1 t2 t3 : Int)
    (h1 : T1 = T0 + d1 + θ) (h3 : T3 = T2 + d2 - θ) (hd1 : 0 ≤ d1) (hd2 : 0 ≤ d2)
    (r0 : t0 ≤ T0) (r1 : T1 - 1 ≤ t1 ∧ t1 ≤ T1) (r2 : T2 - 1 ≤ t2 ∧ t2 ≤ T2) (r3 : T3 - 1 ≤ t3) :
    2 * (clockOffset t0 t1 t2 t3 - θ) ≤ roundTripDelay t0 t1 t2 t3 + 3 ∧
    2 * (θ - clockOffset t0 t1 t2 t3) ≤ roundTripDelay t0 t1 t2 t3 + 3 := by
  unfold clockOffset roundTripDelay
  have := tdiv2_bounds (t1 - t0 + (t2 - t3))
  omega

theorem leap_toNat (x : UInt8) : leap x.toNat = ((x >>> 6) &&& 3).toNat := by
  rw [UInt8.toNat_and, UInt8.toNat_shiftRight, Nat.shiftRight_eq_div_pow]
  exact (Nat.and_two_pow_sub_one_eq_mod _ 2).symm

theorem version_toNat (x : UInt8) : version x.toNat = ((x >>> 3) &&& 7).toNat := by
  rw [UInt8.toNat_and, UInt8.toNat_shiftRight, Nat.shiftRight_eq_div_pow]
  exact (Nat.and_two_pow_sub_one_eq_mod _ 3).symm

theorem mode_toNat (x : UInt8) : mode x.toNat = (x &&& 7).toNat := by
  rw [UInt8.toNat_and]
  exact (Nat.and_two_pow_sub_one_eq_mod _ 3).symm

end ScionTime.NtpMath
