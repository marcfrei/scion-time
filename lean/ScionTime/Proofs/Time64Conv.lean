/-
  Lemmas for Props/C04.lean and its leaf tie Props/LeafC04.lean: splitting a time into seconds and
  nanoseconds, the era arithmetic of `Time64.decSec`, and what the generated era selection computes.
-/
import ScionTime.Model.Time64
import ScionTime.Proofs.GoPrelude
namespace ScionTime.Time64

theorem unix_split (t : Int) :
    t = unixSec t * 1000000000 + nanosecond t ∧ 0 ≤ nanosecond t ∧ nanosecond t < 1000000000 := by
  unfold unixSec nanosecond nsPerSec
  omega

theorem unixSec_add (s r : Int) (h0 : 0 ≤ r) (h1 : r < 1000000000) :
    unixSec (s * 1000000000 + r) = s := by
  unfold unixSec nsPerSec
  omega

theorem tdiv_era {tref : Int} (h : epoch ≤ tref) :
    Int.tdiv (tref - epoch) era = (tref - epoch) / era :=
  Int.tdiv_eq_ediv_of_nonneg (Int.sub_nonneg_of_le h)

theorem decNs_frac_mono {a b : Int} (h : a ≤ b) :
    decNs (a * era / nsPerSec) ≤ decNs (b * era / nsPerSec) := by
  unfold decNs era nsPerSec
  omega

theorem decNs_frac_nonneg {n : Int} (h : 0 ≤ n) : 0 ≤ decNs (n * era / nsPerSec) :=
  Int.le_trans (by decide) (decNs_frac_mono h)

theorem toTime_ofTime (t t0 : Int)
    (hs : decSec ((unixSec t - epoch) % era) (unixSec t0) = unixSec t) :
    toTime (ofTime t) t0 = unixSec t * 1000000000 + decNs (nanosecond t * era / nsPerSec) := by
  unfold toTime ofTime mkTime
  rw [hs]
  rfl

end ScionTime.Time64

namespace ScionTime.GoLemmas
open ScionTime

/-- the generated `if sec < u - 2^31 … else if sec ≥ u + 2^31 …` is `Time64.decSec` when nothing wraps -/
theorem decSec_toInt {u s sec : Int64} {tr S : Int} (hu : u.toInt = tr) (hs : s.toInt = S)
    (htr : -2305843009213693952 ≤ tr ∧ tr < 2305843009213693952) (hS : 0 ≤ S ∧ S < 4294967296)
    (hsec : sec = -2208988800 + (u - -2208988800) / 4294967296 * 4294967296 + s) :
    (if decide (sec < u - 4294967296 / 2) = true then sec + 4294967296
      else if decide (sec ≥ u + 4294967296 / 2) = true then sec - 4294967296
      else sec).toInt = Time64.decSec S tr := by
  have hE : (-2208988800 : Int64).toInt = -2208988800 := by decide
  have hR : (4294967296 : Int64).toInt = 4294967296 := by decide
  have hH : ((4294967296 : Int64) / 2).toInt = 4294967296 / 2 := by decide
  have hq := tdiv_era_bounds (tr - -2208988800)
  have h_e : sec.toInt = _ := hsec ▸ toInt_add_eq (toInt_add_eq hE (toInt_mul_eq (toInt_div_eq
    (toInt_sub_eq hu hE (by omega)) hR (by omega)) hR (by omega)) (by omega)) hs (by omega)
  rw [ite3_toInt, toInt_add_eq h_e hR (by omega), toInt_sub_eq h_e hR (by omega),
    toInt_sub_eq hu hH (by omega), toInt_add_eq hu hH (by omega), h_e]
  rfl

end ScionTime.GoLemmas
