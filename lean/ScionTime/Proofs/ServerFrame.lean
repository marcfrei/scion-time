/-
  Frame lemmas for `handleRequest` / `updateTXTimestamp` (Model/Server.lean): which entries a
  call can leave on record. Every entry on record after a call was on record before it under the
  same client id, or it belongs to the calling client and carries the receive timestamp the call
  is about; and what `handleRequest` followed by `updateTXTimestamp` leaves of that exchange.
-/
import ScionTime.Proofs.ServerReply
namespace ScionTime.Server
open ScionTime.Time64

/-- entries of `m'` are entries of `m` under the same key, except possibly entries of `id` whose
    receive timestamp is `r` -/
def SubExc (m m' : Map) (id : Nat) (r : T64) : Prop :=
  ∀ k it' e, m'.find k = some it' → e ∈ it'.buf →
    (∃ it, m.find k = some it ∧ e ∈ it.buf) ∨ (k = id ∧ e.rx = r)

theorem SubExc.refl (m : Map) (id : Nat) (r : T64) : SubExc m m id r :=
  fun _ it' _ h he => Or.inl ⟨it', h, he⟩

theorem SubExc.trans {a b c : Map} {id : Nat} {r : T64} (h1 : SubExc a b id r) (h2 : SubExc b c id r) :
    SubExc a c id r := by
  intro k it' e hf he
  rcases h2 k it' e hf he with ⟨it, hb, heb⟩ | h
  · exact h1 k it e hb heb
  · exact Or.inr h

/-- maps whose entries agree on `core` for every key but `x`, where the new map has nothing -/
theorem subExc_of_core_except {m m' : Map} (x : Nat)
    (h : ∀ k, k ≠ x → (m'.find k).map core = (m.find k).map core) (hx : m'.find x = none)
    (id : Nat) (r : T64) : SubExc m m' id r := by
  intro k it' e hf he
  by_cases hk : k = x
  · subst hk; rw [hx] at hf; cases hf
  · have := h k hk
    rw [hf] at this
    cases h1 : Map.find m k with
    | none => rw [h1] at this; simp at this
    | some it =>
      rw [h1] at this
      simp only [Option.map_some, Option.some.injEq, core, Prod.mk.injEq] at this
      exact Or.inl ⟨it, rfl, by rw [← this.1]; exact he⟩

theorem subExc_cons (m : Map) (k0 : Nat) (it0 : Item) (h0 : it0.buf = []) (id : Nat) (r : T64) :
    SubExc m ((k0, it0) :: m) id r := by
  intro k it' e hf he
  rw [Map.find_cons] at hf
  split at hf
  · cases hf; rw [h0] at he; cases he
  · exact Or.inl ⟨it', hf, he⟩

theorem subExc_update (m m1 : Map) (id : Nat) (it : Item) (q' : T64) (g : List Entry → List Entry)
    (r : T64) (hit : m.find id = some it) (s1 : Same (setQval m id q') m1)
    (hg : ∀ x ∈ g it.buf, x ∈ it.buf ∨ x.rx = r) : SubExc m (setBuf m1 id g) id r := by
  intro k it' e hf he
  by_cases hk : id = k
  · subst hk
    obtain ⟨it1, h1, h2, _⟩ := find_after_update m m1 id it q' g hit s1
    rw [h1] at hf
    cases hf
    rw [h2] at he
    exact (hg e he).imp (fun h => ⟨it, hit, h⟩) (fun h => ⟨rfl, h⟩)
  · rw [find_setBuf, if_neg hk] at hf
    obtain ⟨it0, h0, hb, _⟩ := same_find s1 hf
    rw [find_setQval, if_neg hk] at h0
    exact Or.inl ⟨it0, h0, by rw [hb]; exact he⟩

theorem mem_of_mem_storeEntry (icap : Nat) (buf : List Entry) (sc : Scan) (e x : Entry)
    (h : x ∈ storeEntry icap buf sc e) : x ∈ buf ∨ x = e := by
  unfold storeEntry at h
  split at h
  · exact List.mem_or_eq_of_mem_set h
  · split at h
    · split at h
      · exact List.mem_or_eq_of_mem_set h
      · exact Or.inl h
    · exact (List.mem_append.1 h).imp_right List.mem_singleton.1

/-- `handleRequest`: what is on record afterwards was on record before, or is an entry of the
    requesting client with the receive time of this exchange. -/
theorem hr_frame (strict : Bool) (cap icap : Nat) (hcap : 1 ≤ cap) (st : State) (wf : WF st) (id : Nat)
    (req : Req) (rxt now : Int) :
    SubExc st.items (handleRequestG strict cap icap st id req rxt now).st.items id
      (ofTime (handleRequestG strict cap icap st id req rxt now).rxt) := by
  unfold handleRequestG
  simp only
  split
  · rename_i it hit
    generalize uniq it.buf rxt _ _ = u
    obtain ⟨q', fx, _⟩ := hr_fix_spec st wf id it hit (scan it.buf req.org).mx (ofTime u.1)
    exact subExc_update st.items _ id it q'
      (fun b => storeEntry icap b (scan it.buf req.org) ⟨ofTime u.1, ofTime u.2, id⟩)
      (ofTime u.1) hit fx.same (fun x hx => (mem_of_mem_storeEntry _ _ _ _ _ hx).imp_right (fun h => by rw [h]))
  · rename_i hnone
    have hev : SubExc st.items (evict cap st (ofTime rxt)).1.items id (ofTime rxt) := by
      unfold evict
      split
      · rename_i hc
        simp only [Bool.and_eq_true, decide_eq_true_eq] at hc
        have hpos : 0 < st.heap.size := by have := wf.len; omega
        obtain ⟨_, _, c, d⟩ := popMin_spec st wf hpos
        exact subExc_of_core_except (popMin st).2 c d id _
      · exact SubExc.refl _ _ _
    obtain ⟨w1, n1, _⟩ := evict_keeps (P := fun _ => True) cap hcap st wf (ofTime rxt) id hnone
    generalize evict cap st (ofTime rxt) = ev at hev w1 n1 ⊢
    split
    · exact hev
    · simp only
      obtain ⟨hid, s2⟩ := push_fresh ev.1 w1 id { buf := [], qval := ofTime rxt, qidx := 0 } n1
      exact (hev.trans (subExc_cons _ _ _ rfl _ _)).trans
        (subExc_update _ _ id _ (ofTime rxt) _ _ hid s2
          (fun x hx => Or.inr (by simp at hx; rw [hx])))

/-- `updateTXTimestamp`: what is on record afterwards was on record before, or is the entry of
    this client with the receive timestamp the call is about. -/
theorem utx_frame (st : State) (wf : WF st) (id : Nat) (rxt txt1 : Int) :
    SubExc st.items (updateTX st id rxt txt1).1.items id (ofTime rxt) := by
  unfold updateTX
  simp only
  generalize (if ¬ rxt < txt1 then rxt + 1 else txt1) = txt
  split
  · exact SubExc.refl _ _ _
  · rename_i it hit
    have s2 := scan2_inv it.buf (ofTime rxt)
    generalize scan2 it.buf (ofTime rxt) = sc at s2 ⊢
    cases hx : sc.x with
    | none => exact SubExc.refl _ _ _
    | some x =>
      simp only
      obtain ⟨hxl, hxrx, hxd⟩ := s2.found hx
      rw [← hxd] at hxrx
      split
      · -- the transmit timestamp is replaced
        exact subExc_update st.items st.items id it it.qval
          (fun b => b.set x { (it.buf.getD x defaultEntry) with tx := ofTime txt }) (ofTime rxt) hit
          (same_setQval_self _ _ _ hit)
          (fun y hy => (List.mem_or_eq_of_mem_set hy).imp_right (fun h => by rw [h]; exact hxrx))
      · split
        · -- the client's only exchange: the item goes
          obtain ⟨_, _, c, d⟩ := remove_spec st wf id it hit
          exact subExc_of_core_except id c d id _
        · -- the exchange is removed from the item
          obtain ⟨q', fx, _⟩ := utx_fix_spec st wf id it hit sc.m0 sc.m1 (ofTime rxt)
          refine subExc_update st.items _ id it q' (fun b => swapRemove b x) _ hit fx.same (fun y hy => ?_)
          obtain ⟨j, hj, _, e⟩ := mem_swapRemove hxl hy
          exact Or.inl (e ▸ List.getElem_mem hj)

theorem hr_rxt (strict : Bool) (cap icap : Nat) (st : State) (id : Nat) (req : Req) (rxt now : Int) :
    let r := handleRequestG strict cap icap st id req rxt now
    rxt ≤ r.rxt ∧ r.reply.rx = ofTime r.rxt := by
  obtain ⟨h1, _, h3⟩ := hr_outputs strict cap icap st id req rxt now
  intro r
  rw [h1, h3, mkReply_rx]
  exact ⟨(uniq_mono _ _ rxt _).1, rfl⟩

theorem utxTxt_of_lt {rxt txt1 : Int} (h : rxt < txt1) : utxTxt rxt txt1 = txt1 :=
  if_neg (Decidable.not_not.2 h)

section
variable {cap icap : Nat} (hcap : 1 ≤ cap) (hic : 1 ≤ icap) (hic2 : icap < 1000000000)
  {st : State} (inv : Inv0 (fun _ => True) cap icap st) (id : Nat) (req : Req) (rxt now txt1 : Int)
include hcap hic hic2 inv

theorem inv0_hr : Inv0 (fun _ => True) cap icap (handleRequestG true cap icap st id req rxt now).st :=
  inv0_handleRequestG true cap icap hcap hic hic2 st inv id req rxt now fun _ _ _ _ _ => trivial

theorem inv0_hr_utx :
    let r := handleRequestG true cap icap st id req rxt now
    Inv0 (fun _ => True) cap icap (updateTX r.st id r.rxt txt1).1 :=
  inv0_updateTX cap icap _ (inv0_hr hcap hic hic2 inv id req rxt now) id _ txt1
    fun _ _ _ _ _ _ => trivial

theorem hr_utx_frame :
    let r := handleRequestG true cap icap st id req rxt now
    SubExc st.items (updateTX r.st id r.rxt txt1).1.items id (ofTime r.rxt) :=
  (hr_frame true cap icap hcap st inv.wf id req rxt now).trans
    (utx_frame _ (inv0_hr hcap hic hic2 inv id req rxt now).wf id _ txt1)

theorem hr_utx_recorded (it : Item) (e : Entry) :
    let r := handleRequestG true cap icap st id req rxt now
    (updateTX r.st id r.rxt txt1).1.items.find id = some it → e ∈ it.buf → e.rx = ofTime r.rxt →
      ofTime r.txt ≠ ofTime (utxTxt r.rxt txt1) ∧ e = ⟨ofTime r.rxt, ofTime (utxTxt r.rxt txt1), id⟩ := by
  intro r hfind he hrx
  have inv1 : Inv0 (fun _ => True) cap icap r.st := inv0_hr hcap hic hic2 inv id req rxt now
  cases hf1 : r.st.items.find id with
  | none =>
    have : (updateTX r.st id r.rxt txt1).1 = r.st := by unfold updateTX; simp [hf1]
    rw [this, hf1] at hfind
    cases hfind
  | some it1 =>
    have hrec := hr_recorded true cap icap hcap st inv id req rxt now it1 hf1
    obtain ⟨kne, keq⟩ := utx_recorded cap icap r.st inv1 id r.rxt txt1 it1 hf1 _ hrec rfl
    by_cases hq : ofTime r.txt = ofTime (utxTxt r.rxt txt1)
    · exact absurd hrx ((keq hq it hfind).1 e he)
    · obtain ⟨it', hf', hmem, _⟩ := kne hq
      cases hfind.symm.trans hf'
      have ok := (inv0_hr_utx hcap hic hic2 inv id req rxt now txt1).items id it hfind
      exact ⟨hq, eq_of_rx_eq ok.distinct he hmem hrx⟩

end

end ScionTime.Server
