/-
  Helper lemmas for Props/C14.lean: the generic layout round trips (Proofs/WireFields.lean)
  instantiated for the NTP header and the CSPTP message and TLVs.
-/
import ScionTime.Proofs.WireFields
import ScionTime.Model.NtpPacket
import ScionTime.Model.CsptpCodec
namespace ScionTime.C14
open ScionTime.Wire

section Ntp
open ScionTime.NtpPacket

theorem ntp_toFields_ok (p : Packet) (h : p.Valid) : FieldsOk layout (toFields p) := by
  have := toU_lt8 p.poll
  have := toU_lt8 p.precision
  unfold Packet.Valid at h
  simp only [layout, toFields, FieldsOk, Nat.reducePow, and_true]
  omega

theorem ntp_ofFields_toFields (p : Packet) (h : p.Valid) : ofFields (toFields p) = p := by
  obtain ⟨_, _, h3, h4, _⟩ := h
  simp only [toFields, ofFields, ofU_toU8 _ h3, ofU_toU8 _ h4]

theorem ntp_toFields_ofFields (vs : List Nat) (h : FieldsOk layout vs) :
    toFields (ofFields vs) = vs ∧ (ofFields vs).Valid := by
  unfold layout at h
  iterate 17 obtain ⟨_, vs, rfl, _, h⟩ := h.cons_inv
  cases h.nil_inv
  simp only [Nat.reducePow] at *
  constructor
  · simp only [ofFields, toFields, toU_ofU8, *]
  · simp only [ofFields, Packet.Valid, ofU, Nat.reducePow, Nat.reduceSub]
    omega

theorem ntp_encode_length (p : Packet) : (encodePacket p).length = 48 :=
  encodeFields_length layout (toFields p) rfl

theorem ntp_decode_eq (b : List Nat) :
    decodePacket b = if b.length < 48 then .err "size" else .ok (ofFields (fieldsOf layout b)) := by
  unfold decodePacket packetLen
  by_cases h : b.length < 48
  · rw [if_pos h, if_pos h]
  · rw [if_neg h, if_neg h, readFields_ok layout b (Nat.le_of_not_lt h)]

theorem ntp_decode_encode (p : Packet) (rest : List Nat) (h : p.Valid) :
    decodePacket (encodePacket p ++ rest) = .ok p := by
  rw [ntp_decode_eq, if_neg (by simp [ntp_encode_length]), encodePacket,
    fieldsOf_encodeFields _ _ _ (ntp_toFields_ok p h), ntp_ofFields_toFields p h]

theorem ntp_encode_decode (b : List Nat) (hlen : 48 ≤ b.length) (hb : AllBytes b) :
    ∃ p, decodePacket b = .ok p ∧ p.Valid ∧ encodePacket p = b.take 48 := by
  have hf := ntp_toFields_ofFields _ (fieldsOf_ok layout b hb)
  refine ⟨_, by rw [ntp_decode_eq, if_neg (by omega)], hf.2, ?_⟩
  rw [encodePacket, hf.1]
  exact encodeFields_fieldsOf layout b hlen hb

theorem ntp_decode_total (b : List Nat) :
    (b.length < 48 ∧ decodePacket b = .err "size") ∨
    (48 ≤ b.length ∧ ∃ p, decodePacket b = .ok p) := by
  rw [ntp_decode_eq]
  by_cases h : b.length < 48
  · rw [if_pos h]
    exact .inl ⟨h, rfl⟩
  · rw [if_neg h]
    exact .inr ⟨by omega, _, rfl⟩

theorem ntp_decode_lvm (x : Nat) (t : List Nat) (p : Packet)
    (h : decodePacket (x :: t) = .ok p) : p.lvm = x := by
  rw [ntp_decode_eq] at h
  split at h
  · cases h
  · cases h
    simp [layout, fieldsOf, ofFields, beVal]

end Ntp

section Csptp
open ScionTime.Csptp

theorem msg_toFields_ok (m : Message) (h : m.Valid) : FieldsOk msgLayout (msgToFields m) := by
  have := toU_lt64 m.correctionField
  have := toU_lt8 m.logMessageInterval
  unfold Message.Valid at h
  simp only [msgLayout, msgToFields, FieldsOk, Nat.reducePow, and_true]
  omega

theorem msg_ofFields_toFields (m : Message) (h : m.Valid) : msgOfFields (msgToFields m) = m := by
  obtain ⟨_, _, _, _, _, _, h7, _, _, _, _, _, h13, _⟩ := h
  simp only [msgToFields, msgOfFields, ofU_toU64 _ h7, ofU_toU8 _ h13]

theorem msg_toFields_ofFields (vs : List Nat) (h : FieldsOk msgLayout vs) :
    msgToFields (msgOfFields vs) = vs ∧ (msgOfFields vs).Valid := by
  unfold msgLayout at h
  iterate 15 obtain ⟨_, vs, rfl, _, h⟩ := h.cons_inv
  cases h.nil_inv
  simp only [Nat.reducePow] at *
  constructor
  · simp only [msgOfFields, msgToFields, toU_ofU64, toU_ofU8, *]
  · simp only [msgOfFields, Message.Valid, ofU, Nat.reducePow, Nat.reduceSub]
    omega

theorem msg_bytes_length (m : Message) : (messageBytes m).length = 44 :=
  encodeFields_length msgLayout (msgToFields m) rfl

theorem msg_decode_eq (b : List Nat) :
    decodeMessage b =
      if b.length < 44 then .err "size" else .ok (msgOfFields (fieldsOf msgLayout b)) := by
  unfold decodeMessage minMessageLength
  by_cases h : b.length < 44
  · rw [if_pos h, if_pos h]
  · rw [if_neg h, if_neg h, readFields_ok msgLayout b (Nat.le_of_not_lt h)]

theorem msg_decode_bytes (m : Message) (rest : List Nat) (h : m.Valid) :
    decodeMessage (messageBytes m ++ rest) = .ok m := by
  rw [msg_decode_eq, if_neg (by simp [msg_bytes_length]), messageBytes,
    fieldsOf_encodeFields _ _ _ (msg_toFields_ok m h), msg_ofFields_toFields m h]

theorem msg_encode_eq (buf : List Nat) (m : Message) :
    encodeMessage buf m =
      if buf.length < 44 then .panic "index" else .ok (messageBytes m ++ buf.drop 44) := by
  unfold encodeMessage writeInto
  rw [msg_bytes_length]
  rfl

theorem msg_decode_total (b : List Nat) :
    (b.length < 44 ∧ decodeMessage b = .err "size") ∨
    (44 ≤ b.length ∧ ∃ m, decodeMessage b = .ok m) := by
  rw [msg_decode_eq]
  by_cases h : b.length < 44
  · rw [if_pos h]
    exact .inl ⟨h, rfl⟩
  · rw [if_neg h]
    exact .inr ⟨by omega, _, rfl⟩

theorem msg_encode_decode (b : List Nat) (hlen : 44 ≤ b.length) (hb : AllBytes b) :
    ∃ m, decodeMessage b = .ok m ∧ m.Valid ∧ messageBytes m = b.take 44 ∧
      encodeMessage b m = .ok b := by
  have hf := msg_toFields_ofFields _ (fieldsOf_ok msgLayout b hb)
  have hbytes : messageBytes (msgOfFields (fieldsOf msgLayout b)) = b.take 44 := by
    rw [messageBytes, hf.1]
    exact encodeFields_fieldsOf msgLayout b hlen hb
  refine ⟨_, by rw [msg_decode_eq, if_neg (by omega)], hf.2, hbytes, ?_⟩
  rw [msg_encode_eq, if_neg (by omega), hbytes, List.take_append_drop]

theorem isPanic_guard {α : Type} (c : Prop) [Decidable c] (s : String) (x : α) :
    (if c then Outcome.panic s else .ok x).isPanic = decide c := by
  by_cases h : c <;> simp [h, Outcome.isPanic]

theorem tlvHead_layoutLen : layoutLen tlvHeadLayout = 14 := by decide

theorem zeros_length (n : Nat) : (zeros n).length = n := by simp [zeros]

theorem encodedTLVLength_cases (f : Nat) :
    (hasServerStateDS f = true ∧ encodedTLVLength f = 54) ∨
    (hasServerStateDS f = false ∧ encodedTLVLength f = 36) := by
  unfold encodedTLVLength
  cases h : hasServerStateDS f <;> simp [tlvShortLen]

theorem encodedTLVLength_ge (f : Nat) : 36 ≤ encodedTLVLength f := by
  rcases encodedTLVLength_cases f with ⟨_, e⟩ | ⟨_, e⟩ <;> omega

/-- Both in-place TLV encoders: the `_ = b[35]` hint is implied by the one at the declared
    length, which is at least 36. -/
theorem tlv_writeInto (buf bytes : List Nat) (f : Nat) (hl : bytes.length = encodedTLVLength f) :
    (if buf.length < tlvShortLen then Outcome.panic "index"
      else writeInto buf (encodedTLVLength f) bytes) =
    if buf.length < encodedTLVLength f then .panic "index"
      else .ok (bytes ++ buf.drop (encodedTLVLength f)) := by
  have hge : tlvShortLen ≤ encodedTLVLength f := encodedTLVLength_ge f
  unfold writeInto
  rw [hl]
  by_cases h : buf.length < encodedTLVLength f
  · rw [if_pos h, ite_self]
  · rw [if_neg h, if_neg (by omega)]

theorem req_toFields_ok (t : RequestTLV) (h : t.Valid) : FieldsOk tlvHeadLayout (reqToFields t) := by
  simp only [tlvHeadLayout, reqToFields, FieldsOk, Nat.reducePow, and_true]
  exact h

theorem req_toFields_ofFields (vs : List Nat) (h : FieldsOk tlvHeadLayout vs) :
    reqToFields (reqOfFields vs) = vs ∧ (reqOfFields vs).Valid := by
  unfold tlvHeadLayout at h
  iterate 5 obtain ⟨_, vs, rfl, _, h⟩ := h.cons_inv
  cases h.nil_inv
  simp only [Nat.reducePow] at *
  exact ⟨rfl, by simp only [RequestTLV.Valid, reqOfFields]; omega⟩

theorem req_head_length (t : RequestTLV) :
    (encodeFields tlvHeadLayout (reqToFields t)).length = 14 :=
  encodeFields_length tlvHeadLayout (reqToFields t) rfl

theorem req_bytes_length (t : RequestTLV) :
    (requestTLVBytes t).length = encodedTLVLength t.flagField := by
  unfold requestTLVBytes
  rcases encodedTLVLength_cases t.flagField with ⟨hf, hl⟩ | ⟨hf, hl⟩ <;>
    simp [hf, hl, req_head_length, zeros_length]

theorem req_encode_eq (buf : List Nat) (t : RequestTLV) :
    encodeRequestTLV buf t =
      if buf.length < encodedTLVLength t.flagField then .panic "index"
      else .ok (requestTLVBytes t ++ buf.drop (encodedTLVLength t.flagField)) :=
  tlv_writeInto buf _ _ (req_bytes_length t)

theorem req_decode_eq (b : List Nat) :
    decodeRequestTLV b =
      if b.length < 14 then .err "size"
      else if b.length < encodedTLVLength (reqOfFields (fieldsOf tlvHeadLayout b)).flagField
        then .err "size"
      else .ok (reqOfFields (fieldsOf tlvHeadLayout b)) := by
  unfold decodeRequestTLV tlvHeadLen
  by_cases h : b.length < 14
  · rw [if_pos h, if_pos h]
  · rw [if_neg h, if_neg h, readFields_ok tlvHeadLayout b (Nat.le_of_not_lt h)]

theorem req_decode_bytes (t : RequestTLV) (rest : List Nat) (h : t.Valid) :
    decodeRequestTLV (requestTLVBytes t ++ rest) = .ok t := by
  have hl := req_bytes_length t
  have hge := encodedTLVLength_ge t.flagField
  have hfields : fieldsOf tlvHeadLayout (requestTLVBytes t ++ rest) = reqToFields t := by
    rw [requestTLVBytes, List.append_assoc, List.append_assoc]
    exact fieldsOf_encodeFields _ _ _ (req_toFields_ok t h)
  have : reqOfFields (reqToFields t) = t := rfl
  rw [req_decode_eq, hfields, this, if_neg (by simp [hl]; omega), if_neg (by simp [hl])]

theorem req_encode_decode (b : List Nat) (t : RequestTLV) (hb : AllBytes b)
    (hd : decodeRequestTLV b = .ok t) :
    t.Valid ∧ encodedTLVLength t.flagField ≤ b.length ∧
    requestTLVBytes t = b.take 14 ++ zeros (encodedTLVLength t.flagField - 14) := by
  rw [req_decode_eq] at hd
  split at hd
  · cases hd
  · split at hd
    · cases hd
    · rename_i h1 h2
      simp only [Outcome.ok.injEq] at hd
      have hf := req_toFields_ofFields _ (fieldsOf_ok tlvHeadLayout b hb)
      have hhead : encodeFields tlvHeadLayout (fieldsOf tlvHeadLayout b) = b.take 14 :=
        encodeFields_fieldsOf tlvHeadLayout b (Nat.le_of_not_lt h1) hb
      rw [hd] at hf h2
      refine ⟨hf.2, by omega, ?_⟩
      rw [requestTLVBytes, hf.1, hhead]
      rcases encodedTLVLength_cases t.flagField with ⟨hfl, hl⟩ | ⟨hfl, hl⟩ <;>
        simp [hfl, hl, zeros, List.append_assoc]

theorem respBody_layoutLen : layoutLen respBodyLayout = 22 := by decide

theorem ds_layoutLen : layoutLen dsLayout = 18 := by decide

theorem resp_head_ok (t : ResponseTLV) (h : t.Valid) : FieldsOk tlvHeadLayout (respHeadFields t) := by
  unfold ResponseTLV.Valid at h
  simp only [tlvHeadLayout, respHeadFields, FieldsOk, Nat.reducePow, and_true]
  omega

theorem resp_body_ok (t : ResponseTLV) (h : t.Valid) : FieldsOk respBodyLayout (respBodyFields t) := by
  have := toU_lt64 t.requestCorrectionField
  have := toU_lt16 t.utcOffset
  unfold ResponseTLV.Valid at h
  simp only [respBodyLayout, respBodyFields, FieldsOk, Nat.reducePow, and_true]
  omega

theorem ds_ok (d : ServerStateDS) (h : d.Valid) : FieldsOk dsLayout (dsToFields d) := by
  simp only [dsLayout, dsToFields, FieldsOk, Nat.reducePow, and_true]
  exact h

theorem ds_toFields_ofFields (vs : List Nat) (h : FieldsOk dsLayout vs) :
    dsToFields (dsOfFields vs) = vs ∧ (dsOfFields vs).Valid := by
  unfold dsLayout at h
  iterate 9 obtain ⟨_, vs, rfl, _, h⟩ := h.cons_inv
  cases h.nil_inv
  simp only [Nat.reducePow] at *
  exact ⟨rfl, by simp only [ServerStateDS.Valid, dsOfFields]; omega⟩

theorem resp_head_length (t : ResponseTLV) :
    (encodeFields tlvHeadLayout (respHeadFields t)).length = 14 :=
  encodeFields_length tlvHeadLayout (respHeadFields t) rfl

theorem resp_body_length (t : ResponseTLV) :
    (encodeFields respBodyLayout (respBodyFields t)).length = 22 :=
  encodeFields_length respBodyLayout (respBodyFields t) rfl

theorem ds_length (d : ServerStateDS) : (encodeFields dsLayout (dsToFields d)).length = 18 :=
  encodeFields_length dsLayout (dsToFields d) rfl

theorem resp_bytes_length (t : ResponseTLV) :
    (responseTLVBytes t).length = encodedTLVLength t.flagField := by
  unfold responseTLVBytes
  rcases encodedTLVLength_cases t.flagField with ⟨hf, hl⟩ | ⟨hf, hl⟩ <;>
    simp [hf, hl, resp_head_length, resp_body_length, ds_length]

theorem resp_encode_eq (buf : List Nat) (t : ResponseTLV) :
    encodeResponseTLV buf t =
      if buf.length < encodedTLVLength t.flagField then .panic "index"
      else .ok (responseTLVBytes t ++ buf.drop (encodedTLVLength t.flagField)) :=
  tlv_writeInto buf _ _ (resp_bytes_length t)

theorem resp_ofFields_fields (t : ResponseTLV) (h : t.Valid) (ds : ServerStateDS) :
    respOfFields (respHeadFields t) (respBodyFields t) ds = { t with serverStateDS := ds } := by
  obtain ⟨_, _, _, _, _, _, _, _, h9, h10, _⟩ := h
  simp only [respOfFields, respHeadFields, respBodyFields, ofU_toU64 _ h9, ofU_toU16 _ h10]

/-- the value a response TLV decodes to, when it decodes -/
def respDecoded (b : List Nat) : ResponseTLV :=
  respOfFields (fieldsOf tlvHeadLayout b) (fieldsOf respBodyLayout (b.drop tlvHeadLen))
    (if hasServerStateDS (reqOfFields (fieldsOf tlvHeadLayout b)).flagField
      then dsOfFields (fieldsOf dsLayout (b.drop tlvShortLen)) else zeroDS)

theorem resp_decode_eq (b : List Nat) :
    decodeResponseTLV b =
      if b.length < 14 then .err "size"
      else if b.length < encodedTLVLength (reqOfFields (fieldsOf tlvHeadLayout b)).flagField
        then .err "size"
      else .ok (respDecoded b) := by
  unfold decodeResponseTLV respDecoded tlvHeadLen tlvShortLen
  by_cases h : b.length < 14
  · rw [if_pos h, if_pos h]
  · rw [if_neg h, if_neg h, readFields_ok tlvHeadLayout b (Nat.le_of_not_lt h)]
    simp only
    have hge := encodedTLVLength_ge (reqOfFields (fieldsOf tlvHeadLayout b)).flagField
    by_cases h2 : b.length < encodedTLVLength (reqOfFields (fieldsOf tlvHeadLayout b)).flagField
    · rw [if_pos h2, if_pos h2]
    · rw [if_neg h2, if_neg h2,
        readFields_ok respBodyLayout _ (by simp [respBody_layoutLen]; omega)]
      simp only
      rcases encodedTLVLength_cases (reqOfFields (fieldsOf tlvHeadLayout b)).flagField with
        ⟨hf, hl⟩ | ⟨hf, hl⟩
      · rw [if_pos hf, if_pos hf, readFields_ok dsLayout _ (by simp [ds_layoutLen]; omega)]
      · simp [hf]

theorem resp_decode_bytes (t : ResponseTLV) (rest : List Nat) (h : t.Valid) :
    decodeResponseTLV (responseTLVBytes t ++ rest) = .ok t.normalize := by
  have hl := resp_bytes_length t
  have hge := encodedTLVLength_ge t.flagField
  have hhead : fieldsOf tlvHeadLayout (responseTLVBytes t ++ rest) = respHeadFields t := by
    rw [responseTLVBytes, List.append_assoc, List.append_assoc]
    exact fieldsOf_encodeFields _ _ _ (resp_head_ok t h)
  have hdrop14 : (responseTLVBytes t ++ rest).drop 14 =
      encodeFields respBodyLayout (respBodyFields t) ++
        ((if hasServerStateDS t.flagField then encodeFields dsLayout (dsToFields t.serverStateDS)
          else []) ++ rest) := by
    rw [responseTLVBytes, List.append_assoc, List.append_assoc]
    exact List.drop_left' (resp_head_length t)
  have hdrop36 : (responseTLVBytes t ++ rest).drop 36 =
      (if hasServerStateDS t.flagField then encodeFields dsLayout (dsToFields t.serverStateDS)
        else []) ++ rest := by
    rw [← List.drop_drop (i := 22) (j := 14), hdrop14, List.drop_left' (resp_body_length t)]
  have hflag : (reqOfFields (respHeadFields t)).flagField = t.flagField := rfl
  rw [resp_decode_eq]
  unfold respDecoded tlvHeadLen tlvShortLen ResponseTLV.normalize
  rw [hhead, hflag, if_neg (by simp [hl]; omega), if_neg (by simp [hl]), hdrop14, hdrop36,
    fieldsOf_encodeFields respBodyLayout _ _ (resp_body_ok t h)]
  cases hf : hasServerStateDS t.flagField
  · simp only [Bool.false_eq_true, if_false]
    rw [resp_ofFields_fields t h]
  · have : dsOfFields (dsToFields t.serverStateDS) = t.serverStateDS := rfl
    simp only [if_true]
    rw [fieldsOf_encodeFields dsLayout _ rest (ds_ok _ h.2.2.2.2.2.2.2.2.2.2), this,
      resp_ofFields_fields t h]

theorem resp_fields_ofFields (hd body : List Nat) (ds : ServerStateDS)
    (h1 : FieldsOk tlvHeadLayout hd) (h2 : FieldsOk respBodyLayout body) :
    respHeadFields (respOfFields hd body ds) = hd ∧ respBodyFields (respOfFields hd body ds) = body ∧
    (respOfFields hd body ds).serverStateDS = ds ∧
    (respOfFields hd body ds).flagField = (reqOfFields hd).flagField ∧
    (ds.Valid → (respOfFields hd body ds).Valid) := by
  unfold tlvHeadLayout at h1
  unfold respBodyLayout at h2
  iterate 5 obtain ⟨_, hd, rfl, _, h1⟩ := h1.cons_inv
  iterate 5 obtain ⟨_, body, rfl, _, h2⟩ := h2.cons_inv
  cases h1.nil_inv
  cases h2.nil_inv
  simp only [Nat.reducePow] at *
  refine ⟨rfl, ?_, rfl, rfl, fun hds => ?_⟩
  · simp only [respOfFields, respBodyFields, toU_ofU64, toU_ofU16, *]
  · simp only [respOfFields, ResponseTLV.Valid, ofU, Nat.reducePow, Nat.reduceSub, hds, and_true]
    omega

theorem zeroDS_valid : zeroDS.Valid := by decide

theorem take_split2 (b : List Nat) : b.take 14 ++ (b.drop 14).take 22 = b.take 36 :=
  (List.take_add (l := b) (i := 14) (j := 22)).symm

theorem take_split3 (b : List Nat) : b.take 36 ++ (b.drop 36).take 18 = b.take 54 :=
  (List.take_add (l := b) (i := 36) (j := 18)).symm

theorem resp_encode_decode (b : List Nat) (t : ResponseTLV) (hb : AllBytes b)
    (hd : decodeResponseTLV b = .ok t) :
    t.Valid ∧ encodedTLVLength t.flagField ≤ b.length ∧
    responseTLVBytes t = b.take (encodedTLVLength t.flagField) ∧ t.normalize = t := by
  rw [resp_decode_eq] at hd
  split at hd
  · cases hd
  · split at hd
    · cases hd
    · rename_i h1 h2
      simp only [Outcome.ok.injEq] at hd
      have hbd14 : AllBytes (b.drop 14) := fun x hx => hb x (List.mem_of_mem_drop hx)
      have hbd36 : AllBytes (b.drop 36) := fun x hx => hb x (List.mem_of_mem_drop hx)
      have hD := ds_toFields_ofFields _ (fieldsOf_ok dsLayout _ hbd36)
      unfold respDecoded tlvHeadLen tlvShortLen at hd
      generalize hds : (if hasServerStateDS (reqOfFields (fieldsOf tlvHeadLayout b)).flagField = true
        then dsOfFields (fieldsOf dsLayout (List.drop 36 b)) else zeroDS) = ds at hd
      obtain ⟨f1, f2, f3, f4, f5⟩ := resp_fields_ofFields _ _ ds (fieldsOf_ok tlvHeadLayout b hb)
        (fieldsOf_ok respBodyLayout _ hbd14)
      rw [hd] at f1 f2 f3 f4 f5
      rw [← f4] at h2 hds
      have hge := encodedTLVLength_ge t.flagField
      have hhead : encodeFields tlvHeadLayout (fieldsOf tlvHeadLayout b) = b.take 14 :=
        encodeFields_fieldsOf tlvHeadLayout b (Nat.le_of_not_lt h1) hb
      have hbody : encodeFields respBodyLayout (fieldsOf respBodyLayout (b.drop 14))
          = (b.drop 14).take 22 :=
        encodeFields_fieldsOf respBodyLayout _ (by simp [respBody_layoutLen]; omega) hbd14
      rw [responseTLVBytes, ResponseTLV.normalize, f1, f2, f3, hhead, hbody, take_split2]
      rcases encodedTLVLength_cases t.flagField with ⟨hfl, hl⟩ | ⟨hfl, hl⟩
      · have hdsb : encodeFields dsLayout (fieldsOf dsLayout (b.drop 36)) = (b.drop 36).take 18 :=
          encodeFields_fieldsOf dsLayout _ (by simp [ds_layoutLen]; omega) hbd36
        rw [if_pos hfl] at hds
        rw [if_pos hfl, if_pos hfl, ← hds, hD.1, hdsb, hl, take_split3]
        exact ⟨f5 (by rw [← hds]; exact hD.2), by omega, rfl, rfl⟩
      · rw [hfl] at hds ⊢
        simp only [Bool.false_eq_true, if_false] at hds ⊢
        rw [hl, List.append_nil]
        refine ⟨f5 (by rw [← hds]; exact zeroDS_valid), by omega, rfl, ?_⟩
        rw [hds, ← f3]

theorem resp_decoded_flag (b : List Nat) :
    (respDecoded b).flagField = (reqOfFields (fieldsOf tlvHeadLayout b)).flagField := by
  unfold respDecoded
  simp only [tlvHeadLayout, respBodyLayout, fieldsOf, respOfFields, reqOfFields]

end Csptp
end ScionTime.C14
