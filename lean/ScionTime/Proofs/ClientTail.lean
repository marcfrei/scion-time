/-
  Model/ClientTail.lean `tail`, `finish`: state and filter are updated before the histogram is asked;
  the hosts of the request header as the listener reads them.
-/
import ScionTime.Model.ClientTail
import ScionTime.Proofs.ClientNtp
namespace ScionTime.ClientTail
open ScionTime.ClientNtp

variable (cfg : Cfg) (hist : Option Hist) (filter : Option (Int → Int → Int → Int → Int64))
  (prev : Prev) (reference : String) (cTx1 : Int)

theorem tail_cases (a : Accepted) :
    (tail cfg hist filter prev reference cTx1 a =
        ⟨.ok a.cRx (returnedOffset filter a), updatePrev cfg prev reference cTx1 a,
          filter.map fun _ => (a.t0, a.t1, a.t2, a.t3)⟩ ∧
      ∀ h, hist = some h → h.recordOk a.rtd = true) ∨
    (tail cfg hist filter prev reference cTx1 a =
        ⟨.errHist, updatePrev cfg prev reference cTx1 a,
          filter.map fun _ => (a.t0, a.t1, a.t2, a.t3)⟩ ∧
      ∃ h, hist = some h ∧ h.recordOk a.rtd = false) := by
  cases hist with
  | none => exact .inl ⟨rfl, nofun⟩
  | some h =>
    cases hr : h.recordOk a.rtd
    · exact .inr ⟨by simp [tail, hr], h, rfl, hr⟩
    · exact .inl ⟨by simp [tail, hr], fun _ h' => by cases h'; exact hr⟩

theorem tail_prev (a : Accepted) :
    (tail cfg hist filter prev reference cTx1 a).prev = updatePrev cfg prev reference cTx1 a := by
  rcases tail_cases cfg hist filter prev reference cTx1 a with h | h <;> rw [h.1]

theorem finish_never_offset (out : Outcome) :
    let r := finish cfg hist filter prev reference cTx1 out
    (∀ ts off, r.result = .ok ts off → ∃ a n, out = .accepted a n ∧ ts = a.cRx ∧ off = returnedOffset filter a) ∧
    (r.result = .errHist → hist ≠ none ∧ ∃ a n, out = .accepted a n ∧
        r.prev = updatePrev cfg prev reference cTx1 a ∧ r.absorbed = filter.map fun _ => (a.t0, a.t1, a.t2, a.t3)) ∧
    (r.result.isOk = false → r.result ≠ .errHist → r.prev = prev ∧ r.absorbed = none) ∧
    (hist = none → r.result ≠ .errHist) := by
  cases out with
  | accepted a n =>
    rcases tail_cases cfg hist filter prev reference cTx1 a with ⟨h, _⟩ | ⟨h, h0, hh, _⟩ <;>
      simp only [finish, h]
    · exact ⟨fun _ _ e => by cases e; exact ⟨a, n, rfl, rfl, rfl⟩, nofun, nofun, fun _ => nofun⟩
    · exact ⟨nofun, fun _ => ⟨by rw [hh]; nofun, a, n, rfl, rfl, rfl⟩, fun _ e => absurd rfl e,
        fun hn => by rw [hn] at hh; cases hh⟩
  | _ => exact ⟨nofun, nofun, fun _ _ => ⟨rfl, rfl⟩, fun _ => nofun⟩

theorem listenerHostOf_hostOfIP {b : List Nat} {x : HostAddr} (hx : hostOfIP b = some x) :
    listenerHostOf x = drkeyHostOfIP b := by
  obtain ⟨a, hu, rfl⟩ := Option.map_eq_some_iff.mp hx
  rw [drkeyHostOfIP, hu]
  rcases (unmapIP_some hu).2.1 with h4 | h16
  · simp [listenerHostOf, h4, t4Ip]
  · simp [listenerHostOf, h16, t16Ip, t4Ip]

end ScionTime.ClientTail
