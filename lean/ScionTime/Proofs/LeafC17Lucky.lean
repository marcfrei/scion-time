/-
  Proofs/LeafC17Lucky.lean — the three compound steps of the generated `(*LuckyPacketFilter).Do`
  on capacity-modelled slices (Proofs/LeafSlice2.lean has the single operations), each with the rest
  of the function as a continuation `k`: the window drops its oldest element when full, the `n`
  lowest keys are kept, and the median of a sorted slice is taken.  The bound `2^62` on the backing
  array (`hbig`, as in Proofs/LeafSlice2.lean) leaves room for `len ± 1` and `len / 2` in Int64.
-/
import ScionTime.Model.Filters
import ScionTime.Proofs.LeafSlice2
namespace ScionTime.GoSlice
open ScionTime ScionTime.GoLemmas ScionTime.Go ScionTime.Filters

variable {α β : Type}

theorem bind_ok (a : α) (k : α → Out β) : (Out.ok a).bind k = k a := rfl

/-- `if len(s) == cap(s) { copy(s[0:], s[1:]); s = s[:len(s)-1] }` -/
theorem drop_oldest (s : Slice α) (hbig : s.arr.length < 4611686018427387904)
    (h0 : s.arr.length ≠ 0) (k : Slice α → Out β) :
    ∃ s1 : Slice α,
      (if (s.len' == s.cap) = true then
          (Out.ofOption "slice" (s.copy? 0 s 1)).bind fun s3 =>
            (Out.ofOption "slice" (s3.to? (s3.len' - 1))).bind fun s4 => k s4
        else k s) = k s1 ∧
      s1.arr.length = s.arr.length ∧ s1.len < s.arr.length ∧
      s1.live = (if s.len = s.arr.length then s.live.drop 1 else s.live) := by
  have hok := s.ok
  have hl := len_toInt s hbig
  have hc := cap_toInt s hbig
  by_cases hfull : s.len = s.arr.length
  · have hb : (s.len' == s.cap) = true := by
      rw [Slice.len', Slice.cap, hfull]; exact beq_self_eq_true _
    rw [if_pos hb, if_pos hfull]
    obtain ⟨s3, h3, h3l, h3c, h3t⟩ := copy_shift s (by omega)
    have h1 : (1 : Int64).toInt = 1 := by decide
    have h3len := len_toInt s3 (by omega)
    have hsub : (s3.len' - 1).toInt = (s3.len - 1 : Nat) := by
      rw [toInt_sub_of_fits _ _ (by omega) (by omega), h3len, h1]; omega
    obtain ⟨s4, h4, h4a, h4l⟩ := to?_some s3 (s3.len' - 1) (s3.len - 1) hsub (by omega)
    refine ⟨s4, by rw [h3]; show (Out.ofOption "slice" (s3.to? _)).bind _ = _; rw [h4]; rfl,
      by rw [h4a, h3c], by rw [h4l, h3l]; omega, ?_⟩
    rw [live_of s4 s3.arr (s3.len - 1) h4a h4l, h3l, h3t]
  · have hb : ¬ (s.len' == s.cap) = true := fun h => by
      rw [eq_of_beq h] at hl; omega
    rw [if_neg hb, if_neg hfull]
    exact ⟨s, rfl, rfl, by omega, rfl⟩

/-- `if n < len(s) { slices.SortFunc(s, key); s = s[:n] }` in the insertion-sort regime -/
theorem keep_lowest (key : α → Int64) (s : Slice α) (n : Int64) (hn : 1 ≤ n.toInt)
    (h1 : 1 ≤ s.len) (h12 : s.len ≤ 12) (hbig : s.arr.length < 4611686018427387904)
    (k : Slice α → Out β) :
    ∃ s' : Slice α,
      (if decide (n < s.len') = true then
          (Out.ofOptionStuck (s.sortBy? key)).bind fun s10 =>
            (Out.ofOption "slice" (s10.to? n)).bind fun s11 => k s11
        else k s) = k s' ∧
      s'.arr.length = s.arr.length ∧ 1 ≤ s'.len ∧ s'.len ≤ s.len ∧
      s'.live = (if n.toInt.toNat < s.len then (Slice.sortByKey key s.live).take n.toInt.toNat
                  else s.live) := by
  have hok := s.ok
  have hl := len_toInt s hbig
  by_cases hlt : n < s.len'
  · have hlt' : n.toInt.toNat < s.len := by
      have := Int64.lt_iff_toInt_lt.mp hlt; omega
    rw [if_pos (decide_eq_true hlt), if_pos hlt']
    obtain ⟨s10, h10, h10l, h10c, h10v⟩ := sortBy?_some key s h12
    have h10ok := s10.ok
    obtain ⟨s11, h11, h11a, h11l⟩ := to?_some s10 n n.toInt.toNat (by omega) (by omega)
    refine ⟨s11, by rw [h10]; show (Out.ofOption "slice" (s10.to? _)).bind _ = _; rw [h11]; rfl,
      by rw [h11a]; omega, by omega, by omega, ?_⟩
    rw [live_of s11 s10.arr _ h11a h11l, ← h10v, Slice.live, List.take_take]
    congr 1; omega
  · have hlt' : ¬ n.toInt.toNat < s.len := fun h =>
      hlt (Int64.lt_iff_toInt_lt.mpr (by omega))
    rw [if_neg (by simpa using hlt), if_neg hlt']
    exact ⟨s, rfl, rfl, h1, Nat.le_refl _, rfl⟩

/-- The median as `Do` indexes it: `s[i]` for an odd length, `s[i-1] + (s[i] - s[i-1])/2` for an
    even one, `i = len(s)/2`; no index panics on a non-empty slice. -/
theorem median_off (off : α → Int64) (s : Slice α) (h1 : 1 ≤ s.len)
    (hbig : s.arr.length < 4611686018427387904) (k : Int64 → Out β) :
    ∃ v,
      (if ((s.len' % 2) != 0) = true then
          (Out.ofOption "index" (s.get? (s.len' / 2))).bind fun a => k (off a)
        else
          (Out.ofOption "index" (s.get? (s.len' / 2 - 1))).bind fun a =>
            (Out.ofOption "index" (s.get? (s.len' / 2))).bind fun b =>
              (Out.ofOption "index" (s.get? (s.len' / 2 - 1))).bind fun c =>
                k (off a + (off b - off c) / 2)) = k v ∧
      medianI64 (s.live.map off) = some v := by
  have hok := s.ok
  have hl := len_toInt s hbig
  have h2 : (2 : Int64).toInt = 2 := by decide
  have h1i : (1 : Int64).toInt = 1 := by decide
  have h0i : (0 : Int64).toInt = 0 := by decide
  have hdiv : (s.len' / 2).toInt = (s.len / 2 : Nat) := by
    rw [toInt_div_pos _ _ (by omega), hl, h2, Int.tdiv_eq_ediv_of_nonneg (by omega)]; omega
  have hodd : ((s.len' % 2 != 0) = true) ↔ s.len % 2 ≠ 0 := by
    rw [bne_iff_ne, ne_eq, ← Int64.toInt_inj, Int64.toInt_mod, hl, h2, h0i,
      Int.tmod_eq_emod_of_nonneg (by omega)]
    omega
  obtain ⟨b, hb⟩ : ∃ b, s.live[s.len / 2]? = some b :=
    ⟨_, List.getElem?_eq_getElem (by rw [live_length]; omega)⟩
  rw [get?_live s _ _ hdiv (by omega), hb]
  unfold medianI64
  simp only [List.length_map, live_length, List.getElem?_map, hb, Option.map_some]
  by_cases hpar : s.len % 2 ≠ 0
  · rw [if_pos (hodd.mpr hpar), if_pos hpar]
    exact ⟨_, rfl, rfl⟩
  · obtain ⟨a, ha⟩ : ∃ a, s.live[s.len / 2 - 1]? = some a :=
      ⟨_, List.getElem?_eq_getElem (by rw [live_length]; omega)⟩
    have hi1 : (s.len' / 2 - 1).toInt = (s.len / 2 - 1 : Nat) := by
      rw [toInt_sub_of_fits _ _ (by omega) (by omega), hdiv, h1i]; omega
    rw [if_neg (mt hodd.mp hpar), if_neg hpar, get?_live s _ _ hi1 (by omega), ha]
    refine ⟨_, rfl, ?_⟩
    show (if s.len / 2 = 0 then none else some _) = _
    rw [if_neg (by omega)]; rfl

end ScionTime.GoSlice
