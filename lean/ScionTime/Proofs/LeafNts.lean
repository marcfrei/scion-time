/-
  What the ties of the NTS extension-field encoders (Props/LeafC14NtsPack.lean) need besides the
  code: `int` positions and lengths as naturals, `(n + 3) & ^3`, the 16-bit length fields, and the
  model's `packValue` as `putHdr` followed by the two copies.
-/
import ScionTime.Model.Nts
import ScionTime.Model.GoPrelude2
import ScionTime.Model.GoPrelude3
import ScionTime.Proofs.GoPrelude
import ScionTime.Proofs.NtsEnc
namespace ScionTime.LeafNts
open ScionTime ScionTime.GoLemmas ScionTime.Nts

/-- `(-l) % 4` on `uint16`: the padding of a field of `l` bytes -/
theorem neg_mod4 (cl : UInt16) : ((-cl) % 4).toNat = (65536 - cl.toNat) % 65536 % 4 := by
  rw [UInt16.toNat_mod, UInt16.toNat_neg]; rfl

/-- the authenticator's length field, computed on `uint16` with a 16-byte nonce -/
theorem authLen (cl : UInt16) :
    ((4 : UInt16) + 2 + 2 + 16 + 0 + cl + (-cl) % 4).toNat =
      (24 + cl.toNat + (65536 - cl.toNat) % 65536 % 4) % 65536 := by
  show ((24 : UInt16) + cl + (-cl) % 4).toNat = _
  rw [UInt16.toNat_add, UInt16.toNat_add, Nat.mod_add_mod, neg_mod4]
  rfl

theorem and_mask (m : Nat) (h : m < 2 ^ 64) : m &&& (2 ^ 64 - 4) = m / 4 * 4 := by
  apply Nat.eq_of_testBit_eq
  intro i
  rw [show (2 ^ 64 - 4 : Nat) = 2 ^ 2 * (2 ^ 62 - 1) by decide, show m / 4 * 4 = 2 ^ 2 * (m / 2 ^ 2) by omega,
    Nat.testBit_and, Nat.testBit_two_pow_mul, Nat.testBit_two_pow_mul, Nat.testBit_two_pow_sub_one,
    Nat.testBit_div_two_pow]
  by_cases h2 : 2 ≤ i
  · rw [Nat.sub_add_cancel h2]
    by_cases h64 : i < 64
    · simp [h2, show i - 2 < 62 by omega]
    · rw [Nat.testBit_lt_two_pow (Nat.lt_of_lt_of_le h (Nat.pow_le_pow_right (by decide) (by omega)))]
      simp
  · simp [h2]

/-- `(n + 3) & ^3` on `int`: the next multiple of 4 (the model's `pad4`) -/
theorem and_neg4 (n : Nat) (h : n < 4611686018427387904) :
    ((Int64.ofNat n + 3) &&& (-4 : Int64)).toBitVec.toNat = pad4 n ∧
    ((Int64.ofNat n + 3) &&& (-4 : Int64)).toInt = (pad4 n : Nat) := by
  have hy : Int64.ofNat n + 3 = Int64.ofNat (n + 3) := (Int64.ofNat_add n 3).symm
  have hyn : (Int64.ofNat (n + 3)).toBitVec.toNat = n + 3 := by
    rw [Int64.toBitVec_ofNat', BitVec.toNat_ofNat, Nat.mod_eq_of_lt (by omega)]
  have hm4 : (-4 : Int64).toBitVec.toNat = 2 ^ 64 - 4 := by decide
  have hb : ((Int64.ofNat n + 3) &&& (-4 : Int64)).toBitVec.toNat = (n + 3) / 4 * 4 := by
    rw [hy, Int64.toBitVec_and, BitVec.toNat_and, hyn, hm4, and_mask _ (by omega)]
  refine ⟨hb, ?_⟩
  rw [Int64.toInt, BitVec.toInt_eq_toNat_cond, hb, if_pos (by omega)]
  rfl

theorem pad_spec (v : List UInt8) (h : v.length < 4611686018427387904) :
    Go.makeBytesN? (((Go.len v + 3) &&& (-4 : Int64)) - Go.len v) = some (List.replicate (pad4 v.length - v.length) 0) ∧
    ((4 : UInt16) + ((Go.len v + 3) &&& (-4 : Int64)).toUInt64.toUInt16).toNat = (4 + pad4 v.length % 65536) % 65536 := by
  obtain ⟨hnb, hni⟩ := and_neg4 v.length h
  have hlv : (Int64.ofNat v.length).toInt = v.length := Int64.toInt_ofNat_of_lt (by omega)
  have hpad : pad4 v.length = (v.length + 3) / 4 * 4 := rfl
  unfold Go.len
  generalize ((Int64.ofNat v.length + 3) &&& (-4 : Int64)) = NL at hnb hni
  have hsub : (NL - Int64.ofNat v.length).toInt = ((pad4 v.length - v.length : Nat) : Int) := by
    rw [toInt_sub_of_fits _ _ (by omega) (by omega), hni, hlv]; omega
  constructor
  · unfold Go.makeBytesN?
    rw [if_pos (by omega), hsub]; rfl
  · rw [UInt16.toNat_add, UInt64.toNat_toUInt16, show NL.toUInt64.toNat = NL.toBitVec.toNat from rfl, hnb]; rfl

theorem packValue_eq (cap t : Nat) (out v : Bytes) :
    packValue cap t out v = putHdr cap out t ((4 + pad4 v.length % 65536) % 65536) >>= fun o =>
      .ok (copyTrunc cap (copyTrunc cap o v) (zeros (pad4 v.length - v.length))) := rfl

theorem length_hdr (out : Bytes) (t l : Nat) : (out ++ be16 t ++ be16 l).length = out.length + 4 := by
  simp only [List.length_append, be16, List.length_cons, List.length_nil]

theorem packAuth_key (A : AEAD) (cap : Nat) (out key pt nonce : Bytes) (hk : keyOk key = false) :
    packAuth A cap out key pt nonce = .err .keySize := by
  unfold packAuth; rw [hk]; rfl

theorem copyTrunc_nil (cap : Nat) (out : Bytes) : copyTrunc cap out [] = out := by
  rw [copyTrunc, List.take_nil, List.append_nil]

end ScionTime.LeafNts
