/-
  Heap order (`tssQ` is a min-heap on `qval`) is preserved by the transcribed
  container/heap routines of Model/Server.lean.
-/
import ScionTime.Proofs.ServerInv
namespace ScionTime.Server
open ScionTime.Time64

def OkAt (st : State) (c : Nat) : Prop := le64 (kv st ((c - 1) / 2)) (kv st c)

/-- heap order on the first n slots -/
def HeapOrd (st : State) (n : Nat) : Prop := ∀ c, 0 < c → c < n → OkAt st c

/-!
What `up` and `down` use of the heap shape is that a parent is a smaller index. The two steps
are stated for keys `k : Nat → T64` and any `par` with `par c < c`, so that the index
arithmetic in them is linear; `kv_swap` brings them to `State`. -/

section Keys
variable {par : Nat → Nat} {k : Nat → T64} {i j n : Nat}

def UpInv (par : Nat → Nat) (k : Nat → T64) (j n : Nat) : Prop :=
  (∀ c, 0 < c → c < n → c ≠ j → le64 (k (par c)) (k c)) ∧
  (∀ c, 0 < c → c < n → par c = j → 0 < j → le64 (k (par j)) (k c))

/-- ordered below `n` except for the pairs (`i`, child of `i`) and, if `top`, (`par i`, `i`);
    and `par i` is below the children of `i` -/
def DInv (par : Nat → Nat) (k : Nat → T64) (i n : Nat) (top : Bool) : Prop :=
  (∀ c, 0 < c → c < n → par c ≠ i → (top = true → c ≠ i) → le64 (k (par c)) (k c)) ∧
  (∀ c, 0 < c → c < n → par c = i → 0 < i → le64 (k (par i)) (k c))

theorem UpInv.swap (hp : ∀ c, 0 < c → par c < c) (h : UpInv par k j n) (hj0 : 0 < j)
    (hjn : j < n) (hlt : le64 (k j) (k (par j))) : UpInv par (swapK k (par j) j) (par j) n := by
  have hpj := hp j hj0
  constructor
  · intro c hc0 hcn hcp
    by_cases c1 : c = j
    · rw [c1, swapK_l (Nat.ne_of_lt hpj), swapK_r]; exact hlt
    · have ok := h.1 c hc0 hcn c1
      rw [swapK_o hcp c1]
      by_cases q1 : par c = par j
      · rw [q1, swapK_l (Nat.ne_of_lt hpj)]
        rw [q1] at ok
        exact le64_trans hlt ok
      · by_cases q2 : par c = j
        · rw [q2, swapK_r]; exact h.2 c hc0 hcn q2 hj0
        · rw [swapK_o q1 q2]; exact ok
  · intro c hc0 hcn hpar hp0
    have hpp := hp _ hp0
    have hcp := hp c hc0
    have okp := h.1 (par j) hp0 (by omega) (Nat.ne_of_lt hpj)
    rw [swapK_o (Nat.ne_of_lt hpp) (by omega)]
    by_cases c1 : c = j
    · rw [c1, swapK_r]; exact okp
    · rw [swapK_o (by omega) c1]
      have ok := h.1 c hc0 hcn c1
      rw [hpar] at ok
      exact le64_trans okp ok

theorem DInv.swap {top : Bool} (hp : ∀ c, 0 < c → par c < c) (h : DInv par k i n top)
    (hj0 : 0 < j) (hjn : j < n) (hpj : par j = i)
    (hmin : ∀ c, 0 < c → c < n → par c = i → le64 (k j) (k c)) (hlt : le64 (k j) (k i)) :
    DInv par (swapK k i j) j n false := by
  have hij : i < j := hpj ▸ hp j hj0
  constructor
  · intro c hc0 hcn hq _
    by_cases c1 : c = j
    · rw [c1, hpj, swapK_l (Nat.ne_of_lt hij), swapK_r]; exact hlt
    · by_cases c2 : c = i
      · have hi0 : 0 < i := c2 ▸ hc0
        have hpi := hp i hi0
        rw [c2, swapK_l (Nat.ne_of_lt hij), swapK_o (Nat.ne_of_lt hpi) (by omega)]
        exact h.2 j hj0 hjn hpj hi0
      · rw [swapK_o c2 c1]
        by_cases q1 : par c = i
        · rw [q1, swapK_l (Nat.ne_of_lt hij)]; exact hmin c hc0 hcn q1
        · rw [swapK_o q1 hq]; exact h.1 c hc0 hcn q1 (fun _ => c2)
  · intro c hc0 hcn hpar _
    have hcp := hp c hc0
    rw [hpj, swapK_l (Nat.ne_of_lt hij), swapK_o (by omega) (by omega)]
    have ok := h.1 c hc0 hcn (by omega) (fun _ => by omega)
    rw [hpar] at ok
    exact ok

theorem DInv.stop {top : Bool} (h : DInv par k i n top)
    (hch : ∀ c, 0 < c → c < n → par c = i → le64 (k i) (k c)) {c : Nat} (hc0 : 0 < c)
    (hcn : c < n) (hc : top = true → c ≠ i) : le64 (k (par c)) (k c) := by
  by_cases q : par c = i
  · rw [q]; exact hch c hc0 hcn q
  · exact h.1 c hc0 hcn q hc

theorem DInv.of_replaced {k' : Nat → T64} (hp : ∀ c, 0 < c → par c < c)
    (ho : ∀ c, 0 < c → c < n → le64 (k (par c)) (k c))
    (hk : ∀ x, x < n → x ≠ i → k' x = k x) : DInv par k' i n true := by
  constructor
  · intro c hc0 hcn hq hc
    have hcp := hp c hc0
    rw [hk c hcn (hc rfl), hk _ (by omega) hq]
    exact ho c hc0 hcn
  · intro c hc0 hcn hpar hi0
    have hcp := hp c hc0
    have hpi := hp i hi0
    rw [hk c hcn (by omega), hk _ (by omega) (by omega)]
    have b := ho c hc0 hcn
    rw [hpar] at b
    exact le64_trans (ho i hi0 (by omega)) b

end Keys

theorem up_heap (n f : Nat) (st : State) (j : Nat) (hjf : j < f) (hjn : j < n)
    (hn : n ≤ st.heap.size) (h : UpInv parent (kv st) j n) : HeapOrd (up st j f) n := by
  induction f generalizing st j with
  | zero => omega
  | succ f ih =>
    unfold up
    simp only
    split
    · rename_i hstop
      simp only [Bool.or_eq_true, decide_eq_true_eq, Bool.not_eq_true'] at hstop
      intro c hc0 hcn
      by_cases hcj : c = j
      · subst hcj
        rcases hstop with e | e
        · omega
        · exact e
      · exact h.1 c hc0 hcn hcj
    · rename_i hgo
      simp only [Bool.or_eq_true, decide_eq_true_eq, Bool.not_eq_true', not_or,
        Bool.not_eq_false] at hgo
      have hj0 : 0 < j := by omega
      have hpj := parent_lt hj0
      apply ih (swap st (parent j) j) (parent j) (by omega) (by omega)
        (by rw [size_swap]; exact hn)
      rw [kv_swap st _ _ (by omega) (by omega)]
      exact h.swap @parent_lt hj0 hjn (le64_of_before hgo.2)

theorem child_min (st : State) (i n : Nat) : ∀ c, 0 < c → c < n →
    parent c = i → le64 (kv st (child st i n)) (kv st c) := by
  intro c hc0 hcn hpar
  have hc : c = 2 * i + 1 ∨ c = 2 * i + 1 + 1 := by unfold parent at hpar; omega
  unfold child
  split
  · rename_i hcond
    simp only [Bool.and_eq_true, decide_eq_true_eq] at hcond
    rcases hc with e | e
    · subst e; exact le64_of_before hcond.2
    · subst e; exact le64_refl _
  · rename_i hcond
    simp only [Bool.and_eq_true, decide_eq_true_eq, not_and, Bool.not_eq_true] at hcond
    rcases hc with e | e
    · subst e; exact le64_refl _
    · subst e; exact hcond (by omega)

/-- After `down` all pairs below `n` are in order, except (`parent i`, `i`) when that pair
    was not known to be (`top`) and `down` moved nothing. -/
theorem down_heap (n f : Nat) (st : State) (i : Nat) (top : Bool) (hf : n ≤ i + f)
    (hn : n ≤ st.heap.size) (h : DInv parent (kv st) i n top) (c : Nat) (hc0 : 0 < c) (hcn : c < n) :
    (top = true → (down st i n f).2 = i → c ≠ i) → OkAt (down st i n f).1 c := by
  induction f generalizing st i top with
  | zero =>
    intro hc
    refine h.stop (fun c hc0 hcn hpar => ?_) hc0 hcn (fun t => hc t rfl)
    have := parent_lt hc0; omega
  | succ f ih =>
    generalize hr : down st i n (f + 1) = r
    unfold down at hr
    split at hr
    · subst hr
      intro hc
      refine h.stop (fun c hc0 hcn hpar => ?_) hc0 hcn (fun t => hc t rfl)
      unfold parent at hpar; omega
    · have hlt : 2 * i + 1 < n := by omega
      have hmin := child_min st i n
      obtain ⟨hij, hjn, hpj⟩ := child_spec st i n hlt
      split at hr
      · rename_i hstop
        subst hr
        simp only [Bool.not_eq_true'] at hstop
        intro hc
        exact h.stop (fun c hc0 hcn hpar => le64_trans hstop (hmin c hc0 hcn hpar)) hc0 hcn
          (fun t => hc t rfl)
      · rename_i hgo
        simp only [Bool.not_eq_true', Bool.not_eq_false] at hgo
        generalize child st i n = j at hr hmin hij hjn hpj hgo
        intro _
        rw [← hr]
        apply ih (swap st i j) j false (by omega) (by rw [size_swap]; exact hn) _
          (fun t => nomatch t)
        rw [kv_swap st i j (by omega) (by omega)]
        exact h.swap @parent_lt (by omega) hjn hpj hmin (le64_of_before hgo)

theorem fixn_heap (st : State) (i n : Nat) (hi : i < n) (hn : n ≤ st.heap.size)
    (h : DInv parent (kv st) i n true) : HeapOrd (fixn st i n) n := by
  have D := down_heap n n st i true (by omega) hn h
  have hge := down_ge n st i n
  unfold fixn
  generalize down st i n n = r at D hge
  split
  · exact fun c hc0 hcn => D c hc0 hcn (fun _ e => by omega)
  · rw [hge.2 (by omega)] at D ⊢
    exact up_heap _ _ st i (by omega) hi hn
      ⟨fun c hc0 hcn hci => D c hc0 hcn (fun _ _ => hci), h.2⟩

theorem heapOrd_congr {st st' : State} {n : Nat} (hk : ∀ x, x < n → kv st' x = kv st x)
    (ho : HeapOrd st n) : HeapOrd st' n := by
  intro c hc0 hcn
  show le64 (kv st' ((c - 1) / 2)) (kv st' c)
  rw [hk c hcn, hk _ (by omega)]
  exact ho c hc0 hcn

theorem heapOrd_mono {st : State} {n m : Nat} (hm : m ≤ n) (ho : HeapOrd st n) : HeapOrd st m :=
  fun c hc0 hcm => ho c hc0 (by omega)

theorem fixQval_heap (st : State) (h : WF st) (ho : HeapOrd st st.heap.size) (id : Nat) (it : Item)
    (hit : st.items.find id = some it) (v : T64) :
    HeapOrd (fixQval st id v it.qidx) (fixQval st id v it.qidx).heap.size := by
  rw [(fixQval_spec st h id it hit v).2.1]
  have hq : it.qidx < st.heap.size := (h.slot hit).1
  exact fixn_heap { st with items := setQval st.items id v } it.qidx st.heap.size hq (Nat.le_refl _)
    (DInv.of_replaced (par := parent) (k := kv st) @parent_lt ho
      (fun x hx hne => kv_modify_ne st h id _ it hit x hx hne))

theorem push_heap (st : State) (h : WF st) (ho : HeapOrd st st.heap.size) (id : Nat) (it : Item)
    (hnone : st.items.find id = none) :
    HeapOrd (push { st with items := (id, it) :: st.items } id)
      (push { st with items := (id, it) :: st.items } id).heap.size := by
  have hs : (push { st with items := (id, it) :: st.items } id).heap.size = st.heap.size + 1 := by
    obtain ⟨w, l, _⟩ := push_spec st h id it hnone
    have := w.len; have := h.len; omega
  rw [hs]
  unfold push
  simp only
  have hk : ∀ x, x < st.heap.size →
      kv { items := setQidx ((id, it) :: st.items) id st.heap.size, heap := st.heap.push id } x
        = kv st x :=
    fun x hx => by rw [kv_push st h id it hnone x (by omega), if_neg (by omega)]
  apply up_heap (st.heap.size + 1) (st.heap.size + 1) _ st.heap.size (by omega) (by omega)
    (by simp)
  constructor
  · intro c hc0 hcn hne
    exact heapOrd_congr hk ho c hc0 (by omega)
  · intro c hc0 hcn hpar hpos
    have := parent_lt hc0; omega

/-- removing the last heap slot together with its map entry -/
theorem heapOrd_dropLast (st : State) (h : WF st) (k : Nat)
    (hk : hkey st (st.heap.size - 1) = k) (n : Nat) (hn : n ≤ st.heap.size - 1)
    (ho : HeapOrd st n) : HeapOrd { items := st.items.erase k, heap := st.heap.pop } n := by
  refine heapOrd_congr ?_ ho
  intro x hx
  have hx' : x < st.heap.size - 1 := by omega
  have hne : ¬ k = hkey st x := by
    intro e
    rw [← hk] at e
    have := h.inj (by omega) (by omega) e
    omega
  unfold kv
  rw [hkey_pop _ _ _ hx']
  show qv (st.items.erase k) (hkey st x) = qv st.items (hkey st x)
  unfold qv
  rw [Map.find_erase _ h.nodup, if_neg hne]

theorem dInv_swap_last (st : State) (ho : HeapOrd st st.heap.size) (i : Nat)
    (hi : i < st.heap.size) :
    DInv parent (kv (swap st i (st.heap.size - 1))) i (st.heap.size - 1) true := by
  rw [kv_swap st _ _ hi (by omega)]
  exact DInv.of_replaced (par := parent) (k := kv st) @parent_lt
    (heapOrd_mono (Nat.sub_le _ _) ho) (fun x hx hne => swapK_o hne (by omega))

theorem popMin_heap (st : State) (h : WF st) (hpos : 0 < st.heap.size)
    (ho : HeapOrd st st.heap.size) : HeapOrd (popMin st).1 (popMin st).1.heap.size := by
  unfold popMin
  simp only [Array.size_pop]
  have k2 := popMin_pre st h hpos
  have H : HeapOrd _ (st.heap.size - 1) := fun c hc0 hcn =>
    down_heap _ (st.heap.size - 1) _ 0 true (by omega) (by rw [size_swap]; omega)
      (dInv_swap_last st ho 0 hpos)
      c hc0 hcn (fun _ _ => by omega)
  generalize (down (swap st 0 (st.heap.size - 1)) 0 (st.heap.size - 1) (st.heap.size - 1)).1
    = st1 at k2 H
  rw [← k2.size] at H ⊢
  exact heapOrd_dropLast st1 k2.wf _ rfl _ (Nat.le_refl _) H

theorem remove_heap (st : State) (h : WF st) (ho : HeapOrd st st.heap.size) (id : Nat) (it : Item)
    (hit : st.items.find id = some it) :
    HeapOrd (remove st it.qidx id) (remove st it.qidx id).heap.size := by
  have hq := (h.slot hit).1
  obtain ⟨st1, e, k, hk, hst1⟩ := remove_pre st h id it hit
  have H : HeapOrd st1 (st.heap.size - 1) := by
    rcases hst1 with e1 | ⟨hlt, e1⟩
    · rw [e1]; exact heapOrd_mono (Nat.sub_le _ _) ho
    · rw [e1]
      exact fixn_heap _ _ _ hlt (by rw [size_swap]; omega) (dInv_swap_last st ho _ hq)
  rw [e]
  simp only [Array.size_pop]
  rw [← k.size] at hk H
  exact heapOrd_dropLast st1 k.wf id hk _ (Nat.le_refl _) H

end ScionTime.Server
