/-
  Helper lemmas about the reply path: fresh cookies, NewResponsePacket, the encoded response.
-/
import ScionTime.Proofs.NtsEnc
import ScionTime.Proofs.CookieCodec
import ScionTime.Proofs.NtsSound
namespace ScionTime.Nts

/-- the cookie the server issues for session `sc` under `(curId, curKey)` with nonce `n` -/
def issued (A : AEAD) (sc : Triple) (curKey : Bytes) (curId : Nat) (n : Bytes) : Bytes :=
  ecEncode ⟨curId % 65536, n, A.sealF curKey n (scEncode sc) none⟩

theorem issued_length (A : AEAD) (hs : A.Sized) (sc : Triple) (curKey : Bytes) (curId : Nat) (n : Bytes)
    (hn : n.length = 16) : (issued A sc curKey curId n).length = 60 + sc.x.length + sc.y.length := by
  have h := hs curKey n (scEncode sc) none
  simp only [scEncode, encodeTLV_length] at h
  simp only [issued, ecEncode, encodeTLV_length, scEncode, hn, h]
  omega

theorem draw16_length (r : Bytes) : (draw16 r).1.length = 16 := by
  simp [draw16, copyN, zeros]; omega

theorem encryptCookie_ok (A : AEAD) (c : Triple) (key : Bytes) (keyid : Nat) (nonce : Bytes)
    (hk : keyOk key = true) (hn : nonce.length = 16) :
    encryptCookie A c key keyid nonce = .ok ⟨keyid % 65536, nonce, A.sealF key nonce (scEncode c) none⟩ := by
  simp [encryptCookie, hk, sealC, hn, bind, Res.bind]

/-- with a usable current key the loop produces exactly one issued cookie per requested field -/
theorem freshCookies_spec (A : AEAD) (sc : Triple) (curKey : Bytes) (curId : Nat) (hk : keyOk curKey = true) :
    ∀ (n : Nat) (r : Bytes), (freshCookies A sc curKey curId n r).1.length = n ∧
      ∀ f ∈ (freshCookies A sc curKey curId n r).1, ∃ nonce, nonce.length = 16 ∧ f = issued A sc curKey curId nonce := by
  intro n
  induction n with
  | zero => intro r; simp [freshCookies]
  | succ n ih =>
    intro r
    have h16 := draw16_length r
    have he := encryptCookie_ok A sc curKey curId (draw16 r).1 hk h16
    obtain ⟨l1, l2⟩ := ih (draw16 r).2
    simp only [freshCookies, he]
    exact ⟨by simp [l1], List.forall_mem_cons.mpr ⟨⟨_, h16, rfl⟩, l2⟩⟩

/-- without a usable key nothing is produced (the listener then drops the request) -/
theorem freshCookies_nokey (A : AEAD) (sc : Triple) (curKey : Bytes) (curId : Nat) (hk : keyOk curKey = false) :
    ∀ (n : Nat) (r : Bytes), (freshCookies A sc curKey curId n r).1 = [] := by
  intro n
  induction n with
  | zero => intro r; simp [freshCookies]
  | succ n ih =>
    intro r
    have he : encryptCookie A sc curKey curId (draw16 r).1 = .err .keySize := by simp [encryptCookie, hk]
    simp only [freshCookies, he, ih]

/-- `NewResponsePacket` on cookies of one aligned length: the plaintext is exactly the cookie
    fields of the first `max 1 (maxNumCookies ..)` cookies. -/
theorem newResponsePacket_eq (L : Nat) (cookies : List Bytes) (key uid : Bytes)
    (hne : cookies ≠ []) (hL : ∀ v ∈ cookies, v.length = L) (hLa : L % 4 = 0)
    (hsz : (cookies.take (max 1 (maxNumCookies uid.length L))).length * (4 + L) < 65536) :
    newResponsePacket cookies key uid =
      .ok ⟨uid, [], [], key, fields extCookie (cookies.take (max 1 (maxNumCookies uid.length L)))⟩ := by
  obtain ⟨c0, rest, rfl⟩ := List.exists_cons_of_ne_nil hne
  have h0 : c0.length = L := hL c0 (by simp)
  unfold newResponsePacket newResponsePacketG
  simp only [if_true, h0]
  generalize hcs : (c0 :: rest).take (max 1 (maxNumCookies uid.length L)) = cs at hsz ⊢
  have hcsL : ∀ v ∈ cs, v.length = L := by
    intro v hv; rw [← hcs] at hv; exact hL v (List.mem_of_mem_take hv)
  have hfl := fieldsLen_uniform L cs hcsL
  have hal : Aligned cs := by intro v hv; rw [hcsL v hv]; exact hLa
  rw [packList_fits (cs.length * (4 + L)) extCookie cs [] hal (by simp [hfl]) hsz]
  simp [hfl, zeros]

/-- A reply that echoes `uid` and carries the cookies `cs`, all of one aligned length `c`, in its
    authenticator encodes, untruncated, to header + identifier field + authenticator field
    (4 + 4 + 16-byte nonce + plaintext + 16-byte tag) whenever that fits `MaxPacketLen`. -/
theorem reply_len (A : AEAD) (hs : A.Sized) (hdr uid key nonce : Bytes) (cs : List Bytes) (c : Nat)
    (hh : hdr.length = ntpPacketLen) (hu : 32 ≤ uid.length) (hk : keyOk key = true) (hn : nonce.length = 16)
    (hc : c % 4 = 0) (hcs : ∀ v ∈ cs, v.length = c)
    (fit : ntpPacketLen + (4 + pad4 uid.length) + (4 + 4 + 16 + (cs.length * (4 + c) + 16)) ≤ maxPacketLen) :
    ∃ b, encodePacket A hdr ⟨uid, [], [], key, fields extCookie cs⟩ nonce = .ok b ∧
      b.length = ntpPacketLen + (4 + pad4 uid.length) + (4 + 4 + 16 + (cs.length * (4 + c) + 16)) := by
  have hfl : (fields extCookie cs).length = cs.length * (4 + c) := by
    rw [fields_length, fieldsLen_uniform c cs hcs]
  have hpad : pad4 (cs.length * (4 + c) + 16) = cs.length * (4 + c) + 16 := by
    have := fieldsLen_aligned cs fun v hv => (hcs v hv).symm ▸ hc
    rw [fieldsLen_uniform c cs hcs] at this
    exact pad4_aligned _ (by omega)
  have hel : Packet.encodedLen ⟨uid, [], [], key, fields extCookie cs⟩ =
      ntpPacketLen + (4 + pad4 uid.length) + (4 + 4 + 16 + (cs.length * (4 + c) + 16)) := by
    simp only [Packet.encodedLen_eq, hfl, hpad, paddedLen, List.map_nil, List.sum_nil]
    omega
  obtain ⟨b, hb, hl⟩ := encode_len true A hs hdr ⟨uid, [], [], key, fields extCookie cs⟩ nonce hh hu hk hn (hel ▸ fit)
  exact ⟨b, hb, hl.trans hel⟩

theorem budget_fits (u c n : Nat) (hc : c % 4 = 0) (h1 : 1 ≤ n) (hn : n ≤ maxNumCookies u c) :
    ntpPacketLen + (4 + pad4 u) + (4 + 4 + 16 + (n * (4 + c) + 16)) ≤ maxPacketLen := by
  unfold maxNumCookies at hn
  have hp : pad4 c = c := by unfold pad4; omega
  rw [hp] at hn
  have hk : 0 < 4 + c := by omega
  have hmul := (Nat.le_div_iff_mul_le hk).mp hn
  have hpos : 0 < n * (4 + c) := Nat.mul_pos (by omega) hk
  unfold maxPacketLen ntpPacketLen at *
  omega

/-- A response as the server builds it decodes and authenticates for the requester, who
    recovers exactly the encrypted cookies. -/
theorem response_complete (A : AEAD) (hl : A.Lawful) (hs : A.Sized) (hdr uid key nonce : Bytes) (cs : List Bytes)
    (hh : hdr.length = ntpPacketLen) (hu32 : 32 ≤ uid.length) (hua : uid.length % 4 = 0)
    (hk : keyOk key = true) (hn : nonce.length = 16) (hca : Aligned cs) (hlong : Long cs)
    (fit : ntpPacketLen + (4 + uid.length) + (40 + fieldsLen cs) ≤ maxPacketLen) :
    ∃ b d, encodePacket A hdr ⟨uid, [], [], key, fields extCookie cs⟩ nonce = .ok b ∧ decodePacket b = .ok d ∧
      processResponse A b key d uid = .ok cs := by
  have wf : WellFormed ⟨uid, [], [], key, fields extCookie cs⟩ :=
    ⟨hu32, hua, by intro v hv; simp at hv, by intro v hv; simp at hv, by simp [fieldsLen_aligned cs hca], hk⟩
  have fit' : packetLen ⟨uid, [], [], key, fields extCookie cs⟩ ≤ maxPacketLen := by
    simp [packetLen, fieldsLen]; omega
  obtain ⟨b, he0, he, _, hd⟩ := encode_decode A hs hdr _ nonce hh wf fit' hn
  refine ⟨b, _, he0, hd, ?_⟩
  have hkn : (!keyOk key) = false := by simp [hk]
  unfold processResponse processResponseG authenticateG
  simp only [ne_eq, not_true_eq_false, if_false, hkn, Bool.false_eq_true, hn, decide_false, Bool.and_false,
    openC, bind, Res.bind]
  rw [he, List.take_left' rfl, hl]
  have g := fieldsLen_ge cs
  unfold maxPacketLen at fit
  simp only [fields_length]
  rw [ptLoop_cookies true cs _ [] (by omega) (by omega) hlong]
  simp


/-- `authenticate` only ever appends to `pkt.Cookies` -/
theorem ptLoop_prefix (chk : Bool) :
    ∀ (fuel : Nat) (rest : Bytes) (cs r : List Bytes), ptLoop chk fuel rest cs = .ok r → cs <+: r := by
  intro fuel
  induction fuel with
  | zero => intro rest cs r h; cases h
  | succ fuel ih =>
    intro rest cs r h
    by_cases h28 : rest.length < 28
    · rw [ptLoop_short _ _ _ _ h28] at h
      cases h
      exact List.prefix_refl _
    · obtain ⟨a, b, c, e, body, rfl⟩ := cons4_of_length rest (by omega)
      rw [ptLoop_cons _ _ _ _ _ _ _ _ (by omega)] at h
      split at h
      · cases h
      split at h
      · cases h
      have hp := ih _ _ _ h
      split at hp
      · exact (List.prefix_append cs _).trans hp
      · exact hp

theorem authenticate_prefix (A : AEAD) (b key : Bytes) (d : Decoded) (r : List Bytes)
    (h : authenticateG true A b key d = .ok r) : d.cookies <+: r := by
  obtain ⟨_, _, pt, _, hp⟩ := authenticate_ok A b key d r h
  exact ptLoop_prefix true _ _ _ _ hp


theorem cookie_roundtrip (A : AEAD) (hl : A.Lawful) (c : Triple) (key nonce : Bytes) (keyid : Nat)
    (hk : keyOk key = true) (hn : nonce.length = 16)
    (hnum : c.num < 65536) (hx : c.x.length < 65536) (hy : c.y.length < 65536)
    (hct : (A.sealF key nonce (scEncode c) none).length < 65536) :
    ecDecode (issued A c key keyid nonce) = .ok ⟨keyid % 65536, nonce, A.sealF key nonce (scEncode c) none⟩ ∧
      decryptCookie A ⟨keyid % 65536, nonce, A.sealF key nonce (scEncode c) none⟩ key = .ok c := by
  have hkn : (!keyOk key) = false := by simp [hk]
  refine ⟨?_, ?_⟩
  · exact decodeTLV_encodeTLV true _ _ _ _ (by decide) (by decide) (by decide) (by decide) (by decide) (by decide)
      (Nat.mod_lt _ (by decide)) (by simp [hn]) hct
  · simp only [decryptCookie, decryptCookieG, hkn, Bool.false_eq_true, if_false, hn, ne_eq, not_true_eq_false,
      decide_false, Bool.and_false, openC, hl key nonce (scEncode c) none, bind, Res.bind]
    exact decodeTLV_encodeTLV true _ _ _ c (by decide) (by decide) (by decide) (by decide) (by decide) (by decide) hnum hx hy

theorem issued_opens (A : AEAD) (hl : A.Lawful) (hs : A.Sized) (sc : Triple) (curKey : Bytes) (curId : Nat) (nonce : Bytes)
    (hk : keyOk curKey = true) (hn : nonce.length = 16)
    (hnum : sc.num < 65536) (hlen : (scEncode sc).length + 16 < 65536) :
    ∃ ec, ecDecode (issued A sc curKey curId nonce) = .ok ec ∧ ec.num = curId % 65536 ∧
      decryptCookie A ec curKey = .ok sc := by
  have hct := hs curKey nonce (scEncode sc) none
  simp only [scEncode, encodeTLV_length] at hct hlen
  obtain ⟨h1, h2⟩ := cookie_roundtrip A hl sc curKey nonce curId hk hn hnum (by omega) (by omega)
    (by simp only [scEncode]; omega)
  exact ⟨_, h1, rfl, h2⟩

/-- A reply built from 124-byte cookies next to an identifier that leaves room for one fits
    `MaxPacketLen`, and a requester with an aligned identifier recovers the cookies that fit. -/
theorem reply_ok (A : AEAD) (hl : A.Lawful) (hs : A.Sized) (hdr uid key nonce : Bytes) (fresh : List Bytes)
    (hh : hdr.length = ntpPacketLen) (hu32 : 32 ≤ uid.length) (hroom : 1 ≤ maxNumCookies uid.length 124)
    (hk : keyOk key = true) (hn : nonce.length = 16) (hne : fresh ≠ []) (hL : ∀ v ∈ fresh, v.length = 124) :
    ∃ pkt r, newResponsePacket fresh key uid = .ok pkt ∧ encodePacket A hdr pkt nonce = .ok r ∧
      r.length ≤ maxPacketLen ∧ r.length % 4 = 0 ∧
      (uid.length % 4 = 0 → ∃ d', decodePacket r = .ok d' ∧
        processResponse A r key d' uid = .ok (fresh.take (maxNumCookies uid.length 124))) := by
  have hmax : max 1 (maxNumCookies uid.length 124) = maxNumCookies uid.length 124 := Nat.max_eq_right hroom
  have hM7 : maxNumCookies uid.length 124 ≤ 7 := by
    unfold maxNumCookies maxPacketLen ntpPacketLen pad4; omega
  have hcM := List.length_take_le (maxNumCookies uid.length 124) fresh
  have hc1 : 1 ≤ (fresh.take (maxNumCookies uid.length 124)).length := by
    obtain ⟨_, _, rfl⟩ := List.exists_cons_of_ne_nil hne
    rw [List.length_take, List.length_cons]; omega
  have hpk := newResponsePacket_eq 124 fresh key uid hne hL (by decide) (by rw [hmax]; omega)
  rw [hmax] at hpk
  have hcsL : ∀ v ∈ fresh.take (maxNumCookies uid.length 124), v.length = 124 :=
    fun v hv => hL v (List.mem_of_mem_take hv)
  generalize fresh.take (maxNumCookies uid.length 124) = cs at hpk hcM hc1 hcsL ⊢
  have hfit := budget_fits uid.length 124 cs.length (by decide) hc1 hcM
  obtain ⟨r, her, hrl⟩ := reply_len A hs hdr uid key nonce cs 124 hh hu32 hk hn (by decide) hcsL hfit
  refine ⟨_, r, hpk, her, hrl ▸ hfit, ?_, fun hua => ?_⟩
  · have := pad4_mod uid.length
    rw [hrl]; unfold ntpPacketLen; omega
  · obtain ⟨b, d, h1, h2, h3⟩ := response_complete A hl hs hdr uid key nonce cs hh hu32 hua hk hn
      (fun v hv => by rw [hcsL v hv]) (fun v hv => by rw [hcsL v hv]; omega)
      (by rw [fieldsLen_uniform 124 cs hcsL]; rw [pad4_aligned _ hua] at hfit; omega)
    obtain rfl : b = r := Res.ok.inj (h1.symm.trans her)
    exact ⟨d, h2, h3⟩

/-- a cookie that decodes and opens is at least as long as the cookie `Encode` would write for
    the session it opens to -/
theorem opened_cookie_len (A : AEAD) (ho : A.OpenSized) (c0 : Bytes) (ec sc : Triple) (key : Bytes)
    (hec : ecDecode c0 = .ok ec) (hsc : decryptCookie A ec key = .ok sc) :
    60 + sc.x.length + sc.y.length ≤ c0.length := by
  obtain ⟨_, _, pt, hop, hdec⟩ := decryptCookie_ok A ec key sc hsc
  have h1 := decodeTLV_size _ _ _ c0 ec hec
  have h2 := decodeTLV_size _ _ _ pt sc hdec
  have h3 := ho _ _ _ _ _ hop
  omega

theorem processRequest_ok_inv (A : AEAD) (b key : Bytes) (d : Decoded) (cs : List Bytes)
    (h : processRequestG true A b key d = .ok cs) :
    32 ≤ d.uid.length ∧ noRoomForCookie d = false ∧ authenticateG true A b key d = .ok cs := by
  unfold processRequestG at h
  by_cases hu : d.uid.length < 32
  · simp [hu] at h
  · by_cases hr : noRoomForCookie d = true
    · simp [hu, hr] at h
    · simp only [Bool.true_and, hu, decide_false, Bool.false_eq_true, if_false, hr] at h
      exact ⟨by omega, by simpa using hr, h⟩

theorem maxNumCookies_mono (u c : Nat) (h : 124 ≤ c) : maxNumCookies u c ≤ maxNumCookies u 124 := by
  unfold maxNumCookies
  apply Nat.div_le_div_left
  · unfold pad4; omega
  · unfold pad4; omega

end ScionTime.Nts
