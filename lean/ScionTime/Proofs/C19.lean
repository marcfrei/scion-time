/-
  Proofs/C19.lean — helper lemmas for Props/C19.lean (PLL discipline, Model/Pll.lean).
  Core Lean only (uses the rounding lemmas of Proofs/F64.lean).
-/
import ScionTime.Model.Pll
import ScionTime.Proofs.F64
namespace ScionTime.Pll
open ScionTime.F64

theorem inv_range {d : Int} (h : minI64 ≤ d ∧ d ≤ maxI64) : minI64 ≤ inv d ∧ inv d ≤ maxI64 := by
  unfold inv minI64 maxI64 at *; split <;> omega

theorem inv_inv {d : Int} (hr : minI64 ≤ d ∧ d ≤ maxI64) :
    inv (inv d) = if d = minI64 then minI64 + 1 else d := by
  unfold inv minI64 maxI64 at *
  by_cases h : d = -9223372036854775808
  · subst h; decide
  · simp only [h, if_false]
    split <;> omega

theorem durAbs_inv {d : Int} (h : minI64 ≤ d ∧ d ≤ maxI64) :
    durAbs (inv d) > stepThreshold ↔ (d > 1000000 ∨ d < -1000000) := by
  unfold durAbs inv stepThreshold minI64 maxI64 at *; split <;> split <;> (try split) <;> omega

theorem timeSub_nonneg {t u : Int} : 0 ≤ timeSub t u ↔ u ≤ t := by
  unfold timeSub minI64 maxI64; simp only; split <;> (try split) <;> omega

theorem timeSub_le (t u : Int) : minI64 ≤ timeSub t u ∧ timeSub t u ≤ maxI64 := by
  unfold timeSub minI64 maxI64; simp only; split <;> (try split) <;> omega

theorem timeSub_exact {t u : Int} (h : minI64 ≤ t - u ∧ t - u ≤ maxI64) : timeSub t u = t - u := by
  unfold timeSub minI64 maxI64 at *; simp only; split <;> (try split) <;> omega

theorem syncEpoch_cases (s : State) (e : Nat) :
    (s.epoch ≠ e ∧ syncEpoch s e = { s with epoch := e, mode := 0 }) ∨
    (s.epoch = e ∧ syncEpoch s e = s) := by
  unfold syncEpoch
  by_cases h : s.epoch = e <;> simp [h]

theorem syncEpoch_epoch (s : State) (e : Nat) : (syncEpoch s e).epoch = e := by
  rcases syncEpoch_cases s e with ⟨h', h⟩ | ⟨h', h⟩ <;> rw [h] <;> simp [h']

theorem syncEpoch_same {s : State} {e : Nat} (h : e = s.epoch) : syncEpoch s e = s := by
  unfold syncEpoch; rw [if_neg (fun hne => hne h.symm)]

theorem syncEpoch_new {s : State} {e : Nat} (h : e ≠ s.epoch) :
    syncEpoch s e = { s with epoch := e, mode := 0 } := by
  unfold syncEpoch; rw [if_pos (fun he => h he.symm)]

theorem syncEpoch_of_mode_ne_zero {s : State} {e : Nat} (h : (syncEpoch s e).mode ≠ 0) :
    syncEpoch s e = s ∧ e = s.epoch := by
  rcases syncEpoch_cases s e with ⟨_, h'⟩ | ⟨he, h'⟩
  · rw [h'] at h; exact absurd rfl h
  · exact ⟨h', he.symm⟩

theorem syncEpoch_mode_le (s : State) (e : Nat) : (syncEpoch s e).mode ≤ s.mode := by
  rcases syncEpoch_cases s e with ⟨_, h⟩ | ⟨_, h⟩ <;> simp [h]

theorem gt_fzero_fzero : gt fzero fzero = false := by decide

theorem finish_eq (s : State) (now : Int) (p d : F64) (acts : List Action) :
    finish s now p d acts = .ok { s with t := now }
      (if gt d fzero = true then acts ++ [.adjust (toDuration p) (toDuration d) s.i] else acts) := by
  unfold finish; split <;> rfl

theorem finish_zero (s : State) (now : Int) (acts : List Action) :
    finish s now fzero fzero acts = .ok { s with t := now } acts := by
  rw [finish_eq, gt_fzero_fzero]; rfl

theorem gains_frame (s : State) (mdt : Int) (w pw : F64) :
    (gains s mdt w pw).1.epoch = s.epoch ∧ (gains s mdt w pw).1.mode = s.mode ∧
    (gains s mdt w pw).1.t0 = s.t0 ∧ (gains s mdt w pw).1.t = s.t ∧ (gains s mdt w pw).1.i = s.i := by
  unfold gains
  split
  · simp
  · split
    · simp
    · split <;> simp

theorem track_eq (s : State) (now mdt : Int) (dt : F64) (off : Int) (w pw : F64) :
    track s now mdt dt off w pw =
      (let g := gains s mdt w pw
       let p := mul (durationSeconds (inv off)) g.2.1
       let i := add g.1.i (mul p g.2.2)
       .ok { g.1 with i := i, t := now }
         (if gt (ceil dt) fzero = true then
            [.adjust (toDuration (clamp p (ceil dt))) (toDuration (ceil dt)) i] else [])) := by
  unfold track
  rcases gains s mdt w pw with ⟨g, a, b⟩
  simp only [finish_eq, List.nil_append]

/-- Complete case analysis of `Do`: one disjunct per way of returning, one per kind of panic.
    `s0` is the state after the epoch test, `mdt` the time since `l.t0`. -/
theorem step_spec (s : State) (e : Nat) (now off : Int) (w pw : F64) :
    let s0 := syncEpoch s e
    let mdt := timeSub now s0.t0
    let dt := durationSeconds (timeSub now s0.t)
    let r := step s e now off w pw
    (s0.mode = 0 ∧ r = .ok { s0 with t0 := now, mode := 1, t := now } []) ∨
    (s0.mode = 1 ∧ 0 ≤ mdt ∧ (mdt > stepWait ∧ gt w wStep = true) ∧
        r = .ok { s0 with t0 := now, mode := 2, t := now }
          (if durAbs (inv off) > stepThreshold then [.step (inv (inv off))] else [])) ∨
    (s0.mode = 1 ∧ 0 ≤ mdt ∧ ¬ (mdt > stepWait ∧ gt w wStep = true) ∧ r = .ok { s0 with t := now } []) ∨
    (s0.mode = 2 ∧ 0 ≤ mdt ∧ mdt > pllWait ∧
        r = .ok { s0 with a := pInit, b := div pInit iInit, t0 := now, mode := 3, t := now } []) ∨
    (s0.mode = 2 ∧ 0 ≤ mdt ∧ ¬ mdt > pllWait ∧ r = .ok { s0 with t := now } []) ∨
    (s0.mode = 3 ∧ 0 ≤ mdt ∧ lt dt fzero = false ∧ r = track s0 now mdt dt (inv off) w pw) ∨
    (s0.mode ≠ 0 ∧ s0.mode ≤ 3 ∧ (mdt < 0 ∨ s0.mode = 3 ∧ lt dt fzero = true) ∧ r = .panic .clock) ∨
    (3 < s0.mode ∧ r = .panic .mode) := by
  simp only [step, finish_zero]
  generalize syncEpoch s e = s0
  by_cases h0 : s0.mode = 0
  · simp [h0]
  by_cases h1 : s0.mode = 1
  · by_cases hm : timeSub now s0.t0 < 0
    · simp [h1, hm]
    · by_cases hc : timeSub now s0.t0 > stepWait ∧ gt w wStep = true
      · simp [h1, hm, hc]; omega
      · simp [h1, hm, hc]; omega
  by_cases h2 : s0.mode = 2
  · by_cases hm : timeSub now s0.t0 < 0
    · simp [h2, hm]
    · by_cases hc : timeSub now s0.t0 > pllWait
      · simp [h2, hm, hc]; omega
      · simp [h2, hm, hc]; omega
  by_cases h3 : s0.mode = 3
  · by_cases hm : timeSub now s0.t0 < 0
    · simp [h3, hm]
    · cases hd : lt (durationSeconds (timeSub now s0.t)) fzero
      · simp [h3, hm]; omega
      · simp [h3, hm]
  · simp [h0, h1, h2, h3]; omega

theorem step_start {s : State} {e : Nat} (h : (syncEpoch s e).mode = 0) (now off : Int) (w pw : F64) :
    step s e now off w pw = .ok { syncEpoch s e with t0 := now, mode := 1, t := now } [] := by
  simp [step, h, finish_zero]

def Bd (M : Rat) (x : F64) : Prop := isFinite x = true ∧ 0 ≤ toRat x ∧ toRat x ≤ M

theorem finite_cases {x : F64} (h : isFinite x = true) : (∃ b, x = .zero b) ∨ ∃ q, x = .fin q := by
  cases x <;> simp [isFinite] at h ⊢

theorem maxFin_big : (18446744073709551616 : Rat) ≤ maxFin := by
  have := pow2_le_maxFin (K := 64) (by decide)
  have e : pow2 64 = 18446744073709551616 := by decide +kernel
  rwa [e] at this

theorem bd_lt_fzero {M : Rat} {x : F64} (h : Bd M x) : lt x fzero = false := by
  obtain ⟨hf, h0, _⟩ := h
  rcases finite_cases hf with ⟨n, rfl⟩ | ⟨q, rfl⟩
  · simp [lt, fzero, toRat]
  · simp [lt, fzero, toRat] at h0 ⊢; grind

theorem intCast_le_lit {n m : Int} (h : n ≤ m) : (n : Rat) ≤ (m : Rat) := Rat.intCast_le_intCast.mpr h

theorem durationSeconds_bd {d : Int} (h0 : 0 ≤ d) (h : d ≤ maxI64) :
    Bd ((d / 1000000000 + 1 : Int) : Rat) (durationSeconds d) := by
  unfold maxI64 at h
  obtain ⟨hf, _, hv⟩ := durationSeconds_val (d := d) (by omega)
  refine ⟨hf, ?_, ?_⟩
  · rw [hv]; exact secondsVal_nonneg h0
  · rw [hv, ← secondsVal_whole (k := d / 1000000000 + 1) (by omega)]
    exact secondsVal_mono (by omega)

/-- The invariant of the controller under (per-epoch) monotone clock readings. -/
structure Inv (s : State) : Prop where
  mode_le : s.mode ≤ 3
  t0_le : s.mode ≠ 0 → s.t0 ≤ s.t

theorem inv_init : Inv init := ⟨by decide, by decide⟩

theorem track_ok {s : State} {now mdt : Int} {dt : F64} {off : Int} {w pw : F64} {r : Outcome}
    (h : r = track s now mdt dt off w pw) :
    ∃ s' acts, r = .ok s' acts ∧ s'.mode = s.mode ∧ s'.epoch = s.epoch ∧ s'.t0 = s.t0 ∧ s'.t = now ∧
      ∀ x, Action.step x ∉ acts := by
  have hg := gains_frame s mdt w pw
  refine ⟨_, _, h.trans (track_eq ..), hg.2.1, hg.1, hg.2.2.1, rfl, fun x hx => ?_⟩
  split at hx <;> simp at hx

theorem step_safe {s : State} {e : Nat} {now off : Int} {w pw : F64} (hI : Inv s)
    (hnow : e = s.epoch → s.mode ≠ 0 → s.t ≤ now) :
    ∃ s' acts, step s e now off w pw = .ok s' acts ∧ Inv s' ∧ s'.t = now ∧ s'.epoch = e ∧ s'.mode ≠ 0 := by
  have hep := syncEpoch_epoch s e
  have hm3 := Nat.le_trans (syncEpoch_mode_le s e) hI.mode_le
  rcases step_spec s e now off w pw with ⟨_, hr⟩ | ⟨_, _, _, hr⟩ | ⟨hm, h0, _, hr⟩ | ⟨_, _, _, hr⟩ |
      ⟨hm, h0, _, hr⟩ | ⟨hm, h0, _, hr⟩ | ⟨hm, _, hlt, _⟩ | ⟨_, _⟩
  · exact ⟨_, _, hr, ⟨by simp, by simp⟩, rfl, hep, by simp⟩
  · exact ⟨_, _, hr, ⟨by simp, by simp⟩, rfl, hep, by simp⟩
  · exact ⟨_, _, hr, ⟨hm3, fun _ => timeSub_nonneg.mp h0⟩, rfl, hep, by simp [hm]⟩
  · exact ⟨_, _, hr, ⟨by simp, by simp⟩, rfl, hep, by simp⟩
  · exact ⟨_, _, hr, ⟨hm3, fun _ => timeSub_nonneg.mp h0⟩, rfl, hep, by simp [hm]⟩
  · obtain ⟨s', acts, hr, hmode, hepo, ht0, ht, _⟩ := track_ok hr
    refine ⟨s', acts, hr, ⟨by omega, fun _ => ?_⟩, ht, hepo.trans hep, by omega⟩
    rw [ht0, ht]; exact timeSub_nonneg.mp h0
  · -- in a non-zero mode the epoch test changed nothing, and the readings are ordered t0 ≤ t ≤ now
    obtain ⟨hs, he⟩ := syncEpoch_of_mode_ne_zero hm
    rw [hs] at hm hlt
    have h1 := hI.t0_le hm
    have h2 := hnow he hm
    rcases hlt with hlt | ⟨_, hlt⟩
    · have := timeSub_nonneg.mpr (Int.le_trans h1 h2); omega
    · rw [bd_lt_fzero (durationSeconds_bd (timeSub_nonneg.mpr h2) (timeSub_le _ _).2)] at hlt
      cases hlt
  · omega

theorem gt_fzero_iff_fin_pos {x : F64} (hf : isFinite x = true) (h : gt x fzero = true) :
    ∃ q, x = .fin q ∧ 0 < q := by
  rcases finite_cases hf with ⟨n, rfl⟩ | ⟨q, rfl⟩
  · simp [gt, lt, fzero, toRat] at h
  · exact ⟨q, rfl, by simp [gt, lt, fzero, toRat] at h; exact of_decide_eq_true h⟩

theorem ceil_bd {M : Int} {x : F64} (hx : Bd (M : Rat) x) (h : gt (ceil x) fzero = true) :
    ∃ D : Int, 1 ≤ D ∧ D ≤ M ∧ ceil x = .fin (D : Rat) ∧ D = (toRat x).ceil := by
  obtain ⟨q, hq, hpos⟩ := gt_fzero_iff_fin_pos (by rw [isFinite_ceil]; exact hx.1) h
  have hc : q = ((toRat x).ceil : Rat) := by rw [← toRat_ceil hx.1, hq]; rfl
  rw [hc] at hq hpos
  exact ⟨_, Rat.intCast_pos.mp hpos, Rat.ceil_le_iff.mpr hx.2.2, hq, rfl⟩

theorem ceil_gap {t now : Int} (hmono : t ≤ now) (hgap : now - t ≤ 9223372035999999999)
    (hgt : gt (ceil (durationSeconds (timeSub now t))) fzero = true) :
    ∃ D : Int, D = (toRat (durationSeconds (timeSub now t))).ceil ∧ 1 ≤ D ∧
      D ≤ (now - t) / 1000000000 + 1 ∧ ceil (durationSeconds (timeSub now t)) = .fin (D : Rat) := by
  have hsub : timeSub now t = now - t := timeSub_exact (by unfold minI64 maxI64; omega)
  have hb := durationSeconds_bd (d := timeSub now t) (by rw [hsub]; omega) (timeSub_le _ _).2
  obtain ⟨D, hD1, hD2, hc, hDc⟩ := ceil_bd hb hgt
  rw [hsub] at hD2
  exact ⟨D, hDc, hD1, hD2, hc⟩

theorem toInt64_zero (s : Bool) : toInt64 (.zero s) = 0 := rfl

theorem toInt64_lt {x : F64} {L : Int} (hf : isFinite x = true) (hL : L ≤ 9223372036854775808)
    (h1 : -(L : Rat) < toRat x) (h2 : toRat x < (L : Rat)) :
    -L < toInt64 x ∧ toInt64 x < L := by
  rcases finite_cases hf with ⟨z, rfl⟩ | ⟨X, rfl⟩
  · have hL0 : 0 < L := Rat.intCast_pos.mp (by simp only [toRat] at h2; exact h2)
    rw [toInt64_zero]; omega
  simp only [toRat] at h1 h2
  unfold toInt64
  simp only
  by_cases hn : X < 0
  · simp only [hn, if_true]
    have a1 : (-X).floor < L := Rat.floor_lt_iff.mpr (by grind)
    have a2 : 0 ≤ (-X).floor := Rat.le_floor_iff.mpr (by simp only [Rat.intCast_zero]; grind)
    split <;> omega
  · simp only [hn, if_false]
    have a1 : X.floor < L := Rat.floor_lt_iff.mpr h2
    have a2 : 0 ≤ X.floor := Rat.le_floor_iff.mpr (by simp only [Rat.intCast_zero]; grind)
    split <;> omega

theorem toInt64_ge {x : F64} {a : Int} (hf : isFinite x = true) (ha : 0 ≤ a) (h1 : (a : Rat) ≤ toRat x)
    (h2 : toRat x < ((9223372036854775808 : Int) : Rat)) :
    a ≤ toInt64 x := by
  rcases finite_cases hf with ⟨z, rfl⟩ | ⟨X, rfl⟩
  · exact Rat.intCast_le_intCast.mp (by rw [toInt64_zero, Rat.intCast_zero]; exact h1)
  simp only [toRat] at h1 h2
  unfold toInt64
  simp only
  have h0 : (0 : Rat) ≤ (a : Rat) := Rat.intCast_nonneg.mpr ha
  have hn : ¬ X < 0 := by grind
  simp only [hn, if_false]
  have a1 : X.floor < 9223372036854775808 := Rat.floor_lt_iff.mpr h2
  have a2 : a ≤ X.floor := Rat.le_floor_iff.mpr h1
  split <;> omega

theorem big_le_maxFin {q : Rat} (h : q.abs ≤ 18446744073709551616) : q.abs ≤ maxFin :=
  Rat.le_trans h maxFin_big

theorem rep_second : Rep (1000000000 : Rat) := by
  have h := rep_intCast (i := 1000000000) (by decide)
  have e : ((1000000000 : Int) : Rat) = 1000000000 := by decide +kernel
  rwa [e] at h

/-- `9223372036` is `⌊MaxInt64/10⁹⌋`; `9223372036854774784 = 2⁶³ - 1024` is the largest double below `2⁶³`. -/
theorem toDuration_ceil {D : Int} (h1 : 1 ≤ D) (h2 : D ≤ 9223372036) :
    1000000000 ≤ toDuration (.fin (D : Rat)) ∧ toDuration (.fin (D : Rat)) ≤ 9223372036854774784 := by
  unfold toDuration
  rw [ofInt_1e9]
  have hD1 : (1 : Rat) ≤ D := by exact_mod_cast h1
  have hD2 : (D : Rat) ≤ 9223372036 := by have := intCast_le_lit h2; rwa [Rat.intCast_ofNat] at this
  have hq1 : (1000000000 : Rat) ≤ (D : Rat) * 1000000000 := by grind
  have hq2 : (D : Rat) * 1000000000 ≤ 9223372036854774784 := by grind
  have habs : ((D : Rat) * 1000000000).abs ≤ maxFin := big_le_maxFin (by rw [abs_le_iff]; grind)
  obtain ⟨hf, hv⟩ : isFinite (mul (.fin (D : Rat)) (.fin 1000000000)) = true ∧
      toRat (mul (.fin (D : Rat)) (.fin 1000000000)) = rnd ((D : Rat) * 1000000000) :=
    toRat_mul rfl rfl habs
  have l1 := le_rnd_of_rep_le rep_second hq1
  have l2 := rnd_le_of_le_rep rep_maxInt64F hq2
  rw [← hv] at l1 l2
  constructor
  · exact toInt64_ge hf (by decide) (by rw [Rat.intCast_ofNat]; exact l1) (by rw [Rat.intCast_ofNat]; grind)
  · have := toInt64_lt hf (L := 9223372036854774785) (by decide)
      (by rw [Rat.intCast_ofNat]; grind) (by rw [Rat.intCast_ofNat]; grind)
    omega

/-- the double nearest to `500e-6` (0x3f40624dd2f1a9fc) -/
def slewC : Rat := 1152921504606847 / 2305843009213693952
theorem slewPos_eq : slewPos = .fin slewC := by decide +kernel
theorem slewNeg_eq : slewNeg = .fin (-slewC) := by decide +kernel

theorem lt_finite_inf {x : F64} (hx : isFinite x = true) (b : Bool) : lt x (.inf b) = !b := by
  cases x <;> simp [isFinite] at hx <;> simp [lt]

theorem lt_inf_finite {x : F64} (hx : isFinite x = true) (b : Bool) : lt (.inf b) x = b := by
  cases x <;> simp [isFinite] at hx <;> simp [lt]

theorem clamp_generic {p hi lo : F64} (hp : p ≠ .nan) (hh : isFinite hi = true)
    (hl : isFinite lo = true) (hle : toRat lo ≤ toRat hi) :
    let c := if lt (if gt p hi then hi else p) lo then lo else (if gt p hi then hi else p)
    isFinite c = true ∧ toRat lo ≤ toRat c ∧ toRat c ≤ toRat hi := by
  intro c
  simp only [c]
  unfold gt
  by_cases h1 : lt hi p = true
  · have h2 : ¬ lt hi lo = true := fun h => by have := (lt_iff_of_finite hh hl).mp h; grind
    rw [if_pos h1, if_neg h2]
    exact ⟨hh, hle, Rat.le_refl⟩
  rw [if_neg h1]
  by_cases h2 : lt p lo = true
  · rw [if_pos h2]; exact ⟨hl, Rat.le_refl, hle⟩
  rw [if_neg h2]
  by_cases hpf : isFinite p = true
  · rw [lt_iff_of_finite hh hpf] at h1
    rw [lt_iff_of_finite hpf hl] at h2
    exact ⟨hpf, by grind, by grind⟩
  · -- an infinity is beyond one of the limits
    cases p with
    | nan => exact absurd rfl hp
    | inf n => rw [lt_finite_inf hh] at h1; rw [lt_inf_finite hl] at h2; cases n <;> simp at h1 h2
    | _ => exact absurd rfl hpf

theorem pow2_tiny : pow2 (-1075) ≤ 1 / 1000000000000000000000000000000 := by decide +kernel

/-- `|p|·10⁹`, with the rounding error of that product, is the only thing `timemath.Duration(p)`
    depends on for staying inside `±L`. -/
theorem toDuration_lt {p : F64} {L : Int} {B : Rat} (hL : L ≤ 9223372036854775808)
    (hf : isFinite p = true) (hp : (toRat p).abs ≤ B)
    (hB : B * 1000000000 + B * 1000000000 / 9007199254740992 + pow2 (-1075) < (L : Rat)) :
    -L < toDuration p ∧ toDuration p < L := by
  have ht0 := pow2_pos (-1075)
  have hLm : (L : Rat) ≤ 18446744073709551616 :=
    Rat.le_trans (intCast_le_lit hL) (by decide +kernel)
  unfold toDuration
  rw [ofInt_1e9]
  rw [abs_le_iff] at hp
  have hqa : (toRat p * 1000000000).abs ≤ B * 1000000000 := by rw [abs_le_iff]; constructor <;> grind
  have hq : (toRat p * 1000000000).abs ≤ maxFin := big_le_maxFin (by grind)
  obtain ⟨hqf, hv⟩ : isFinite (mul p (.fin 1000000000)) = true ∧
      toRat (mul p (.fin 1000000000)) = rnd (toRat p * 1000000000) := toRat_mul hf rfl hq
  have hqe := rnd_err_gen (toRat p * 1000000000)
  rw [abs_le_iff, pow2_53_lit] at hqe
  rw [← hv] at hqe
  generalize (toRat p * 1000000000).abs = a at *
  generalize pow2 (-1075) = t at *
  exact toInt64_lt hqf hL (by grind) (by grind)

/-- The clamped slew, converted with `timemath.Duration`, is at most 500 000 ns per whole
    second `D`, for `1 ≤ D ≤ 8·10⁹` (roundings: the constant `500e-6` itself, `D·fl(500e-6)`,
    `·1e9`; against the slack of the final truncation).  `8·10⁹` is a round figure: the relative
    error bounds used in the last step give out shortly before the true limit `9 007 199 267`. -/
theorem slew_clamp_bound {p : F64} {D : Int} (hp : p ≠ .nan) (h1 : 1 ≤ D) (h2 : D ≤ 8000000000) :
    -(500000 * D) ≤ toDuration (clamp p (.fin (D : Rat))) ∧
      toDuration (clamp p (.fin (D : Rat))) ≤ 500000 * D := by
  have hD1 : (1 : Rat) ≤ D := by exact_mod_cast h1
  have hD2 : (D : Rat) ≤ 8000000000 := by have := intCast_le_lit h2; rwa [Rat.intCast_ofNat] at this
  have hcast : ((500000 * D + 1 : Int) : Rat) = 500000 * (D : Rat) + 1 := by
    rw [Rat.intCast_add, Rat.intCast_mul]; rfl
  have ht := pow2_tiny
  have ht0 := pow2_pos (-1075)
  -- the clamp limits are `fl(m)` and `fl(-m)` for `m = D·fl(500e-6)`; only the last step looks into `m`
  obtain ⟨m, hm⟩ : ∃ m, m = (D : Rat) * slewC := ⟨_, rfl⟩
  have hm0 : 0 ≤ m := by rw [hm]; unfold slewC; grind
  have hqh : m.abs ≤ maxFin := big_le_maxFin (by rw [Rat.abs_of_nonneg hm0, hm]; unfold slewC; grind)
  have hql : (-m).abs ≤ maxFin := by rw [Rat.abs_neg]; exact hqh
  have eP : mul (.fin (D : Rat)) slewPos = roundNE m := by rw [hm, slewPos_eq]; rfl
  have eN : mul (.fin (D : Rat)) slewNeg = roundNE (-m) := by rw [hm, slewNeg_eq, ← Rat.mul_neg]; rfl
  have hhe := roundNE_err_gen hqh
  have hle := roundNE_err_gen hql
  have hc : isFinite (clamp p (.fin (D : Rat))) = true ∧
      toRat (roundNE (-m)) ≤ toRat (clamp p (.fin (D : Rat))) ∧
      toRat (clamp p (.fin (D : Rat))) ≤ toRat (roundNE m) := by
    rw [← eP, ← eN]
    exact clamp_generic hp (by rw [eP]; exact isFinite_roundNE_of_le hqh)
      (by rw [eN]; exact isFinite_roundNE_of_le hql)
      (by rw [eP, eN]; exact roundNE_mono hql hqh (by grind))
  rw [abs_le_iff, Rat.abs_of_nonneg hm0, pow2_53_lit] at hhe
  rw [abs_le_iff, Rat.abs_neg, Rat.abs_of_nonneg hm0, pow2_53_lit] at hle
  generalize clamp p (.fin (D : Rat)) = c at hc ⊢
  have := toDuration_lt (L := 500000 * D + 1) (B := m + (m / 9007199254740992 + pow2 (-1075))) (by omega) hc.1
    (by clear hm; rw [abs_le_iff]; generalize pow2 (-1075) = t at *; constructor <;> grind)
    (by rw [hcast, hm]; unfold slewC; generalize pow2 (-1075) = t at *; grind)
  omega

def AbsBd (M : Rat) (x : F64) : Prop := isFinite x = true ∧ (toRat x).abs ≤ M

theorem AbsBd.nonneg {M : Rat} {x : F64} (h : AbsBd M x) : 0 ≤ M :=
  Rat.le_trans Rat.abs_nonneg h.2

theorem AbsBd.mono {M N : Rat} {x : F64} (h : AbsBd M x) (hMN : M ≤ N) : AbsBd N x :=
  ⟨h.1, Rat.le_trans h.2 hMN⟩

theorem Bd.absBd {M : Rat} {x : F64} (h : Bd M x) : AbsBd M x :=
  ⟨h.1, by rw [Rat.abs_of_nonneg h.2.1]; exact h.2.2⟩

theorem absBd_roundNE {q M : Rat} (hq : q.abs ≤ M) (hR : Rep M) (hM : M ≤ maxFin) :
    AbsBd M (roundNE q) := by
  have ha : q.abs ≤ maxFin := Rat.le_trans hq hM
  refine ⟨isFinite_roundNE_of_le ha, ?_⟩
  rw [toRat_roundNE_of_le ha]; exact rnd_abs_le_of_rep hR hq

theorem absBd_zero {M : Rat} (h : 0 ≤ M) (b : Bool) : AbsBd M (.zero b) := ⟨rfl, by simpa [toRat] using h⟩

theorem mul_absBd {x y : F64} {X Y M : Rat} (hx : AbsBd X x) (hy : AbsBd Y y) (hXY : X * Y ≤ M)
    (hR : Rep M) (hM : M ≤ maxFin) : AbsBd M (mul x y) := by
  have hab : (toRat x * toRat y).abs ≤ M := by
    rw [abs_mul]
    exact Rat.le_trans (Rat.le_trans (Rat.mul_le_mul_of_nonneg_right hx.2 Rat.abs_nonneg)
      (Rat.mul_le_mul_of_nonneg_left hy.2 hx.nonneg)) hXY
  obtain ⟨hf, hv⟩ := toRat_mul hx.1 hy.1 (Rat.le_trans hab hM)
  exact ⟨hf, by rw [hv]; exact rnd_abs_le_of_rep hR hab⟩

theorem add_absBd {x y : F64} {X Y : Rat} (hx : AbsBd X x) (hy : AbsBd Y y)
    (hR : Rep (X + Y)) (hM : X + Y ≤ maxFin) : AbsBd (X + Y) (add x y) := by
  have hX0 := hx.nonneg
  have hY0 := hy.nonneg
  obtain ⟨hfx, hxa⟩ := hx
  obtain ⟨hfy, hya⟩ := hy
  rcases finite_cases hfx with ⟨a, rfl⟩ | ⟨u, rfl⟩ <;> rcases finite_cases hfy with ⟨b, rfl⟩ | ⟨v, rfl⟩
  · exact absBd_zero (by grind) _
  · exact ⟨rfl, by simp only [add, toRat] at *; grind⟩
  · exact ⟨rfl, by simp only [add, toRat] at *; grind⟩
  · simp only [add, toRat] at *
    refine absBd_roundNE ?_ hR hM
    rw [abs_le_iff] at *
    constructor <;> grind

theorem rep_nat {k : Nat} (hk : k < 9007199254740992) : Rep ((k : Nat) : Rat) := by
  have := rep_natCast_mul (k := k) (K := 0) (show k < 2 ^ 53 from hk) (by decide)
  rwa [pow2_zero, Rat.mul_one] at this

theorem durationSeconds_absBd {d : Int} (h : minI64 ≤ d ∧ d ≤ maxI64) :
    AbsBd 9223372038 (durationSeconds d) := by
  unfold minI64 maxI64 at h
  obtain ⟨hf, _, hv⟩ := durationSeconds_val (d := d) (by omega)
  refine ⟨hf, ?_⟩
  rw [hv]
  exact Rat.le_trans (secondsVal_abs_le (by omega)) (by decide +kernel)

theorem durationSeconds_finite {d : Int} (h : minI64 ≤ d ∧ d ≤ maxI64) :
    isFinite (durationSeconds d) = true :=
  (durationSeconds_absBd h).1

theorem mul_ne_nan {x y : F64} (hx : isFinite x = true) (hy : isFinite y = true) : mul x y ≠ .nan := by
  cases x <;> cases y <;> simp [isFinite] at hx hy <;> simp [mul]
  exact roundNE_ne_nan _

/-- the doubles nearest `0.33` and `0.33/60` (`pInit_eq`, `bInit_eq`) -/
def pInitR : Rat := 5944751508129055 / 18014398509481984
def bInitR : Rat := 6341068275337659 / 1152921504606846976
theorem pInit_eq : pInit = .fin pInitR := by decide +kernel
theorem bInit_eq : div pInit iInit = .fin bInitR := by decide +kernel
theorem rep_pInitR : Rep pInitR :=
  (WF.rep (v := pInitR) ⟨by decide +kernel, by decide +kernel⟩).1
theorem rep_bInitR : Rep bInitR :=
  (WF.rep (v := bInitR) ⟨by decide +kernel, by decide +kernel⟩).1

/-- `l.a ∈ [0, 0.33]`, `l.b ∈ [0, 0.33/60]`, both finite. -/
structure Gain (s : State) : Prop where
  a : Bd pInitR s.a
  b : Bd bInitR s.b

theorem gain_init : Gain init :=
  ⟨⟨by decide +kernel, by decide +kernel, by decide +kernel⟩,
   ⟨by decide +kernel, by decide +kernel, by decide +kernel⟩⟩

theorem mul_bd {M : Rat} {x y : F64} (hx : Bd M x) (hy : Bd 1 y) (hR : Rep M) (hM : M ≤ maxFin) :
    Bd M (mul x y) := by
  have h0 : 0 ≤ toRat x * toRat y := Rat.mul_nonneg hx.2.1 hy.2.1
  have h1 : toRat x * toRat y ≤ M := by
    have := Rat.mul_le_mul_of_nonneg_left hy.2.2 hx.2.1
    have := hx.2.2
    grind
  obtain ⟨hf, hv⟩ := toRat_mul hx.1 hy.1 (by rw [Rat.abs_of_nonneg h0]; exact Rat.le_trans h1 hM)
  exact ⟨hf, by rw [hv]; exact rnd_nonneg h0, by rw [hv]; exact rnd_le_of_le_rep hR h1⟩

theorem aLow_bd : Bd pInitR aLow := ⟨by decide +kernel, by decide +kernel, by decide +kernel⟩
theorem bLow_bd : Bd bInitR bLow := ⟨by decide +kernel, by decide +kernel, by decide +kernel⟩
theorem aMid_bd : Bd pInitR aMid := ⟨by decide +kernel, by decide +kernel, by decide +kernel⟩
theorem bMid_bd : Bd bInitR bMid := ⟨by decide +kernel, by decide +kernel, by decide +kernel⟩

theorem gains_bd {s : State} (hg : Gain s) {pw : F64} (hpw : Bd 1 pw) (mdt : Int) (w : F64) :
    Gain (gains s mdt w pw).1 ∧ Bd pInitR (gains s mdt w pw).2.1 ∧ Bd bInitR (gains s mdt w pw).2.2 := by
  have hA : pInitR ≤ maxFin := Rat.le_trans (by decide +kernel) maxFin_big
  have hB : bInitR ≤ maxFin := Rat.le_trans (by decide +kernel) maxFin_big
  unfold gains
  split
  · exact ⟨hg, aLow_bd, bLow_bd⟩
  · split
    · exact ⟨hg, aMid_bd, bMid_bd⟩
    · split
      · have ha := mul_bd hg.a hpw rep_pInitR hA
        have hb := mul_bd hg.b hpw rep_bInitR hB
        exact ⟨⟨ha, hb⟩, ha, hb⟩
      · exact ⟨hg, hg.a, hg.b⟩

theorem gain_sync {s : State} (hg : Gain s) (e : Nat) : Gain (syncEpoch s e) := by
  rcases syncEpoch_cases s e with ⟨_, h⟩ | ⟨_, h⟩ <;> rw [h]
  · exact ⟨hg.a, hg.b⟩
  · exact hg

theorem step_gain {s : State} {e : Nat} {now off : Int} {w pw : F64} (hg : Gain s) (hpw : Bd 1 pw) :
    Gain ((step s e now off w pw).next s) := by
  have hg0 := gain_sync hg e
  rcases step_spec s e now off w pw with ⟨_, hr⟩ | ⟨_, _, _, hr⟩ | ⟨_, _, _, hr⟩ | ⟨_, _, _, hr⟩ |
      ⟨_, _, _, hr⟩ | ⟨_, _, _, hr⟩ | ⟨_, _, _, hr⟩ | ⟨_, hr⟩ <;> rw [hr]
  · exact ⟨hg0.a, hg0.b⟩
  · exact ⟨hg0.a, hg0.b⟩
  · exact ⟨hg0.a, hg0.b⟩
  · refine ⟨?_, ?_⟩
    · show Bd pInitR pInit
      rw [pInit_eq]; exact ⟨rfl, by decide +kernel, Rat.le_refl⟩
    · show Bd bInitR (div pInit iInit)
      rw [bInit_eq]; exact ⟨rfl, by decide +kernel, Rat.le_refl⟩
  · exact ⟨hg0.a, hg0.b⟩
  · have hgb := gains_bd hg0 hpw (timeSub now (syncEpoch s e).t0) w
    rw [track_eq]; exact ⟨hgb.1.a, hgb.1.b⟩
  · exact hg
  · exact hg

theorem step_acts {s s' : State} {e : Nat} {now off : Int} {w pw : F64} {acts : List Action}
    (h : step s e now off w pw = .ok s' acts) :
    let s0 := syncEpoch s e
    let mdt := timeSub now s0.t0
    acts = [] ∨
    (s0.mode = 1 ∧ (mdt > stepWait ∧ gt w wStep = true) ∧ durAbs (inv off) > stepThreshold ∧
      s'.mode = 2 ∧ acts = [.step (inv (inv off))]) ∨
    (s0.mode = 3 ∧ 0 ≤ mdt ∧ .ok s' acts = track s0 now mdt (durationSeconds (timeSub now s0.t)) (inv off) w pw) := by
  have hspec := step_spec s e now off w pw
  rw [h] at hspec
  rcases hspec with ⟨_, ⟨⟩⟩ | ⟨hm, _, hc, hr⟩ | ⟨_, _, _, ⟨⟩⟩ | ⟨_, _, _, ⟨⟩⟩ | ⟨_, _, _, ⟨⟩⟩ |
      ⟨hm, h0, _, hr⟩ | ⟨_, _, _, ⟨⟩⟩ | ⟨_, ⟨⟩⟩
  · exact .inl rfl
  · injection hr with hs ha
    split at ha
    · rename_i hd; exact .inr (.inl ⟨hm, hc, hd, by rw [hs], ha⟩)
    · exact .inl ha
  · exact .inl rfl
  · exact .inl rfl
  · exact .inl rfl
  · exact .inr (.inr ⟨hm, h0, hr⟩)

theorem step_adjust {s s' : State} {e : Nat} {now off : Int} {w pw : F64} {acts : List Action}
    {o d : Int} {f : F64}
    (h : step s e now off w pw = .ok s' acts) (ha : Action.adjust o d f ∈ acts) :
    e = s.epoch ∧ s.mode = 3 ∧ s'.mode = 3 ∧ acts = [.adjust o d f] ∧ f = s'.i ∧
    gt (ceil (durationSeconds (timeSub now s.t))) fzero = true ∧
    d = toDuration (ceil (durationSeconds (timeSub now s.t))) ∧
    o = toDuration (clamp (mul (durationSeconds (inv (inv off))) (gains s (timeSub now s.t0) w pw).2.1)
          (ceil (durationSeconds (timeSub now s.t)))) := by
  rcases step_acts h with rfl | ⟨_, _, _, _, rfl⟩ | ⟨hm, _, hr⟩
  · cases ha
  · simp at ha
  obtain ⟨hs, he⟩ := syncEpoch_of_mode_ne_zero (by omega : (syncEpoch s e).mode ≠ 0)
  rw [hs] at hr hm
  rw [track_eq] at hr
  injection hr with hs' hacts
  rw [hacts] at ha
  split at ha
  · rename_i hgt
    rw [List.mem_singleton] at ha
    injection ha with ho hd hf
    refine ⟨he, hm, ?_, ?_, ?_, hgt, hd, ho⟩
    · rw [hs']; exact (gains_frame ..).2.1.trans hm
    · rw [hacts, if_pos hgt, ho, hd, hf]
    · rw [hf, hs']
  · cases ha

/-- (state before, input, outcome) for every update of a history -/
def trace (s : State) : List Input → List (State × Input × Outcome)
  | [] => []
  | x :: xs => (s, x, stepIn s x) :: trace ((stepIn s x).next s) xs

theorem run_eq_trace (s : State) (xs : List Input) : run s xs = (trace s xs).map (·.2.2) := by
  induction xs generalizing s with
  | nil => rfl
  | cons x xs ih => simp [run, trace, ih]

theorem trace_step {s : State} {xs : List Input} {τ : State × Input × Outcome} (h : τ ∈ trace s xs) :
    τ.2.2 = stepIn τ.1 τ.2.1 := by
  induction xs generalizing s with
  | nil => simp [trace] at h
  | cons x xs ih =>
    simp only [trace, List.mem_cons] at h
    rcases h with rfl | h
    · rfl
    · exact ih h

theorem trace_input_mem {s : State} {xs : List Input} {τ : State × Input × Outcome} (h : τ ∈ trace s xs) :
    τ.2.1 ∈ xs := by
  induction xs generalizing s with
  | nil => cases h
  | cons x xs ih =>
    rcases List.mem_cons.mp h with rfl | h
    · exact List.mem_cons_self ..
    · exact List.mem_cons_of_mem _ (ih h)

theorem trace_inv {P : State → Prop} {xs : List Input}
    (hstep : ∀ s, ∀ x ∈ xs, P s → P ((stepIn s x).next s)) {s : State} (hs : P s) :
    (∀ τ ∈ trace s xs, P τ.1) ∧ P (final s xs) := by
  induction xs generalizing s with
  | nil => simp [trace, final, hs]
  | cons x xs ih =>
    have := ih (fun s y hy => hstep s y (List.mem_cons_of_mem _ hy)) (hstep s x (List.mem_cons_self ..) hs)
    simp only [trace, final, List.mem_cons]
    exact ⟨by rintro τ (rfl | h); exact hs; exact this.1 τ h, this.2⟩

def NonDecreasing : List Input → Prop
  | x :: y :: rest => x.now ≤ y.now ∧ NonDecreasing (y :: rest)
  | _ => True

/-- clock readings never decrease between two consecutive updates in the same clock epoch
    (weaker than `NonDecreasing`: a step of the clock may move the readings anywhere) -/
def NonDecreasingInEpoch : List Input → Prop
  | x :: y :: rest => (x.clkEpoch = y.clkEpoch → x.now ≤ y.now) ∧ NonDecreasingInEpoch (y :: rest)
  | _ => True

theorem NonDecreasing.inEpoch : ∀ {xs : List Input}, NonDecreasing xs → NonDecreasingInEpoch xs
  | [], _ => trivial
  | [_], _ => trivial
  | _ :: y :: rest, h => ⟨fun _ => h.1, NonDecreasing.inEpoch (xs := y :: rest) h.2⟩

/-- The integrator after `n` updates: finite, `|l.i| ≤ n·2²⁵`. -/
def IntegBd (n : Nat) (s : State) : Prop := AbsBd ((n : Rat) * 33554432) s.i

theorem natCast_succ (n : Nat) : ((n + 1 : Nat) : Rat) = (n : Rat) + 1 := by
  rw [Rat.natCast_add]; rfl

theorem IntegBd.mono {n m : Nat} {s : State} (h : IntegBd n s) (hnm : n ≤ m) : IntegBd m s :=
  AbsBd.mono h (Rat.mul_le_mul_of_nonneg_right (Rat.natCast_le_natCast.mpr hnm) (by decide +kernel))

/-- growth of the integrator in one tracking update: `|p·b| ≤ 2²⁵`
    (`|off|` is at most 9 223 372 037 s; times 0.33 this is below `2³²`, times 0.33/60 below `2²⁵`) -/
theorem integ_term_absBd {off : Int} {a b : F64} (hoff : minI64 ≤ off ∧ off ≤ maxI64)
    (ha : Bd pInitR a) (hb : Bd bInitR b) :
    AbsBd 33554432 (mul (mul (durationSeconds off) a) b) := by
  have hs := durationSeconds_absBd hoff
  have hp : AbsBd ((4294967296 : Nat) : Rat) (mul (durationSeconds off) a) :=
    mul_absBd hs ha.absBd (by decide +kernel) (rep_nat (by decide))
      (Rat.le_trans (by decide +kernel) maxFin_big)
  have e : ((33554432 : Nat) : Rat) = 33554432 := by decide +kernel
  have := mul_absBd hp hb.absBd (M := ((33554432 : Nat) : Rat)) (by decide +kernel) (rep_nat (by decide))
    (Rat.le_trans (by decide +kernel) maxFin_big)
  rwa [e] at this

theorem integ_add {n : Nat} {x y : F64} (hn : n + 1 < 2 ^ 53) (hx : AbsBd ((n : Rat) * 33554432) x)
    (hy : AbsBd 33554432 y) : AbsBd (((n + 1 : Nat) : Rat) * 33554432) (add x y) := by
  have hsum : (n : Rat) * 33554432 + 33554432 = ((n + 1 : Nat) : Rat) * 33554432 := by
    rw [natCast_succ]; grind
  have hrep : Rep (((n + 1 : Nat) : Rat) * 33554432) := by
    have := rep_natCast_mul (k := n + 1) (K := 25) hn (by decide)
    rwa [show pow2 25 = 33554432 by decide +kernel] at this
  have hmax : ((n + 1 : Nat) : Rat) * 33554432 ≤ maxFin := by
    have h1 : ((n + 1 : Nat) : Rat) ≤ ((9007199254740992 : Nat) : Rat) := Rat.natCast_le_natCast.mpr (by omega)
    have h2 := Rat.mul_le_mul_of_nonneg_right (c := 33554432) h1 (by decide +kernel)
    rw [show ((9007199254740992 : Nat) : Rat) * 33554432 = pow2 78 by decide +kernel] at h2
    exact Rat.le_trans h2 (pow2_le_maxFin (by decide))
  rw [← hsum] at hrep hmax ⊢
  exact add_absBd hx hy hrep hmax

theorem step_integ {s : State} {e : Nat} {now off : Int} {w pw : F64} {n : Nat}
    (hg : Gain s) (hpw : Bd 1 pw) (hoff : minI64 ≤ off ∧ off ≤ maxI64) (hn : n + 1 < 2 ^ 53)
    (hi : IntegBd n s) : IntegBd (n + 1) ((step s e now off w pw).next s) := by
  have hi0 : IntegBd n (syncEpoch s e) := by
    rcases syncEpoch_cases s e with ⟨_, h⟩ | ⟨_, h⟩ <;> rw [h] <;> exact hi
  rcases step_spec s e now off w pw with ⟨_, hr⟩ | ⟨_, _, _, hr⟩ | ⟨_, _, _, hr⟩ | ⟨_, _, _, hr⟩ |
      ⟨_, _, _, hr⟩ | ⟨_, _, _, hr⟩ | ⟨_, _, _, hr⟩ | ⟨_, hr⟩ <;> rw [hr]
  · exact hi0.mono (Nat.le_succ n)
  · exact hi0.mono (Nat.le_succ n)
  · exact hi0.mono (Nat.le_succ n)
  · exact hi0.mono (Nat.le_succ n)
  · exact hi0.mono (Nat.le_succ n)
  · have hgb := gains_bd (gain_sync hg e) hpw (timeSub now (syncEpoch s e).t0) w
    rw [track_eq]
    refine integ_add hn ?_ (integ_term_absBd (inv_range (inv_range hoff)) hgb.2.1 hgb.2.2)
    rw [(gains_frame ..).2.2.2.2]; exact hi0
  · exact hi.mono (Nat.le_succ n)
  · exact hi.mono (Nat.le_succ n)

def Consec (R : Input → Input → Prop) : List Input → Prop
  | x :: y :: rest => R x y ∧ Consec R (y :: rest)
  | _ => True

theorem Consec.trivial : ∀ xs : List Input, Consec (fun _ _ => True) xs
  | [] => True.intro
  | [_] => True.intro
  | _ :: y :: rest => ⟨True.intro, Consec.trivial (y :: rest)⟩

/-- Under per-epoch monotone readings, with `R` holding between consecutive inputs: every update of
    a history starts in a state satisfying the invariant and does not panic, and the state before
    it is in mode 0 (very first update) or carries the previous update's reading in `l.t`.
    `hhead` is that last clause for the first update. -/
theorem trace_linked {R : Input → Input → Prop} {s : State} {xs : List Input} (hI : Inv s)
    (hhead : ∀ x, xs.head? = some x →
      s.mode = 0 ∨ ∃ p, R p x ∧ s.t = p.now ∧ (x.clkEpoch = s.epoch → p.now ≤ x.now))
    (hm : NonDecreasingInEpoch xs) (hR : Consec R xs) :
    ∀ τ ∈ trace s xs, Inv τ.1 ∧ (∃ s' acts, τ.2.2 = .ok s' acts) ∧
      (τ.1.mode = 0 ∨ ∃ p, R p τ.2.1 ∧ τ.1.t = p.now ∧ (τ.2.1.clkEpoch = τ.1.epoch → p.now ≤ τ.2.1.now)) := by
  induction xs generalizing s with
  | nil => simp [trace]
  | cons x xs ih =>
    have hl := hhead x rfl
    have hx : x.clkEpoch = s.epoch → s.mode ≠ 0 → s.t ≤ x.now := by
      intro he h0
      obtain h | ⟨p, _, ht, hle⟩ := hl
      · exact absurd h h0
      · rw [ht]; exact hle he
    obtain ⟨s', acts, hst, hI', ht, he, _⟩ := step_safe (off := x.offset) (w := x.weight) (pw := x.pow) hI hx
    have hnext : (stepIn s x).next s = s' := by simp [stepIn, hst, Outcome.next]
    simp only [trace, List.mem_cons]
    rintro τ (rfl | h)
    · exact ⟨hI, ⟨s', acts, hst⟩, hl⟩
    · rw [hnext] at h
      cases xs with
      | nil => cases h
      | cons y ys =>
        refine ih hI' (fun z hz => ?_) hm.2 hR.2 τ h
        cases hz
        exact .inr ⟨x, hR.1, ht, fun hy => hm.1 (hy.trans he).symm⟩

/-- index-carrying induction for the integrator bound -/
theorem trace_integ {s : State} {xs : List Input} {n : Nat} (hg : Gain s) (hi : IntegBd n s)
    (hpw : ∀ x ∈ xs, Bd 1 x.pow) (hoff : ∀ x ∈ xs, minI64 ≤ x.offset ∧ x.offset ≤ maxI64)
    (hlen : n + xs.length < 2 ^ 53) :
    ∀ τ ∈ trace s xs, IntegBd (n + xs.length) (τ.2.2.next τ.1) := by
  induction xs generalizing s n with
  | nil => simp [trace]
  | cons x xs ih =>
    simp only [List.length_cons] at hlen ⊢
    have hx := hpw x (List.mem_cons_self ..)
    have hstep : IntegBd (n + 1) ((stepIn s x).next s) :=
      step_integ hg hx (hoff x (List.mem_cons_self ..)) (by omega) hi
    have hgs : Gain ((stepIn s x).next s) := step_gain hg hx
    simp only [trace, List.mem_cons]
    rintro τ (rfl | h)
    · exact hstep.mono (by omega)
    · have := ih (n := n + 1) hgs hstep (fun y hy => hpw y (List.mem_cons_of_mem _ hy))
        (fun y hy => hoff y (List.mem_cons_of_mem _ hy)) (by omega) τ h
      rwa [show n + 1 + xs.length = n + (xs.length + 1) by omega] at this

end ScionTime.Pll
