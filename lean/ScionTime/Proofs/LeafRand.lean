/-
  Lemmas for the ties of base/crypto (Props/LeafC15): byte strings read least significant byte
  first, and the rejection-sampling loop that `randInt31` and `randInt63` share, on the side of the
  generated definitions (`rejectBody`) and on the side of the model (`Draw`).
-/
import ScionTime.Gen.LeafCrypto
import ScionTime.Model.Sample
import ScionTime.Proofs.GoPrelude
namespace ScionTime.LeafRand
open ScionTime ScionTime.Sample ScionTime.GoLemmas

theorem cases4 {α : Type} {P : List α → Prop} (long : ∀ a b c d r, P (a :: b :: c :: d :: r)) :
    ∀ l : List α, 4 ≤ l.length → P l
  | a :: b :: c :: d :: r, _ => long a b c d r
  | [], h | [_], h | [_, _], h | [_, _, _], h => by simp at h

theorem cases8 {α : Type} {P : List α → Prop} (long : ∀ a b c d e f g h r, P (a :: b :: c :: d :: e :: f :: g :: h :: r))
    (l : List α) (hl : 8 ≤ l.length) : P l := by
  refine cases4 (P := fun l => 8 ≤ l.length → P l) (fun a b c d r hr => ?_) l (by omega) hl
  exact cases4 (P := fun r => P (a :: b :: c :: d :: r)) (long a b c d) r (by simpa using hr)

/-- the number a byte string spells, least significant byte first -/
def leNat : List Nat → Nat
  | [] => 0
  | b :: bs => b + 256 * leNat bs

theorem leNat_lt : ∀ (l : List UInt8) {k : Nat}, l.length = k → leNat (l.map UInt8.toNat) < 256 ^ k
  | [], _, h => by subst h; decide
  | b :: bs, _, h => by
    subst h
    have := leNat_lt bs rfl
    have := b.toNat_lt
    simp only [List.map_cons, leNat, List.length_cons, Nat.pow_succ]
    omega

theorem leNat4 (b0 b1 b2 b3 : Nat) : leNat [b0, b1, b2, b3] = le32 b0 b1 b2 b3 := by
  simp only [leNat, le32]; omega

theorem leNat8 (b0 b1 b2 b3 b4 b5 b6 b7 : Nat) : leNat [b0, b1, b2, b3, b4, b5, b6, b7] = le64 b0 b1 b2 b3 b4 b5 b6 b7 := by
  simp only [leNat, le64, le32, two32]; omega

/-- `binary.LittleEndian.Uint32` reads the first four bytes, `Uint64` the first eight -/
theorem leU32?_spec : ∀ l : List UInt8, 4 ≤ l.length →
    ∃ X, Go.leU32? l = some X ∧ X.toNat = leNat ((l.take 4).map UInt8.toNat) := by
  refine cases4 fun b0 b1 b2 b3 r => ⟨_, rfl, ?_⟩
  show (UInt32.ofNat (le32 _ _ _ _)).toNat = leNat [_, _, _, _]
  rw [← leNat4, UInt32.toNat_ofNat']
  exact Nat.mod_eq_of_lt (leNat_lt (k := 4) [b0, b1, b2, b3] rfl)

theorem leU64?_spec : ∀ l : List UInt8, 8 ≤ l.length →
    ∃ X, Go.leU64? l = some X ∧ X.toNat = leNat ((l.take 8).map UInt8.toNat) := by
  refine cases8 fun b0 b1 b2 b3 b4 b5 b6 b7 r => ⟨_, rfl, ?_⟩
  show (UInt64.ofNat (le64 _ _ _ _ _ _ _ _)).toNat = leNat [_, _, _, _, _, _, _, _]
  rw [← leNat8, UInt64.toNat_ofNat']
  exact Nat.mod_eq_of_lt (leNat_lt (k := 8) [b0, b1, b2, b3, b4, b5, b6, b7] rfl)

theorem ite_tie {α β γ : Type} (f : α → γ) (g : β → γ) {p q : Prop} [Decidable p] [Decidable q] (hpq : p ↔ q)
    {a b : α} {a' b' : β} (h1 : q → f a = g a') (h2 : ¬q → f b = g b') :
    f (if p then a else b) = g (if q then a' else b') := by
  rw [apply_ite f, apply_ite g]
  exact ite_congr (propext hpq) h1 h2

/-- One iteration of the loop in `randInt31` (`W = UInt32`) and `randInt63` (`W = UInt64`) as the
    translator renders it: read `len(b)` bytes, decode them, `break` when the word is accepted,
    otherwise look at the context. -/
def rejectBody {W : Type} (dec : List UInt8 → Option W) (acc : W → Bool) (ctx : Bool) (s : List UInt8 × List UInt8 × W) :
    Go.Ctl (List UInt8 × List UInt8 × W) (Go.Out (List UInt8 × (Int64 × Bool))) :=
  match s with
  | (b, rnd, _) =>
    let (b, rnd, n_1, err) := Go.randRead rnd b
    if (err != false) then
      Go.Ctl.ret (Go.Out.ok ((rnd, ((0 : Int64), err))))
    else
      if (n_1 != (Go.len b)) then
        Go.Ctl.ret (Go.Out.panic "unexpected result from random number generator")
      else
        Go.Ctl.bindR (Go.Out.ofOption "index" (dec b)) fun _i1 =>
        let x : W := _i1
        if acc x then
          Go.Ctl.brk (b, rnd, x)
        else
          let err : Bool := ctx
          if (err != false) then
            Go.Ctl.ret (Go.Out.ok ((rnd, ((0 : Int64), err))))
          else
            Go.Ctl.next (b, rnd, x)

/-- `D` is the model's rejection loop for words of `w` bytes: `draw31` (`w = 4`), `draw63` (`w = 8`) -/
structure Draw (w n t : Nat) (cancelled : Bool) (D : Stream → Res (Nat × Stream)) : Prop where
  short : ∀ s, s.length < w → D s = .err .exhausted
  step : ∀ s, w ≤ s.length → D s =
    if leNat (s.take w) > t then .ok (leNat (s.take w) % n, s.drop w)
    else if cancelled then .err .cancelled
    else D (s.drop w)

namespace Draw

theorem length_le {w n t : Nat} {c : Bool} {D : Stream → Res (Nat × Stream)} (hD : Draw w n t c D) (hw : 0 < w)
    {v : Nat} {r : Stream} (s : Stream) (h : D s = .ok (v, r)) : r.length ≤ s.length := by
  by_cases hs : w ≤ s.length
  · have hdrop : (s.drop w).length = s.length - w := List.length_drop
    rw [hD.step s hs] at h
    split at h
    · cases h; omega
    · split at h
      · cases h
      · have := length_le hD hw (s.drop w) h; omega
  · rw [hD.short s (by omega)] at h
    cases h
termination_by s.length
decreasing_by omega

end Draw

theorem i64_add_one (i : Int64) (h : i.toInt ≠ 9223372036854775807) : (i + 1).toInt = i.toInt + 1 := by
  have : (1 : Int64).toInt = 1 := rfl
  have := Int64.le_toInt i
  have := Int64.toInt_lt i
  rw [toInt_add_of_fits] <;> omega

theorem toNat_u64 (x : Int64) (h : 0 ≤ x.toInt) : x.toUInt64.toNat = x.toInt.toNat := by
  have h1 := toNat_toUInt64 x
  rw [Int.emod_eq_of_lt h (Int.lt_trans (Int64.toInt_lt x) (by decide))] at h1
  rw [← h1, Int.toNat_natCast]

/-- the trip count of `for i := lo; i != hi; i++` when `0 ≤ lo ≤ hi` -/
theorem tripNe_eq (lo hi : Int64) (h0 : 0 ≤ lo.toInt) (h : lo.toInt ≤ hi.toInt) :
    Go.tripNe lo hi = hi.toInt.toNat - lo.toInt.toNat := by
  have := Int64.toInt_lt hi
  have hs := toInt_sub_of_fits hi lo (by omega) (by omega)
  unfold Go.tripNe
  rw [toNat_u64 _ (by rw [hs]; omega), hs]
  exact (congrArg (fun b => (hi.toInt - b).toNat) (Int.toNat_of_nonneg h0).symm).trans (Int.toNat_sub' _ _)

/-- `if n < k { k = n }` on non-negative ints, over the naturals -/
theorem min_toNat (k n K : Int64) (hk : 0 ≤ k.toInt) (hn : 0 ≤ n.toInt) (hK : (if decide (n < k) = true then n else k) = K) :
    K.toInt.toNat = (if n.toInt.toNat < k.toInt.toNat then n.toInt.toNat else k.toInt.toNat) ∧
      0 ≤ K.toInt ∧ K.toInt ≤ n.toInt := by
  subst hK
  by_cases h : n < k
  · have := Int64.lt_iff_toInt_lt.mp h
    rw [if_pos (decide_eq_true h), if_pos (by omega)]
    omega
  · have : ¬ n.toInt < k.toInt := fun h' => h (Int64.lt_iff_toInt_lt.mpr h')
    rw [if_neg (by rw [decide_eq_true_iff]; exact h), if_neg (by omega)]
    omega

/-- One iteration of the second loop of `Sample` as the translator renders it, with `RandIntn` a
    parameter `g`: draw `j` below `i + 1`, `pick(j, i)` when `j < k`. -/
def pickBody (g : Int64 → List UInt8 → Go.Out (List UInt8 × (Int64 × Bool))) (k i : Int64) :
    List (Int64 × Int64) × List UInt8 →
      Go.Ctl (List (Int64 × Int64) × List UInt8) (Go.Out (List UInt8 × (List (Int64 × Int64) × (Int64 × Bool)))) :=
  fun (cb_pick, rnd) =>
    Go.Ctl.bindR (g (i + (1 : Int64)) rnd) fun (rnd, _c1) =>
    let (j, err) := _c1
    if (err != false) then
      Go.Ctl.ret (Go.Out.ok ((rnd, (cb_pick, ((0 : Int64), err)))))
    else
      let cb_pick :=
        if (decide (j < k)) then
          let cb_pick : (List (Int64 × Int64)) := cb_pick ++ [(j, i)]
          cb_pick
        else
          cb_pick
      Go.Ctl.next (cb_pick, rnd)

end ScionTime.LeafRand
