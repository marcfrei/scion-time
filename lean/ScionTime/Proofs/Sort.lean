/-
  Helper lemmas for C02: insertion sort is a sorting permutation, sorted permutations are
  unique up to keys, the counting argument behind the fault-tolerant midpoint, and the
  Int64 midpoint under the 2^62 bound.
-/
import ScionTime.Model.Timemath
namespace ScionTime.Timemath

variable {α β : Type}

theorem insertBy_perm (key : α → Int) (a : α) (l : List α) : (insertBy key a l).Perm (a :: l) := by
  induction l with
  | nil => exact List.Perm.refl _
  | cons b l ih =>
    unfold insertBy
    split
    · exact List.Perm.refl _
    · exact (List.Perm.cons b ih).trans (List.Perm.swap a b l)

theorem sortBy_perm (key : α → Int) (l : List α) : (sortBy key l).Perm l := by
  induction l with
  | nil => exact List.Perm.refl _
  | cons a l ih =>
    unfold sortBy
    exact (insertBy_perm key a _).trans (List.Perm.cons a ih)

theorem insertBy_sorted (key : α → Int) (a : α) (l : List α) (h : SortedBy key l) :
    SortedBy key (insertBy key a l) := by
  induction l with
  | nil => exact List.pairwise_singleton _ _
  | cons b l ih =>
    obtain ⟨hb, hl⟩ := List.pairwise_cons.mp h
    unfold insertBy
    split
    · rename_i hab
      exact List.pairwise_cons.mpr
        ⟨List.forall_mem_cons.mpr ⟨hab, fun c hc => Int.le_trans hab (hb c hc)⟩, h⟩
    · rename_i hab
      refine List.pairwise_cons.mpr ⟨fun c hc => ?_, ih hl⟩
      rcases List.mem_cons.mp ((insertBy_perm key a l).mem_iff.mp hc) with rfl | hc
      · omega
      · exact hb c hc

theorem sortBy_sorted (key : α → Int) (l : List α) : SortedBy key (sortBy key l) := by
  induction l with
  | nil => unfold sortBy SortedBy; exact List.Pairwise.nil
  | cons a l ih => unfold sortBy; exact insertBy_sorted key a _ ih

theorem sortBy_length (key : α → Int) (l : List α) : (sortBy key l).length = l.length :=
  (sortBy_perm key l).length_eq

/-- Two permutations of each other that are both sorted by `key` carry the same keys in the
    same positions: *any* correct sort produces the same key sequence. -/
theorem sorted_perm_keys_eq (key : α → Int) {l₁ l₂ : List α} (h₁ : SortedBy key l₁)
    (h₂ : SortedBy key l₂) (hp : l₁.Perm l₂) : l₁.map key = l₂.map key := by
  apply List.Perm.eq_of_pairwise (le := fun (a b : Int) => a ≤ b)
  · intro a b _ _ hab hba; omega
  · exact List.pairwise_map.mpr h₁
  · exact List.pairwise_map.mpr h₂
  · exact hp.map key

/-- With an injective key the sorted permutation itself is unique. -/
theorem sorted_perm_unique (key : α → Int) (hinj : ∀ a b, key a = key b → a = b)
    {l₁ l₂ : List α} (h₁ : SortedBy key l₁) (h₂ : SortedBy key l₂) (hp : l₁.Perm l₂) :
    l₁ = l₂ :=
  (List.map_inj_right hinj).mp (sorted_perm_keys_eq key h₁ h₂ hp)

theorem insertBy_map (g : β → α) (key : α → Int) (b : β) (l : List β) :
    (insertBy (fun x => key (g x)) b l).map g = insertBy key (g b) (l.map g) := by
  induction l with
  | nil => rfl
  | cons c l ih =>
    simp only [insertBy, List.map_cons]
    split
    · rfl
    · rw [List.map_cons, ih]

/-- Sorting commutes with a map that the key factors through. -/
theorem sortBy_map (g : β → α) (key : α → Int) (l : List β) :
    (sortBy (fun x => key (g x)) l).map g = sortBy key (l.map g) := by
  induction l with
  | nil => rfl
  | cons c l ih =>
    simp only [sortBy, List.map_cons]
    rw [insertBy_map, ih]

/-- In a list sorted by `key`, a later position carries a key at least as large. -/
theorem sorted_le (key : α → Int) {l : List α} (h : SortedBy key l) {i j : Nat} (hij : i ≤ j)
    (hj : j < l.length) : key (l[i]'(by omega)) ≤ key l[j] := by
  rcases Nat.lt_or_eq_of_le hij with hlt | heq
  · exact (List.pairwise_iff_getElem.mp h) i j (by omega) hj hlt
  · subst heq; exact Int.le_refl _

/-- Pigeonhole: among any `k+1` consecutive positions of a list with at most `k` elements
    marked bad, one is not marked. -/
theorem exists_good_in_range (bad : α → Bool) (l : List α) (s k : Nat) (hlen : s + k < l.length)
    (hbad : l.countP bad ≤ k) :
    ∃ i, s ≤ i ∧ i ≤ s + k ∧ ∃ h : i < l.length, bad l[i] = false := by
  let w := (l.drop s).take (k+1)
  have hwlen : w.length = k + 1 := by simp [w]; omega
  have hsub : w.Sublist l := (List.take_sublist _ _).trans (List.drop_sublist _ _)
  have hne : w.countP bad ≠ w.length := by have := hsub.countP_le (p := bad); omega
  rw [Ne, List.countP_eq_length] at hne
  obtain ⟨a, ha, hna⟩ : ∃ a ∈ w, bad a = false := by simpa using hne
  obtain ⟨n, hn, hget⟩ := List.getElem_of_mem ha
  refine ⟨s + n, by omega, by omega, by omega, ?_⟩
  have hw : w[n] = l[s + n]'(by omega) := by simp [w]
  rw [← hw, hget, hna]

/-- The selection lemma behind the fault-tolerant midpoint: in a list of more than `3f`
    elements sorted by `key`, at most `f` of them marked bad, the elements at positions `f`
    and `n-1-f` both have keys between any lower and upper bound of the unmarked keys, and
    are ordered. -/
theorem sel_between (key : α → Int) (bad : α → Bool) (l : List α) (hs : SortedBy key l)
    (f : Nat) (hf : 3 * f < l.length) (hbad : l.countP bad ≤ f) (lo hi : Int)
    (hlo : ∀ e ∈ l, bad e = false → lo ≤ key e) (hhi : ∀ e ∈ l, bad e = false → key e ≤ hi) :
    lo ≤ key (l[f]'(by omega)) ∧
    key (l[f]'(by omega)) ≤ key (l[l.length - 1 - f]'(by omega)) ∧
    key (l[l.length - 1 - f]'(by omega)) ≤ hi := by
  obtain ⟨i, _, hi1, hil, hgi⟩ := exists_good_in_range bad l 0 f (by omega) hbad
  obtain ⟨j, hj0, _, hjl, hgj⟩ := exists_good_in_range bad l (l.length - 1 - f) f (by omega) hbad
  exact ⟨Int.le_trans (hlo _ (List.getElem_mem hil) hgi) (sorted_le key hs (by omega) (by omega)),
    sorted_le key hs (by omega) (by omega),
    Int.le_trans (sorted_le key hs hj0 hjl) (hhi _ (List.getElem_mem hjl) hgj)⟩

/-- Truncating division by two, in the linear form `omega` can use. -/
theorem tdiv_two (d : Int) : d - 1 ≤ 2 * d.tdiv 2 ∧ 2 * d.tdiv 2 ≤ d + 1 := by
  have := Int.mul_tdiv_add_tmod d 2
  have := Int.tmod_lt_of_pos d (show (0 : Int) < 2 by decide)
  have := Int.lt_tmod_of_pos d (show (0 : Int) < 2 by decide)
  omega

/-- `Midpoint` over int64 equals the unbounded expression when `y - x` does not overflow;
    in particular for `|x|, |y| < 2^62`. -/
theorem midpoint_toInt (x y : Int64) (hx : -4611686018427387904 < x.toInt)
    (hx' : x.toInt < 4611686018427387904) (hy : -4611686018427387904 < y.toInt)
    (hy' : y.toInt < 4611686018427387904) :
    (midpoint x y).toInt = midZ x.toInt y.toInt := by
  unfold midpoint midZ
  have h2 : (2 : Int64).toInt = 2 := by decide
  have := tdiv_two (y.toInt - x.toInt)
  rw [Int64.toInt_add, Int64.toInt_div, Int64.toInt_sub, h2,
    Int.bmod_eq_of_le (n := y.toInt - x.toInt) (by omega) (by omega),
    Int.bmod_eq_of_le (n := (y.toInt - x.toInt).tdiv 2) (by omega) (by omega),
    Int.bmod_eq_of_le (by omega) (by omega)]

/-- The unbounded midpoint of `x ≤ y` lies between them. -/
theorem midZ_between (x y : Int) (h : x ≤ y) : x ≤ midZ x y ∧ midZ x y ≤ y := by
  unfold midZ
  have := tdiv_two (y - x)
  omega

/-- Two ordered int64 values inside `(-2^62, 2^62)`: the int64 midpoint lies between them. -/
theorem midpoint_between (x y : Int64) (lo hi : Int) (hlo : lo ≤ x.toInt) (hxy : x.toInt ≤ y.toInt)
    (hhi : y.toInt ≤ hi) (hx : -4611686018427387904 < x.toInt) (hy : y.toInt < 4611686018427387904) :
    lo ≤ (midpoint x y).toInt ∧ (midpoint x y).toInt ≤ hi := by
  have hb := midZ_between x.toInt y.toInt hxy
  rw [midpoint_toInt x y hx (by omega) (by omega) hy]
  omega

/-- Any sorted permutation of a slice of int64 is the one the insertion sort produces. -/
theorem sort64_unique {ds post : List Int64} (hp : post.Perm ds) (hs : SortedBy Int64.toInt post) :
    post = sort64 ds :=
  sorted_perm_unique Int64.toInt (fun _ _ => Int64.toInt_inj.mp) hs (sortBy_sorted _ _)
    (hp.trans (sortBy_perm _ _).symm)

theorem sort64_perm_eq {ds₁ ds₂ : List Int64} (hp : ds₁.Perm ds₂) : sort64 ds₁ = sort64 ds₂ :=
  sort64_unique ((sortBy_perm _ _).trans hp) (sortBy_sorted _ _)

theorem sort64_map_toInt (ds : List Int64) : (sort64 ds).map Int64.toInt = sortZ (ds.map Int64.toInt) :=
  sortBy_map Int64.toInt id ds

theorem getD_of_lt (l : List α) (i : Nat) (d : α) (h : i < l.length) : l.getD i d = l[i] := by
  simp [List.getD, h]

theorem getD_forall {p : α → Prop} {l : List α} {d : α} (h : ∀ v ∈ l, p v) (hd : p d) (i : Nat) :
    p (l.getD i d) := by
  by_cases hi : i < l.length
  · rw [getD_of_lt _ _ _ hi]; exact h _ (List.getElem_mem hi)
  · rw [List.getD_eq_getElem?_getD, List.getElem?_eq_none (by omega)]; exact hd

theorem sort64_getD_forall {p : Int64 → Prop} {ds : List Int64} (h : ∀ v ∈ ds, p v) (hd : p 0) (i : Nat) :
    p ((sort64 ds).getD i 0) :=
  getD_forall (fun v hv => h v ((sortBy_perm _ _).mem_iff.mp hv)) hd i

theorem getD_map (g : α → β) (l : List α) (i : Nat) (d : α) :
    (l.map g).getD i (g d) = g (l.getD i d) := by
  rw [List.getD_eq_getElem?_getD, List.getD_eq_getElem?_getD, List.getElem?_map, Option.getD_map]

theorem getD_map_toInt (s : List Int64) (i : Nat) : (s.map Int64.toInt).getD i 0 = (s.getD i 0).toInt :=
  getD_map Int64.toInt s i 0

theorem ftm_of_ne_nil {ds : List Int64} (h : ds ≠ []) :
    ftm ds = some (ftmSorted (sort64 ds), sort64 ds) := by
  unfold ftm; rw [if_neg (mt List.isEmpty_iff.mp h)]

theorem median_of_ne_nil {ds : List Int64} (h : ds ≠ []) :
    median ds = some (medianSorted (sort64 ds), sort64 ds) := by
  unfold median; rw [if_neg (mt List.isEmpty_iff.mp h)]

theorem ftmSorted_eq (s : List Int64) (h : 0 < s.length) :
    ftmSorted s = midpoint (s[(s.length - 1) / 3]'(by omega))
      (s[s.length - 1 - (s.length - 1) / 3]'(by omega)) := by
  unfold ftmSorted
  simp only [getD_of_lt _ _ _ (show (s.length - 1) / 3 < s.length by omega),
    getD_of_lt _ _ _ (show s.length - 1 - (s.length - 1) / 3 < s.length by omega)]

/-- Containment over any carrier: `val` reads an element's offset, `bad` its fault tag. -/
theorem ftmSorted_between_good (val : α → Int64) (bad : α → Bool) (l : List α) (hn : l ≠ [])
    (hbad : l.countP bad ≤ (l.length - 1) / 3)
    (hsmall : ∀ e ∈ l, bad e = false →
      -4611686018427387904 < (val e).toInt ∧ (val e).toInt < 4611686018427387904)
    (lo hi : Int) (hlo : ∀ e ∈ l, bad e = false → lo ≤ (val e).toInt)
    (hhi : ∀ e ∈ l, bad e = false → (val e).toInt ≤ hi) :
    max lo (-4611686018427387903) ≤ (ftmSorted (sort64 (l.map val))).toInt ∧
    (ftmSorted (sort64 (l.map val))).toInt ≤ min hi 4611686018427387903 := by
  -- sort the carrier itself: its offsets are the sorted offsets, and it keeps the tags
  let tl := sortBy (fun e => (val e).toInt) l
  have htl : tl.map val = sort64 (l.map val) := sortBy_map val Int64.toInt l
  have hpl : tl.Perm l := sortBy_perm _ _
  have hlen : tl.length = l.length := hpl.length_eq
  have hpos : 0 < l.length := List.length_pos_iff.mpr hn
  have hsel := sel_between (fun e => (val e).toInt) bad tl (sortBy_sorted _ _)
    ((tl.length - 1) / 3) (by omega) (by rw [hpl.countP_eq, hlen]; exact hbad)
    (max lo (-4611686018427387903)) (min hi 4611686018427387903)
    (fun e he hg => by
      have hm := hpl.mem_iff.mp he
      have := hlo e hm hg; have := (hsmall e hm hg).1; omega)
    (fun e he hg => by
      have hm := hpl.mem_iff.mp he
      have := hhi e hm hg; have := (hsmall e hm hg).2; omega)
  rw [← htl, ftmSorted_eq _ (by rw [List.length_map]; omega)]
  simp only [List.getElem_map, List.length_map]
  exact midpoint_between _ _ _ _ hsel.1 hsel.2.1 hsel.2.2 (by omega) (by omega)

end ScionTime.Timemath
