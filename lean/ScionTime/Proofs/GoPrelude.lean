/-
  Lemmas about the leaf translator's prelude (Model/GoPrelude.lean) and about the width
  conversions the translator emits: what they are over the integers. Core Lean only.
-/
import ScionTime.Model.GoPrelude
import ScionTime.Model.F64
import ScionTime.Proofs.Int64Arith
namespace ScionTime.GoLemmas
open ScionTime

export ScionTime.Int64Arith (toInt_add_of_fits toInt_sub_of_fits toInt_mul_of_fits)

/-- `uint64(x)` of an int64: the residue modulo 2^64. -/
theorem toNat_toUInt64 (x : Int64) : (x.toUInt64.toNat : Int) = x.toInt % 2 ^ 64 := by
  have h1 : x.toUInt64.toNat = x.toBitVec.toNat := rfl
  have h2 : x.toInt = x.toBitVec.toInt := rfl
  rw [h1, h2, BitVec.toInt_eq_toNat_cond]
  have := x.toBitVec.isLt
  split <;> omega

/-- `uint32(x)` of an int64: the residue modulo 2^32. -/
theorem toNat_narrow32 (x : Int64) : ((x.toUInt64.toUInt32).toNat : Int) = x.toInt % 2 ^ 32 := by
  have h : (x.toUInt64.toUInt32).toNat = x.toUInt64.toNat % 2 ^ 32 := by simp
  rw [h]
  have := toNat_toUInt64 x
  omega

/-- `int64(u)` of a uint32: the same number. -/
theorem toInt_widen32 (u : UInt32) : (u.toUInt64.toInt64).toInt = u.toNat := by
  have h2 : (u.toUInt64.toInt64).toInt = (u.toUInt64.toInt64).toBitVec.toInt := rfl
  have h3 : (u.toUInt64.toInt64).toBitVec.toNat = u.toNat := by simp
  rw [h2, BitVec.toInt_eq_toNat_cond, h3]
  have := u.toBitVec.isLt
  have : u.toNat = u.toBitVec.toNat := rfl
  split <;> omega

/-- the shape `a < b || c == d && e < f` the translator emits for a lexicographic uint32 compare -/
theorem u32_lt_or_eq_and_lt (a b c d e f : UInt32) :
    (decide (a < b) || c == d && decide (e < f)) =
      (decide ((a.toNat : Int) < b.toNat) || (c.toNat : Int) == d.toNat &&
        decide ((e.toNat : Int) < f.toNat)) := by
  simp only [UInt32.lt_iff_toNat_lt, Int.ofNat_lt]
  congr 2
  rw [Bool.eq_iff_iff]
  simp only [beq_iff_eq, Int.natCast_inj]
  exact UInt32.toNat_inj.symm

/-- `x >> 32` on int64 is floor division by 2^32. -/
theorem toInt_shr64_32 (x : Int64) : (Go.shr64 x 32).toInt = x.toInt / 4294967296 :=
  Int64Arith.toInt_shiftRight x _ 32 (by decide)

/-- truncating division by a positive literal never wraps -/
theorem toInt_div_pos (a b : Int64) (hb : 1 ≤ b.toInt) : (a / b).toInt = a.toInt.tdiv b.toInt :=
  Int64.toInt_div_of_ne_right a b fun h => by rw [h] at hb; exact absurd hb (by decide)

theorem toInt_add_eq {a b : Int64} {x y : Int} (ha : a.toInt = x) (hb : b.toInt = y)
    (h : -9223372036854775808 ≤ x + y ∧ x + y ≤ 9223372036854775807) : (a + b).toInt = x + y := by
  subst ha hb
  exact toInt_add_of_fits a b h.1 h.2

theorem toInt_sub_eq {a b : Int64} {x y : Int} (ha : a.toInt = x) (hb : b.toInt = y)
    (h : -9223372036854775808 ≤ x - y ∧ x - y ≤ 9223372036854775807) : (a - b).toInt = x - y := by
  subst ha hb
  exact toInt_sub_of_fits a b h.1 h.2

theorem toInt_mul_eq {a b : Int64} {x y : Int} (ha : a.toInt = x) (hb : b.toInt = y)
    (h : -9223372036854775808 ≤ x * y ∧ x * y ≤ 9223372036854775807) : (a * b).toInt = x * y := by
  subst ha hb
  exact toInt_mul_of_fits a b h.1 h.2

theorem toInt_div_eq {a b : Int64} {x y : Int} (ha : a.toInt = x) (hb : b.toInt = y)
    (h : 1 ≤ y) : (a / b).toInt = x.tdiv y := by
  subst ha hb
  exact toInt_div_pos a b h

theorem toInt_div_nonneg {a b : Int64} {x y : Int} (ha : a.toInt = x) (hb : b.toInt = y)
    (hx : 0 ≤ x) (hy : 1 ≤ y) : (a / b).toInt = x / y :=
  (toInt_div_eq ha hb hy).trans (Int.tdiv_eq_ediv_of_nonneg hx)

theorem shl64_32 (x : Int64) : Go.shl64 x 32 = x * 4294967296 := by
  unfold Go.shl64
  rw [← Int64.toBitVec_inj, Int64.toBitVec_shiftLeft, Int64.toBitVec_mul]
  have : (Int64.ofNat 32).toBitVec.smod 64 = 32#64 := by decide
  rw [this, BitVec.shiftLeft_eq', BitVec.shiftLeft_eq_mul_twoPow]
  rfl

/-- `x << 32` on int64 does not wrap for `|x| < 2^31`. -/
theorem toInt_shl64_32 (x : Int64) (h0 : -2147483648 ≤ x.toInt) (h1 : x.toInt < 2147483648) :
    (Go.shl64 x 32).toInt = x.toInt * 4294967296 := by
  have h : (4294967296 : Int64).toInt = 4294967296 := by decide
  rw [shl64_32, toInt_mul_eq rfl h (by omega)]

/-- the remainder of truncating division by the era length 2^32 -/
theorem tdiv_era_bounds (a : Int) :
    -4294967296 < a - a.tdiv 4294967296 * 4294967296 ∧ a - a.tdiv 4294967296 * 4294967296 < 4294967296 := by
  have := Int.mul_tdiv_add_tmod a 4294967296
  have := Int.lt_tmod_of_pos a (b := 4294967296) (by decide)
  have := Int.tmod_lt_of_pos a (b := 4294967296) (by decide)
  omega

theorem ite3_toInt (A B C P M : Int64) :
    (if decide (A < B) = true then P else if decide (A ≥ C) = true then M else A).toInt =
      if A.toInt < B.toInt then P.toInt else if A.toInt ≥ C.toInt then M.toInt else A.toInt := by
  rw [apply_ite Int64.toInt, apply_ite Int64.toInt]
  simp only [decide_eq_true_eq, Int64.lt_iff_toInt_lt, ge_iff_le, Int64.le_iff_toInt_le]

theorem toInt64_range (x : F64.F64) : -9223372036854775808 ≤ F64.toInt64 x ∧ F64.toInt64 x ≤ 9223372036854775807 := by
  unfold F64.toInt64
  split
  · dsimp only
    split <;> omega
  · omega
  · omega

theorem ofInt_toInt64 (x : F64.F64) : (Int64.ofInt (F64.toInt64 x)).toInt = F64.toInt64 x :=
  have h := toInt64_range x
  Int64.toInt_ofInt_of_le (by omega) (by omega)

end ScionTime.GoLemmas
