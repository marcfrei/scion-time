/-
  Helper lemmas for C10 / C11 / C14Nts: explicit form of a packet that fits its buffer, and the
  decoder run over that explicit form; for arbitrary value lengths, the size of the encoder's
  output and when it runs over its buffer.
-/
import ScionTime.Proofs.NtsWalk
namespace ScionTime.Nts

/-- an extension field whose value needs no padding -/
def field (t : Nat) (v : Bytes) : Bytes := be16 t ++ be16 (4 + v.length) ++ v

def fields (t : Nat) : List Bytes → Bytes
  | [] => []
  | v :: vs => field t v ++ fields t vs

/-- total size of the fields of a list of values -/
def fieldsLen : List Bytes → Nat
  | [] => 0
  | v :: vs => 4 + v.length + fieldsLen vs

def Aligned (vs : List Bytes) : Prop := ∀ v ∈ vs, v.length % 4 = 0

@[simp] theorem be16_length (v : Nat) : (be16 v).length = 2 := rfl
@[simp] theorem field_length (t : Nat) (v : Bytes) : (field t v).length = 4 + v.length := by
  simp [field]; omega
@[simp] theorem fields_length (t : Nat) (vs : List Bytes) : (fields t vs).length = fieldsLen vs := by
  induction vs with
  | nil => rfl
  | cons v vs ih => simp [fields, fieldsLen, ih]
@[simp] theorem zeros_length (n : Nat) : (zeros n).length = n := by simp [zeros]

theorem pad4_aligned (n : Nat) (h : n % 4 = 0) : pad4 n = n := by unfold pad4; omega
theorem pad4_mod (n : Nat) : pad4 n % 4 = 0 := by unfold pad4; omega
theorem pad4_ge (n : Nat) : n ≤ pad4 n ∧ pad4 n < n + 4 := by unfold pad4; omega

theorem fieldsLen_uniform (L : Nat) (vs : List Bytes) (h : ∀ v ∈ vs, v.length = L) :
    fieldsLen vs = vs.length * (4 + L) := by
  induction vs with
  | nil => simp [fieldsLen]
  | cons v vs ih =>
    have := h v (by simp)
    simp only [fieldsLen, List.length_cons, ih (fun w hw => h w (by simp [hw])), this, Nat.succ_mul]
    omega

theorem fieldsLen_replicate (n : Nat) (v : Bytes) : fieldsLen (List.replicate n v) = n * (4 + v.length) := by
  rw [fieldsLen_uniform v.length _ fun w hw => congrArg _ (List.eq_of_mem_replicate hw), List.length_replicate]

theorem fieldsLen_aligned (vs : List Bytes) (ha : Aligned vs) : fieldsLen vs % 4 = 0 := by
  induction vs with
  | nil => rfl
  | cons c cs ih =>
    have h1 := ha c (by simp)
    have h2 := ih fun w hw => ha w (by simp [hw])
    simp only [fieldsLen]; omega

theorem putHdr_ok (cap : Nat) (out : Bytes) (t l : Nat) (h : out.length + 4 ≤ cap) :
    putHdr cap out t l = .ok (out ++ be16 t ++ be16 l) := by
  unfold putHdr; rw [if_neg (by omega)]

theorem putHdr_panic (cap : Nat) (out : Bytes) (t l : Nat) (h : cap < out.length + 4) :
    putHdr cap out t l = .panic .index := by
  unfold putHdr; rw [if_pos (by omega)]

theorem copyTrunc_fits (cap : Nat) (out src : Bytes) (h : out.length + src.length ≤ cap) :
    copyTrunc cap out src = out ++ src := by
  unfold copyTrunc; rw [List.take_of_length_le (by omega)]

theorem copyTrunc_length (cap : Nat) (out src : Bytes) (h : out.length ≤ cap) :
    (copyTrunc cap out src).length = min cap (out.length + src.length) := by
  simp only [copyTrunc, List.length_append, List.length_take]; omega

/-! Values and lists of values: exact bytes when every length is a multiple of 4 and all fits; for
arbitrary lengths the size of the output: a value is cut off silently at the end of the buffer
(`copy`), only a header that does not fit panics. -/

def paddedLen (vs : List Bytes) : Nat := (vs.map fun c => 4 + pad4 c.length).sum

@[simp] theorem paddedLen_cons (v : Bytes) (vs : List Bytes) :
    paddedLen (v :: vs) = 4 + pad4 v.length + paddedLen vs := rfl

theorem packValue_fits (cap t : Nat) (out v : Bytes) (ha : v.length % 4 = 0)
    (hfit : out.length + 4 + v.length ≤ cap) (h16 : v.length + 4 < 65536) :
    packValue cap t out v = .ok (out ++ field t v) := by
  have h2 : (4 + v.length % 65536) % 65536 = 4 + v.length := by omega
  simp only [packValue, pad4_aligned _ ha, putHdr_ok cap out t _ (by omega), h2, Res.bind_ok, Res.pure_eq,
    Nat.sub_self]
  rw [copyTrunc_fits cap _ v (by simp; omega), copyTrunc_fits cap _ (zeros 0) (by simp; omega)]
  simp [field, zeros]

theorem packValue_length (cap t : Nat) (out v : Bytes) :
    (packValue cap t out v = .panic .index ∧ cap < out.length + 4) ∨
    ∃ out', packValue cap t out v = .ok out' ∧ out'.length = min cap (out.length + 4 + pad4 v.length) := by
  by_cases h : out.length + 4 ≤ cap
  · right
    have hp := pad4_ge v.length
    simp only [packValue, putHdr_ok cap out t _ h, Res.bind_ok, Res.pure_eq]
    refine ⟨_, rfl, ?_⟩
    generalize hq : out ++ be16 t ++ be16 _ = q
    have h1 : q.length = out.length + 4 := by rw [← hq]; simp only [List.length_append, be16_length]
    have h2 := copyTrunc_length cap q v (by omega)
    rw [copyTrunc_length cap _ _ (by omega), h2, h1, zeros_length]
    omega
  · left
    exact ⟨by simp only [packValue, putHdr_panic cap out t _ (by omega), Res.bind_panic], by omega⟩

theorem packValue_len (cap t : Nat) (out v : Bytes) (hfit : out.length + 4 + pad4 v.length ≤ cap) :
    ∃ out', packValue cap t out v = .ok out' ∧ out'.length = out.length + 4 + pad4 v.length := by
  rcases packValue_length cap t out v with ⟨_, h⟩ | ⟨o, e, l⟩
  · omega
  · exact ⟨o, e, by omega⟩

theorem packList_fits (cap t : Nat) (vs : List Bytes) (out : Bytes) (ha : Aligned vs)
    (hfit : out.length + fieldsLen vs ≤ cap) (h16 : cap < 65536) :
    packList cap t vs out = .ok (out ++ fields t vs) := by
  induction vs generalizing out with
  | nil => simp [packList, fields]
  | cons v vs ih =>
    have hv : v.length % 4 = 0 := ha v (by simp)
    have hvs : Aligned vs := fun w hw => ha w (by simp [hw])
    simp only [fieldsLen] at hfit
    rw [packList, packValue_fits cap t out v hv (by omega) (by omega)]
    simp only [Res.bind_ok]
    rw [ih (out ++ field t v) hvs (by simp; omega)]
    simp [fields, List.append_assoc]

theorem packList_length (cap t : Nat) (vs : List Bytes) (out : Bytes) (ho : out.length ≤ cap) :
    (packList cap t vs out = .panic .index ∧ cap < out.length + paddedLen vs) ∨
    ∃ out', packList cap t vs out = .ok out' ∧ out'.length = min cap (out.length + paddedLen vs) := by
  induction vs generalizing out with
  | nil => exact .inr ⟨out, rfl, by simp only [paddedLen, List.map_nil, List.sum_nil]; omega⟩
  | cons v vs ih =>
    rw [packList, paddedLen_cons]
    rcases packValue_length cap t out v with ⟨e, h⟩ | ⟨o, e, l⟩
    · exact .inl ⟨by rw [e]; rfl, by omega⟩
    · rw [e, Res.bind_ok]
      rcases ih o (by omega) with ⟨e', h'⟩ | ⟨o', e', l'⟩
      · exact .inl ⟨e', by omega⟩
      · exact .inr ⟨o', e', by omega⟩

theorem packList_len (cap t : Nat) (vs : List Bytes) (out : Bytes) (hfit : out.length + paddedLen vs ≤ cap) :
    ∃ out', packList cap t vs out = .ok out' ∧ out'.length = out.length + paddedLen vs := by
  rcases packList_length cap t vs out (by omega) with ⟨_, h⟩ | ⟨o, e, l⟩
  · omega
  · exact ⟨o, e, by omega⟩

/-- the authenticator field as written for a 16-byte nonce and an aligned ciphertext -/
def authField (nonce ct : Bytes) : Bytes :=
  be16 extAuthenticator ++ be16 (8 + 16 + ct.length) ++ be16 16 ++ be16 ct.length ++ nonce ++ ct

@[simp] theorem authField_length (nonce ct : Bytes) : (authField nonce ct).length = 8 + nonce.length + ct.length := by
  simp [authField]; omega

theorem packAuth_eq (A : AEAD) (cap : Nat) (out key pt nonce : Bytes) (hk : keyOk key = true) (hn : nonce.length = 16) :
    packAuth A cap out key pt nonce =
      let ct := A.sealF key nonce pt (some out)
      let cpad := (65536 - ct.length % 65536) % 65536 % 4
      putHdr cap out extAuthenticator ((24 + ct.length % 65536 + cpad) % 65536) >>= fun o =>
      putHdr cap o 16 (ct.length % 65536) >>= fun o =>
      .ok (copyTrunc cap (copyTrunc cap (copyTrunc cap o nonce) ct) (zeros cpad)) := by
  simp only [packAuth, hk, sealC, hn, Bool.not_true, Bool.false_eq_true, if_false, ne_eq, not_true_eq_false,
    Res.bind_ok, Res.pure_eq, Nat.reduceMod, Nat.reduceSub, Nat.reduceAdd, Nat.add_zero, zeros, List.replicate_zero,
    copyTrunc, List.take_nil, List.append_nil]

theorem packAuth_panic (A : AEAD) (cap : Nat) (out key pt nonce : Bytes) (hk : keyOk key = true) (hn : nonce.length = 16)
    (h : cap < out.length + 8) : packAuth A cap out key pt nonce = .panic .index := by
  rw [packAuth_eq A cap out key pt nonce hk hn]
  by_cases h4 : out.length + 4 ≤ cap
  · simp only [putHdr_ok cap out _ _ h4, Res.bind_ok]
    rw [putHdr_panic cap _ _ _ (by simp only [List.length_append, be16_length]; omega)]
    rfl
  · simp only [putHdr_panic cap out _ _ (by omega), Res.bind_panic]

/-- the bytes `Authenticator.pack` appends when they fit: the ciphertext is zero-padded to a
    multiple of 4 -/
theorem packAuth_bytes (A : AEAD) (hs : A.Sized) (cap : Nat) (out key pt nonce : Bytes)
    (hk : keyOk key = true) (hn : nonce.length = 16)
    (hfit : out.length + 24 + pad4 (pt.length + 16) ≤ cap) (h16 : cap < 65536) :
    ∃ ct, ct = A.sealF key nonce pt (some out) ∧ packAuth A cap out key pt nonce =
      .ok (out ++ be16 extAuthenticator ++ be16 (24 + pad4 ct.length) ++ be16 16 ++ be16 ct.length ++ nonce ++ ct ++
        zeros (pad4 ct.length - ct.length)) := by
  refine ⟨_, rfl, ?_⟩
  rw [packAuth_eq A cap out key pt nonce hk hn]
  have hct := hs key nonce pt (some out)
  generalize A.sealF key nonce pt (some out) = ct at hct ⊢
  rw [← hct] at hfit
  have hp := pad4_ge ct.length
  have e3 : ct.length % 65536 = ct.length := by omega
  have e4 : (65536 - ct.length) % 65536 % 4 = pad4 ct.length - ct.length := by unfold pad4; omega
  have e5 : (24 + ct.length + (pad4 ct.length - ct.length)) % 65536 = 24 + pad4 ct.length := by omega
  simp only [e3, e4, e5, putHdr_ok cap out _ _ (by omega : out.length + 4 ≤ cap), Res.bind_ok]
  clear e3 e4 e5 h16
  rw [putHdr_ok cap _ _ _ (by simp only [List.length_append, be16_length]; omega), Res.bind_ok,
    copyTrunc_fits cap _ nonce (by simp only [List.length_append, be16_length]; omega),
    copyTrunc_fits cap _ ct (by simp only [List.length_append, be16_length]; omega),
    copyTrunc_fits cap _ (zeros _) (by simp only [List.length_append, be16_length, zeros_length]; omega)]

theorem packAuth_fits (A : AEAD) (hs : A.Sized) (cap : Nat) (out key pt nonce : Bytes)
    (hk : keyOk key = true) (hn : nonce.length = 16) (hpt : pt.length % 4 = 0)
    (hfit : out.length + 40 + pt.length ≤ cap) (h16 : cap < 65536) :
    packAuth A cap out key pt nonce = .ok (out ++ authField nonce (A.sealF key nonce pt (some out))) := by
  obtain ⟨ct, rfl, h⟩ := packAuth_bytes A hs cap out key pt nonce hk hn (by rw [pad4_aligned _ (by omega)]; omega) h16
  rw [h, pad4_aligned _ (by rw [hs]; omega)]
  simp [authField, zeros]

theorem packAuth_len (A : AEAD) (hs : A.Sized) (cap : Nat) (out key pt nonce : Bytes)
    (hk : keyOk key = true) (hn : nonce.length = 16)
    (hfit : out.length + 24 + pad4 (pt.length + 16) ≤ cap) (h16 : cap < 65536) :
    ∃ out', packAuth A cap out key pt nonce = .ok out' ∧ out'.length = out.length + 24 + pad4 (pt.length + 16) := by
  obtain ⟨ct, hct, h⟩ := packAuth_bytes A hs cap out key pt nonce hk hn hfit h16
  refine ⟨_, h, ?_⟩
  have hp := pad4_ge ct.length
  have hl : ct.length = pt.length + 16 := by rw [hct, hs]
  simp only [List.length_append, be16_length, zeros_length, hn]
  rw [← hl]
  omega

/-- packets the project's encoder is given: identifier ≥ 32 bytes, all lengths multiples of 4
    (32-byte identifiers, 124-byte cookies, plaintext empty or whole cookie fields), usable key. -/
structure WellFormed (p : Packet) : Prop where
  uid32 : 32 ≤ p.uid.length
  uidA : p.uid.length % 4 = 0
  cA : Aligned p.cookies
  pA : Aligned p.placeholders
  ptA : p.pt.length % 4 = 0
  key : keyOk p.key = true

/-- size of the encoded packet -/
def packetLen (p : Packet) : Nat :=
  ntpPacketLen + (4 + p.uid.length) + fieldsLen p.cookies + fieldsLen p.placeholders + (40 + p.pt.length)

/-- everything in front of the authenticator: the associated data -/
def adOf (fixed : Bool) (hdr : Bytes) (p : Packet) : Bytes :=
  hdr ++ field extUniqueIdentifier p.uid ++ fields extCookie p.cookies ++ fields (phType fixed) p.placeholders

theorem adOf_length (fixed : Bool) (hdr : Bytes) (p : Packet) :
    (adOf fixed hdr p).length = hdr.length + (4 + p.uid.length) + fieldsLen p.cookies + fieldsLen p.placeholders := by
  simp [adOf]; omega

theorem encodePacketG_eq (fixed : Bool) (A : AEAD) (hdr : Bytes) (p : Packet) (nonce : Bytes)
    (hh : hdr.length = ntpPacketLen) (hu : 32 ≤ p.uid.length) :
    encodePacketG fixed A hdr p nonce = errToPanic (
      packValue maxPacketLen extUniqueIdentifier hdr p.uid >>= fun o =>
      packList maxPacketLen extCookie p.cookies o >>= fun o =>
      packList maxPacketLen (phType fixed) p.placeholders o >>= fun o =>
      packAuth A maxPacketLen o p.key p.pt nonce) := by
  rw [encodePacketG, if_neg (fun h => h hh), packUid, if_neg (by omega)]

theorem encode_eq (fixed : Bool) (A : AEAD) (hs : A.Sized) (hdr : Bytes) (p : Packet) (nonce : Bytes)
    (hh : hdr.length = ntpPacketLen) (wf : WellFormed p) (fit : packetLen p ≤ maxPacketLen)
    (hn : nonce.length = 16) :
    encodePacketG fixed A hdr p nonce =
      .ok (adOf fixed hdr p ++ authField nonce (A.sealF p.key nonce p.pt (some (adOf fixed hdr p)))) := by
  unfold packetLen ntpPacketLen at fit
  have hcap : maxPacketLen < 65536 := by decide
  have h48 : hdr.length = 48 := hh
  rw [encodePacketG_eq fixed A hdr p nonce hh wf.uid32,
    packValue_fits maxPacketLen extUniqueIdentifier hdr p.uid wf.uidA (by omega) (by omega), Res.bind_ok,
    packList_fits maxPacketLen extCookie p.cookies _ wf.cA (by simp; omega) (by omega), Res.bind_ok,
    packList_fits maxPacketLen (phType fixed) p.placeholders _ wf.pA (by simp; omega) (by omega), Res.bind_ok,
    packAuth_fits A hs maxPacketLen _ p.key p.pt nonce wf.key hn wf.ptA (by simp; omega) (by omega)]
  simp [errToPanic, adOf]

theorem copyN_prefix (v tail : Bytes) : copyN v.length (v ++ tail) = v := by
  simp [copyN, zeros]

theorem valueLen_add (n : Nat) (h : n + 4 < 65536) : valueLen (4 + n) = n := by
  unfold valueLen; omega

theorem field_cons (t : Nat) (v tail : Bytes) : field t v ++ tail =
    (t / 256 % 256) :: (t % 256) :: ((4 + v.length) / 256 % 256) :: ((4 + v.length) % 256) :: (v ++ tail) := by
  simp [field, be16]

theorem decLoop_field (chk : Bool) (total fuel t : Nat) (v tail : Bytes) (fu : Bool) (d : Decoded)
    (ht : t < 65536) (hna : t ≠ extAuthenticator) (hv : v.length + 4 < 65536)
    (hlen : 28 ≤ 4 + v.length + tail.length) :
    decLoop chk total (fuel + 1) (field t v ++ tail) fu d =
      decLoop chk total fuel tail (absorb t v (fu, d)).1 (absorb t v (fu, d)).2 := by
  rw [field_cons, decLoop_cons _ _ _ _ _ _ _ _ _ _ (by simp only [List.length_cons, List.length_append]; omega),
    u16_be16 t ht, u16_be16 (4 + v.length) (by omega),
    if_neg (fun h => absurd h.2 (by simp only [List.length_cons, List.length_append]; omega)), if_neg hna,
    if_neg (by omega), drop4, List.drop_left, valueLen_add v.length hv, copyN_prefix]

theorem fieldsLen_ge (vs : List Bytes) : 4 * vs.length ≤ fieldsLen vs := by
  induction vs with
  | nil => simp [fieldsLen]
  | cons v vs ih => simp [fieldsLen]; omega

theorem decLoop_fields (chk : Bool) (total t : Nat) (ht : t = extCookie ∨ t = extCookiePlaceholder) (vs : List Bytes)
    (tail : Bytes) (fuel : Nat) (fu : Bool) (d : Decoded)
    (hf : vs.length ≤ fuel) (hv : fieldsLen vs < 65536) (htail : 28 ≤ tail.length) :
    decLoop chk total fuel (fields t vs ++ tail) fu d =
      decLoop chk total (fuel - vs.length) tail fu
        (if t = extCookie then { d with cookies := d.cookies ++ vs } else { d with nph := d.nph + vs.length }) := by
  induction vs generalizing fuel d with
  | nil => rcases ht with rfl | rfl <;> simp [fields]
  | cons v vs ih =>
    simp only [fieldsLen] at hv
    simp only [List.length_cons] at hf
    obtain ⟨f', rfl⟩ : ∃ f', fuel = f' + 1 := ⟨fuel - 1, by omega⟩
    simp only [fields, List.append_assoc]
    have hfu : (absorb t v (fu, d)).1 = fu := by rcases ht with rfl | rfl <;> rfl
    rw [decLoop_field chk total f' t v (fields t vs ++ tail) fu d (by rcases ht with rfl | rfl <;> decide)
      (by rcases ht with rfl | rfl <;> decide) (by omega) (by simp; omega), hfu, ih f' _ (by omega) (by omega)]
    rcases ht with rfl | rfl <;>
      simp [absorb, extCookie, extCookiePlaceholder, extUniqueIdentifier, Nat.add_sub_add_right, Nat.add_assoc, Nat.add_comm 1]

theorem unpackAuth_bytes (nonce ct tail : Bytes) (hn : nonce.length < 65536) (hc : ct.length < 65536) :
    unpackAuth (be16 nonce.length ++ be16 ct.length ++ nonce ++ ct ++ tail) = .ok (nonce, ct) := by
  have e : be16 nonce.length ++ be16 ct.length ++ nonce ++ ct ++ tail =
      (nonce.length / 256 % 256) :: (nonce.length % 256) :: (ct.length / 256 % 256) :: (ct.length % 256) :: (nonce ++ (ct ++ tail)) := by
    simp [be16]
  rw [e, unpackAuth, u16_be16 _ hn, u16_be16 _ hc, copyN_prefix,
    Nat.min_eq_left (by simp only [List.length_append]; omega), List.drop_left, copyN_prefix]

theorem decLoop_auth (chk : Bool) (total fuel : Nat) (nonce ct : Bytes) (fu : Bool) (d : Decoded) (hf : 0 < fuel)
    (hn : nonce.length = 16) (hct : 4 ≤ ct.length) (hct' : ct.length + 24 < 65536) :
    decLoop chk total fuel (authField nonce ct) fu d =
      .ok (fu, true, { d with nonce := nonce, ct := ct, pos := total - (authField nonce ct).length }) := by
  obtain ⟨fuel, rfl⟩ := Nat.exists_eq_succ_of_ne_zero (Nat.ne_of_gt hf)
  have e : authField nonce ct =
      (extAuthenticator / 256 % 256) :: (extAuthenticator % 256) :: ((8 + 16 + ct.length) / 256 % 256) :: ((8 + 16 + ct.length) % 256)
        :: (be16 nonce.length ++ be16 ct.length ++ nonce ++ ct ++ []) := by
    simp [authField, be16, hn]
  have hl : (authField nonce ct).length = 24 + ct.length := by rw [authField_length, hn]
  rw [e] at hl ⊢
  rw [decLoop_cons _ _ _ _ _ _ _ _ _ _ (by omega), u16_be16 extAuthenticator (by decide),
    u16_be16 (8 + 16 + ct.length) (by omega), if_neg (fun h => absurd h.2 (by omega)), if_pos rfl, unpackAuth_bytes _ _ _ (by omega) (by omega)]
  rfl

theorem decode_explicit (hdr : Bytes) (p : Packet) (nonce ct : Bytes)
    (hh : hdr.length = ntpPacketLen) (hn : nonce.length = 16) (hct : 4 ≤ ct.length)
    (hfit : (adOf true hdr p).length + 24 + ct.length ≤ maxPacketLen) :
    decodePacketG true (adOf true hdr p ++ authField nonce ct) = .ok
      { uid := p.uid, cookies := p.cookies, nph := p.placeholders.length, nonce := nonce, ct := ct,
        pos := (adOf true hdr p).length } := by
  have hA : (authField nonce ct).length = 24 + ct.length := by rw [authField_length, hn]
  have hdrop : (adOf true hdr p ++ authField nonce ct).drop ntpPacketLen =
      field extUniqueIdentifier p.uid ++ (fields extCookie p.cookies ++ (fields extCookiePlaceholder p.placeholders ++ authField nonce ct)) := by
    simp only [adOf, phType, if_true, List.append_assoc]
    exact List.drop_left' hh
  have g1 := fieldsLen_ge p.cookies
  have g2 := fieldsLen_ge p.placeholders
  have hpos := adOf_length true hdr p
  unfold maxPacketLen at hfit
  unfold decodePacketG
  rw [hdrop, List.length_append, hA]
  generalize (adOf true hdr p).length = pos at hpos hfit ⊢
  rw [decLoop_field true _ _ extUniqueIdentifier p.uid _ false {} (by decide) (by decide) (by omega)
      (by simp only [List.length_append, fields_length, hA]; omega),
    show absorb extUniqueIdentifier p.uid (false, {}) = (true, { uid := p.uid }) from rfl,
    decLoop_fields true _ _ (.inl rfl) p.cookies _ _ _ _ (by omega) (by omega)
      (by simp only [List.length_append, fields_length, hA]; omega), if_pos rfl,
    decLoop_fields true _ _ (.inr rfl) p.placeholders _ _ _ _ (by omega) (by omega) (by omega), if_neg (by decide),
    decLoop_auth true _ _ nonce ct true _ (by omega) hn hct (by omega), hA, Nat.add_sub_cancel]
  simp only [Bool.not_true, Bool.false_eq_true, if_false, List.nil_append, Nat.zero_add]

theorem encode_decode (A : AEAD) (hs : A.Sized) (hdr : Bytes) (p : Packet) (nonce : Bytes)
    (hh : hdr.length = ntpPacketLen) (wf : WellFormed p) (fit : packetLen p ≤ maxPacketLen)
    (hn : nonce.length = 16) :
    ∃ b, encodePacket A hdr p nonce = .ok b ∧
      b = adOf true hdr p ++ authField nonce (A.sealF p.key nonce p.pt (some (adOf true hdr p))) ∧
      b.length = packetLen p ∧ decodePacket b = .ok
        { uid := p.uid, cookies := p.cookies, nph := p.placeholders.length, nonce := nonce,
          ct := A.sealF p.key nonce p.pt (some (adOf true hdr p)), pos := (adOf true hdr p).length } := by
  have hct := hs p.key nonce p.pt (some (adOf true hdr p))
  refine ⟨_, encode_eq true A hs hdr p nonce hh wf fit hn, rfl, ?_, ?_⟩
  · rw [List.length_append, authField_length, adOf_length, hct, hn]; unfold packetLen; omega
  exact decode_explicit hdr p nonce _ hh hn (by omega)
    (by rw [adOf_length, hh, hct]; unfold packetLen at fit; omega)

theorem ptLoop_field (chk : Bool) (fuel : Nat) (v tail : Bytes) (cs : List Bytes)
    (hv : v.length + 4 < 65536) (hlen : 28 ≤ 4 + v.length + tail.length) :
    ptLoop chk (fuel + 1) (field extCookie v ++ tail) cs = ptLoop chk fuel tail (cs ++ [v]) := by
  rw [field_cons, ptLoop_cons _ _ _ _ _ _ _ _ (by simp only [List.length_cons, List.length_append]; omega),
    u16_be16 extCookie (by decide), u16_be16 (4 + v.length) (by omega),
    if_neg (fun h => absurd h.2 (by simp only [List.length_cons, List.length_append]; omega)),
    if_neg (by omega), drop4, List.drop_left, if_pos rfl, valueLen_add v.length hv, copyN_prefix]

/-- cookies long enough to be walked by `authenticate` (a field must span 28 bytes) -/
def Long (vs : List Bytes) : Prop := ∀ v ∈ vs, 24 ≤ v.length

theorem ptLoop_cookies (chk : Bool) (vs : List Bytes) (fuel : Nat) (cs : List Bytes)
    (hf : vs.length < fuel) (hv : fieldsLen vs < 65536) (hl : Long vs) :
    ptLoop chk fuel (fields extCookie vs) cs = .ok (cs ++ vs) := by
  induction vs generalizing fuel cs with
  | nil =>
    obtain ⟨f', rfl⟩ : ∃ f', fuel = f' + 1 := ⟨fuel - 1, by simp at hf; omega⟩
    simp [fields, ptLoop]
  | cons v vs ih =>
    simp only [fieldsLen] at hv
    simp only [List.length_cons] at hf
    have hv24 : 24 ≤ v.length := hl v (by simp)
    obtain ⟨f', rfl⟩ : ∃ f', fuel = f' + 1 := ⟨fuel - 1, by omega⟩
    have := ptLoop_field chk f' v (fields extCookie vs) cs (by omega) (by omega)
    simp only [fields]
    rw [this, ih f' (cs ++ [v]) (by omega) (by omega) (fun w hw => hl w (by simp [hw]))]
    simp [List.append_assoc]

/-- `encodedLen` of a packet's value sizes, the ciphertext being the plaintext and a 16-byte tag -/
def Packet.encodedLen (p : Packet) : Nat :=
  Nts.encodedLen p.uid.length ((p.cookies ++ p.placeholders).map List.length) (p.pt.length + 16)

theorem Packet.encodedLen_eq (p : Packet) :
    p.encodedLen = ntpPacketLen + (4 + pad4 p.uid.length) + paddedLen p.cookies + paddedLen p.placeholders +
      (24 + pad4 (p.pt.length + 16)) := by
  have hp (vs : List Bytes) : paddedLen vs = ((vs.map List.length).map fun c => 4 + pad4 c).sum := by
    rw [List.map_map]; rfl
  rw [Packet.encodedLen, Nts.encodedLen, List.map_append, List.map_append, List.sum_append, hp, hp]
  omega

/-- `EncodePacket` succeeds without truncation whenever the padded sizes fit, for any value lengths. -/
theorem encode_len (fixed : Bool) (A : AEAD) (hs : A.Sized) (hdr : Bytes) (p : Packet) (nonce : Bytes)
    (hh : hdr.length = ntpPacketLen) (hu : 32 ≤ p.uid.length) (hk : keyOk p.key = true) (hn : nonce.length = 16)
    (fit : p.encodedLen ≤ maxPacketLen) :
    ∃ b, encodePacketG fixed A hdr p nonce = .ok b ∧ b.length = p.encodedLen := by
  rw [p.encodedLen_eq] at fit ⊢
  unfold ntpPacketLen at fit
  have hcap : maxPacketLen < 65536 := by decide
  have h48 : hdr.length = 48 := hh
  obtain ⟨o1, e1, l1⟩ := packValue_len maxPacketLen extUniqueIdentifier hdr p.uid (by omega)
  obtain ⟨o2, e2, l2⟩ := packList_len maxPacketLen extCookie p.cookies o1 (by omega)
  obtain ⟨o3, e3, l3⟩ := packList_len maxPacketLen (phType fixed) p.placeholders o2 (by omega)
  obtain ⟨o4, e4, l4⟩ := packAuth_len A hs maxPacketLen o3 p.key p.pt nonce hk hn (by omega) (by omega)
  refine ⟨o4, ?_, by unfold ntpPacketLen; omega⟩
  rw [encodePacketG_eq fixed A hdr p nonce hh hu, e1, Res.bind_ok, e2, Res.bind_ok, e3, Res.bind_ok, e4]
  rfl

/-- F6: when identifier, cookies and placeholders leave less than the 8 bytes of the authenticator's
    two headers, `EncodePacket` runs over its buffer (index out of range), whatever the values are:
    a value is cut off silently, the next header panics. -/
theorem encode_overflow (fixed : Bool) (A : AEAD) (hdr : Bytes) (p : Packet) (nonce : Bytes)
    (hh : hdr.length = ntpPacketLen) (hu : 32 ≤ p.uid.length) (hk : keyOk p.key = true) (hn : nonce.length = 16)
    (over : maxPacketLen < ntpPacketLen + (4 + pad4 p.uid.length) + paddedLen p.cookies + paddedLen p.placeholders + 8) :
    encodePacketG fixed A hdr p nonce = .panic .index := by
  unfold ntpPacketLen at over
  have h48 : hdr.length = 48 := hh
  rw [encodePacketG_eq fixed A hdr p nonce hh hu]
  rcases packValue_length maxPacketLen extUniqueIdentifier hdr p.uid with ⟨e1, _⟩ | ⟨o1, e1, l1⟩ <;> rw [e1]
  · rfl
  rw [Res.bind_ok]
  rcases packList_length maxPacketLen extCookie p.cookies o1 (by omega) with ⟨e2, _⟩ | ⟨o2, e2, l2⟩ <;> rw [e2]
  · rfl
  rw [Res.bind_ok]
  rcases packList_length maxPacketLen (phType fixed) p.placeholders o2 (by omega) with ⟨e3, _⟩ | ⟨o3, e3, l3⟩ <;> rw [e3]
  · rfl
  rw [Res.bind_ok, packAuth_panic A maxPacketLen o3 p.key p.pt nonce hk hn (by omega)]
  rfl

end ScionTime.Nts
