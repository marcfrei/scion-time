/-
  `handleRequest` and `updateTX` preserve the structural invariant `Inv0`.
-/
import ScionTime.Proofs.ServerInv
namespace ScionTime.Server
open ScionTime.Time64
variable {P : Entry → Prop}

theorem find_setQval (m : Map) (id : Nat) (v : T64) (k : Nat) :
    Map.find (setQval m id v) k =
      if id = k then (Map.find m k).map (fun it => { it with qval := v }) else Map.find m k := by
  unfold setQval; rw [Map.find_modify]

theorem find_setBuf (m : Map) (id : Nat) (g : List Entry → List Entry) (k : Nat) :
    Map.find (setBuf m id g) k =
      if id = k then (Map.find m k).map (fun it => { it with buf := g it.buf }) else Map.find m k := by
  unfold setBuf; rw [Map.find_modify]

theorem storeEntry_ok (icap id : Nat) (buf : List Entry) (q q' : T64)
    (ok : ItemOk P icap id buf q) (sc : Scan) (e : Entry)
    (hnc : ∀ x ∈ buf, x.rx ≠ e.rx) (hq : ∀ x ∈ buf, le64 x.rx q') (hq' : le64 e.rx q')
    (ho : e.owner = id) (hP : P e) : ItemOk P icap id (storeEntry icap buf sc e) q' := by
  have hnotin : e.rx ∉ buf.map (·.rx) := by
    intro hm
    obtain ⟨x, hx, hxe⟩ := List.mem_map.1 hm
    exact hnc x hx hxe
  have hold : ∀ x ∈ buf, le64 x.rx q' ∧ x.owner = id ∧ P x :=
    fun x hx => ⟨hq x hx, ok.owner x hx, ok.good x hx⟩
  have hset : ∀ i, ItemOk P icap id (buf.set i e) q' := fun i =>
    .of_forall (by rw [List.length_set]; exact ok.len_pos) (by rw [List.length_set]; exact ok.len_le)
      (by rw [List.map_set]; exact nodup_set_notin _ _ _ ok.distinct hnotin)
      (forall_mem_set i hold ⟨hq', ho, hP⟩)
  unfold storeEntry
  split
  · exact hset _
  · split
    · split
      · exact hset _
      · exact .of_forall ok.len_pos ok.len_le ok.distinct hold
    · rename_i hlen
      refine .of_forall (by simp) ?_ ?_ (forall_mem_concat hold ⟨hq', ho, hP⟩)
      · have := ok.len_le; simp only [List.length_append, List.length_cons, List.length_nil]; omega
      · rw [List.map_append, List.nodup_append]
        refine ⟨ok.distinct, by simp, ?_⟩
        intro a ha b hb
        simp at hb; subst hb
        intro e'; subst e'; exact hnotin ha

theorem same_setQval_self (m : Map) (id : Nat) (it : Item) (hit : m.find id = some it) :
    Same (setQval m id it.qval) m := by
  intro k
  rw [find_setQval]
  by_cases e : id = k
  · subst e; simp [hit, core]
  · simp [e]

theorem find_after_update (m m1 : Map) (id : Nat) (it : Item) (q' : T64)
    (g : List Entry → List Entry) (hit : m.find id = some it) (s1 : Same (setQval m id q') m1) :
    ∃ it1, (setBuf m1 id g).find id = some it1 ∧ it1.buf = g it.buf ∧ it1.qval = q' := by
  have hs := s1 id
  rw [find_setQval] at hs
  simp only [if_true, hit, Option.map_some, core] at hs
  cases hf1 : Map.find m1 id with
  | none => simp [hf1] at hs
  | some it1 =>
    simp only [hf1, Option.map_some, Option.some.injEq] at hs
    unfold core at hs
    simp only [Prod.mk.injEq] at hs
    refine ⟨{ it1 with buf := g it1.buf }, ?_, ?_, ?_⟩
    · rw [find_setBuf]; simp [hf1]
    · simp only; rw [← hs.1]
    · simp only; rw [← hs.2]

theorem itemsOk_update (icap : Nat) (m m1 : Map) (id : Nat) (it : Item) (q' : T64)
    (g : List Entry → List Entry)
    (ok : ∀ k it0, id ≠ k → m.find k = some it0 → ItemOk P icap k it0.buf it0.qval)
    (hit : m.find id = some it) (s1 : Same (setQval m id q') m1)
    (hnew : ItemOk P icap id (g it.buf) q') : ItemsOk P icap (setBuf m1 id g) := by
  intro k it2 hf
  by_cases e : id = k
  · subst e
    obtain ⟨it1, h1, h2, h3⟩ := find_after_update m m1 id it q' g hit s1
    rw [h1] at hf
    cases hf
    rw [h2, h3]
    exact hnew
  · rw [find_setBuf, if_neg e] at hf
    obtain ⟨it0, h1, h2, h3⟩ := same_find s1 hf
    rw [find_setQval, if_neg e] at h1
    rw [← h2, ← h3]; exact ok k it0 e h1

theorem itemsOk_erased {icap : Nat} {m m' : Map} {k0 : Nat} (ok : ItemsOk P icap m)
    (c : ∀ k, k ≠ k0 → (m'.find k).map core = (m.find k).map core) (d : m'.find k0 = none) :
    ItemsOk P icap m' := by
  intro k it' hf
  have hk : k ≠ k0 := by intro e; rw [e, d] at hf; cases hf
  have := c k hk
  rw [hf] at this
  cases hf0 : Map.find m k with
  | none => simp [hf0] at this
  | some it0 =>
    simp only [hf0, Option.map_some, core, Option.some.injEq, Prod.mk.injEq] at this
    rw [this.1, this.2]; exact ok k it0 hf0

theorem evict_keeps (cap : Nat) (hcap : 1 ≤ cap) (st : State) (h : WF st) (rxt64 : T64) (id : Nat)
    (hnone : st.items.find id = none) :
    WF (evict cap st rxt64).1 ∧ (evict cap st rxt64).1.items.find id = none ∧
      (evict cap st rxt64).1.items.length ≤ st.items.length ∧
      ∀ icap, ItemsOk P icap st.items → ItemsOk P icap (evict cap st rxt64).1.items := by
  unfold evict
  split
  · rename_i hc
    simp only [Bool.and_eq_true, decide_eq_true_eq] at hc
    have hpos : 0 < st.heap.size := by have := h.len; omega
    obtain ⟨a, b, c, d⟩ := popMin_spec st h hpos
    refine ⟨a, ?_, by simp only; omega, fun _ ok => itemsOk_erased ok c d⟩
    simp only
    by_cases e : id = (popMin st).2
    · rw [e]; exact d
    · have := c id e
      rw [hnone] at this
      cases hf : Map.find (popMin st).1.items id <;> simp [hf] at this ⊢
  · exact ⟨h, hnone, Nat.le_refl _, fun _ ok => ok⟩

/-- `st1` is `st` with the heap key of client `id` set to `q'` and the heap order restored -/
structure Refixed (st : State) (id : Nat) (q' : T64) (st1 : State) : Prop where
  wf : WF st1
  len : st1.items.length = st.items.length
  size : st1.heap.size = st.heap.size
  same : Same (setQval st.items id q') st1.items

theorem Refixed.refl {st : State} (h : WF st) {id : Nat} {it : Item} (hit : st.items.find id = some it) :
    Refixed st id it.qval st :=
  ⟨h, rfl, rfl, same_setQval_self _ _ _ hit⟩

theorem Refixed.fixQval {st : State} (h : WF st) {id : Nat} {it : Item} (hit : st.items.find id = some it)
    (v : T64) : Refixed st id v (fixQval st id v it.qidx) :=
  have ⟨a, b, c, d⟩ := fixQval_spec st h id it hit v
  ⟨a, c, b, d⟩

theorem Refixed.inv0 {cap icap : Nat} {st st1 : State} {id : Nat} {it : Item} {q' : T64}
    (fx : Refixed st id q' st1) (inv : Inv0 P cap icap st) (hit : st.items.find id = some it)
    (g : List Entry → List Entry) (hnew : ItemOk P icap id (g it.buf) q') :
    Inv0 P cap icap { st1 with items := setBuf st1.items id g } :=
  ⟨wf_modify st1 fx.wf id _ (fun _ => rfl),
   by simp only [setBuf, Map.length_modify, fx.len]; exact inv.size,
   itemsOk_update icap st.items st1.items id it q' g (fun k it0 _ => inv.items k it0) hit fx.same hnew⟩

/-- the `heap.Fix` step of `handleRequest` (existing client) -/
theorem hr_fix_spec (st : State) (h : WF st) (id : Nat) (it : Item) (hit : st.items.find id = some it)
    (mx : Option (Nat × T64)) (rxt64 : T64) :
    ∃ q', Refixed st id q' (hrFix st id it.qidx mx rxt64) ∧
      ((q' = it.qval ∧ hrFix st id it.qidx mx rxt64 = st ∧ ∀ i v, mx = some (i, v) → after rxt64 v = false) ∨
       (q' = rxt64 ∧ hrFix st id it.qidx mx rxt64 = fixQval st id rxt64 it.qidx ∧
          ∃ i v, mx = some (i, v) ∧ after rxt64 v = true)) := by
  unfold hrFix
  cases mx with
  | none => exact ⟨it.qval, .refl h hit, Or.inl ⟨rfl, rfl, by intro i v e; cases e⟩⟩
  | some p =>
    obtain ⟨i, v⟩ := p
    simp only
    by_cases ha : after rxt64 v = true
    · simp only [ha, if_true]
      exact ⟨rxt64, .fixQval h hit rxt64, Or.inr ⟨rfl, trivial, i, v, rfl, ha⟩⟩
    · simp only [ha]
      refine ⟨it.qval, .refl h hit, Or.inl ⟨rfl, rfl, ?_⟩⟩
      intro i' v' e; cases e; simpa using ha

theorem push_fresh (st : State) (h : WF st) (id : Nat) (it : Item) (hnone : st.items.find id = none) :
    Map.find ((id, it) :: st.items) id = some it ∧
    Same (setQval ((id, it) :: st.items) id it.qval) (push { st with items := (id, it) :: st.items } id).items :=
  have hid : Map.find ((id, it) :: st.items) id = some it := by rw [Map.find_cons, if_pos rfl]
  ⟨hid, (same_setQval_self _ _ _ hid).trans (push_spec st h id it hnone).2.2⟩

/-- the software transmit time `handleRequest` starts from -/
def txt0 (strict : Bool) (rxt now : Int) : Int := if strict && !(rxt < now) then rxt + 1 else now

theorem txt0_spec (strict : Bool) (rxt now : Int) :
    (strict = true ∨ rxt < now → rxt < txt0 strict rxt now) ∧
    (txt0 strict rxt now ≤ now ∨ txt0 strict rxt now = rxt + 1) := by
  unfold txt0
  cases strict <;> simp <;> (try split) <;> omega

theorem inv0_handleRequestG (strict : Bool) (cap icap : Nat) (hcap : 1 ≤ cap) (hic : 1 ≤ icap)
    (hic2 : icap < 1000000000) (st : State) (inv : Inv0 P cap icap st) (id : Nat) (req : Req)
    (rxt now : Int)
    (hP : ∀ a b : Int, rxt ≤ a → (strict = true → a < b) → (b ≤ now ∨ b ≤ a + 1) →
      P ⟨ofTime a, ofTime b, id⟩) :
    Inv0 P cap icap (handleRequestG strict cap icap st id req rxt now).st := by
  unfold handleRequestG
  simp only
  have htxt0 := txt0_spec strict rxt now
  unfold txt0 at htxt0
  generalize (if (strict && !decide (rxt < now)) = true then rxt + 1 else now) = txt0 at htxt0 ⊢
  split
  · -- existing client
    rename_i it hit
    have ok := inv.items id it hit
    have hnc := uniq_spec it.buf rxt txt0 (by have := ok.len_le; omega)
    have hmono := uniq_mono it.buf (it.buf.length + 1) rxt txt0
    generalize (uniq it.buf rxt txt0 (it.buf.length + 1)) = u at hnc hmono ⊢
    have hPe : P ⟨ofTime u.1, ofTime u.2, id⟩ := by
      apply hP u.1 u.2 hmono.1
      · intro hs; exact hmono.2.2.2.1 (htxt0.1 (.inl hs))
      · have := hmono.1
        have := hmono.2.2.2.2.2
        have := htxt0.2
        omega
    have sinv := scan_inv it.buf req.org
    generalize scan it.buf req.org = sc at sinv ⊢
    obtain ⟨q', fx, hq'⟩ := hr_fix_spec st inv.wf id it hit sc.mx (ofTime u.1)
    -- `q'` (the old `qval` or the new receive timestamp) bounds every kept rx and the new one
    have hbound : (∀ x ∈ it.buf, le64 x.rx q') ∧ le64 (ofTime u.1) q' := by
      rcases hq' with ⟨e, _, hf⟩ | ⟨e, _, i, v, hm, ha⟩
      · subst e
        refine ⟨ok.qval_ge, ?_⟩
        obtain ⟨i, v, hm, x, hx, hxe⟩ := sinv.mx_mem ok.len_pos
        have : le64 (ofTime u.1) v := by
          unfold le64; rw [← after_eq]; exact hf i v hm
        exact le64_trans this (hxe ▸ ok.qval_ge x hx)
      · subst e
        obtain ⟨_, h2⟩ := sinv.mx_some i v hm
        rw [after_eq] at ha
        have hv := le64_of_before ha
        exact ⟨fun x hx => le64_trans (h2 x hx) hv, le64_refl _⟩
    exact fx.inv0 inv hit _ (storeEntry_ok icap id it.buf it.qval q' ok sc _ hnc hbound.1 hbound.2 rfl hPe)
  · -- new client
    rename_i hnone
    have hPe : P ⟨ofTime rxt, ofTime txt0, id⟩ := by
      apply hP rxt txt0 (Int.le_refl _) fun hs => htxt0.1 (.inl hs)
      have := htxt0.2
      omega
    obtain ⟨w1, n1, l1, i1⟩ := evict_keeps (P := P) cap hcap st inv.wf (ofTime rxt) id hnone
    replace l1 := Nat.le_trans l1 inv.size
    replace i1 := i1 icap inv.items
    generalize evict cap st (ofTime rxt) = ev at w1 l1 n1 i1 ⊢
    split
    · exact ⟨w1, l1, i1⟩
    · rename_i hne
      obtain ⟨w2, l2, _⟩ := push_spec ev.1 w1 id { buf := [], qval := ofTime rxt, qidx := 0 } n1
      obtain ⟨hid, s2⟩ := push_fresh ev.1 w1 id { buf := [], qval := ofTime rxt, qidx := 0 } n1
      generalize (push { ev.1 with items := (id, { buf := [], qval := ofTime rxt, qidx := 0 }) :: ev.1.items } id) = st2 at w2 l2 s2 ⊢
      refine ⟨wf_modify st2 w2 id _ (fun _ => rfl), ?_, ?_⟩
      · simp only [setBuf, Map.length_modify, l2]; omega
      · refine itemsOk_update icap _ st2.items id _ (ofTime rxt)
          (fun b => b ++ [⟨ofTime rxt, ofTime txt0, id⟩]) ?_ hid s2 (.of_forall (by simp) (by simpa using hic) (by simp)
            (forall_mem_concat (fun _ h => nomatch h) ⟨le64_refl _, rfl, hPe⟩))
        intro k it0 e hf
        rw [Map.find_cons, if_neg e] at hf
        exact i1 k it0 hf

theorem set_eq_self_of_getElem? {α} : ∀ (l : List α) (i : Nat) (a : α), l[i]? = some a → l.set i a = l := by
  intro l
  induction l with
  | nil => intro i a h; simp at h
  | cons b l ih =>
    intro i a h
    cases i with
    | zero => simp at h; subst h; rfl
    | succ i => simp at h; simp [ih i a h]

theorem set_tx_ok (icap id : Nat) (buf : List Entry) (q : T64) (ok : ItemOk P icap id buf q)
    (x : Nat) (ex : Entry) (hx : buf[x]? = some ex) (t : T64) (hP : P { ex with tx := t }) :
    ItemOk P icap id (buf.set x { ex with tx := t }) q := by
  have hmem : ex ∈ buf := List.mem_of_getElem? hx
  refine .of_forall (by rw [List.length_set]; exact ok.len_pos)
    (by rw [List.length_set]; exact ok.len_le) ?_
    (forall_mem_set x (fun e he => ⟨ok.qval_ge e he, ok.owner e he, ok.good e he⟩)
      ⟨ok.qval_ge ex hmem, ok.owner ex hmem, hP⟩)
  rw [List.map_set, set_eq_self_of_getElem? _ _ _ (by simp [hx])]
  exact ok.distinct

theorem utx_fix_spec (st : State) (h : WF st) (id : Nat) (it : Item) (hit : st.items.find id = some it)
    (m0 m1 : Option (Nat × T64)) (rxt64 : T64) :
    ∃ q', Refixed st id q' (utxFix st id it.qidx m0 m1 rxt64) ∧
      ((q' = it.qval ∧ utxFix st id it.qidx m0 m1 rxt64 = st) ∨
       (∃ i0 i1, m0 = some (i0, rxt64) ∧ m1 = some (i1, q') ∧
          utxFix st id it.qidx m0 m1 rxt64 = fixQval st id q' it.qidx)) := by
  by_cases hfix : ∃ i0 i1 v1, m0 = some (i0, rxt64) ∧ m1 = some (i1, v1)
  · obtain ⟨i0, i1, v1, rfl, rfl⟩ := hfix
    have e : utxFix st id it.qidx (some (i0, rxt64)) (some (i1, v1)) rxt64 =
        fixQval st id v1 it.qidx := by simp [utxFix]
    rw [e]
    exact ⟨v1, .fixQval h hit v1, Or.inr ⟨i0, i1, rfl, rfl, rfl⟩⟩
  · have e : utxFix st id it.qidx m0 m1 rxt64 = st := by
      unfold utxFix
      split
      · rename_i i0 v0 i1 v1
        split
        · rename_i hv
          exact absurd ⟨i0, i1, v1, by rw [hv], rfl⟩ hfix
        · rfl
      · rfl
    rw [e]
    exact ⟨it.qval, .refl h hit, Or.inl ⟨rfl, rfl⟩⟩

theorem inv0_updateTX (cap icap : Nat) (st : State) (inv : Inv0 P cap icap st) (id : Nat)
    (rxt txt1 : Int)
    (hP : ∀ (e : Entry) (t : Int), P e → e.rx = ofTime rxt → rxt < t → (t = txt1 ∨ t = rxt + 1) →
      P { e with tx := ofTime t }) :
    Inv0 P cap icap (updateTX st id rxt txt1).1 := by
  unfold updateTX
  simp only
  generalize ht : (if ¬ rxt < txt1 then rxt + 1 else txt1) = txt
  have htxt : rxt < txt ∧ (txt = txt1 ∨ txt = rxt + 1) := by
    rw [← ht]
    split <;> omega
  split
  · exact inv
  · rename_i it hit
    have ok := inv.items id it hit
    have s2 := scan2_inv it.buf (ofTime rxt)
    generalize scan2 it.buf (ofTime rxt) = sc at s2 ⊢
    split
    · exact inv
    · rename_i x hx
      obtain ⟨hxl, hxrx, hxd⟩ := s2.found hx
      have hxe : it.buf[x]? = some (it.buf.getD x defaultEntry) := by
        rw [hxd]; exact List.getElem?_eq_getElem hxl
      split
      · -- the transmit time is replaced
        exact (Refixed.refl inv.wf hit).inv0 inv hit _ (set_tx_ok icap id it.buf it.qval ok x _ hxe _
          (hP _ txt (ok.good _ (List.mem_of_getElem? hxe)) (by rw [hxd]; exact hxrx) htxt.1 htxt.2))
      · split
        · -- the whole item is removed
          obtain ⟨a, b, c, d⟩ := remove_spec st inv.wf id it hit
          simp only
          exact ⟨a, by have := inv.size; omega, itemsOk_erased inv.items c d⟩
        · -- one exchange is removed
          rename_i hlen1
          obtain ⟨q', fx, hq'⟩ := utx_fix_spec st inv.wf id it hit sc.m0 sc.m1 (ofTime rxt)
          refine fx.inv0 inv hit (fun b => swapRemove b x) ?_
          show ItemOk P icap id (swapRemove it.buf x) q'
          have hlp := ok.len_pos
          refine .of_forall (by rw [length_swapRemove _ _ hxl]; omega)
            (by rw [length_swapRemove _ _ hxl]; have := ok.len_le; omega)
            (nodup_swapRemove _ _ hxl ok.distinct) fun e he => ?_
          obtain ⟨hm, hne⟩ := rx_ne_of_mem_swapRemove hxl ok.distinct he
          refine ⟨?_, ok.owner e hm, ok.good e hm⟩
          rcases hq' with ⟨c, _⟩ | ⟨i0, i1, c0, c1, _⟩
          · rw [c]; exact ok.qval_ge e hm
          · rcases s2.m1_some i0 _ i1 q' c0 c1 e hm with d | d
            · rw [hxrx] at hne; exact absurd d hne
            · exact d

end ScionTime.Server
