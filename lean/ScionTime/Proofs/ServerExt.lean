/-
  The order of the association list `State.items` is not observable: two states with the
  same heap array whose maps have distinct keys and agree on every lookup (and on the
  number of entries) are taken by every operation of the map and the heap to states related
  in the same way, with equal outputs. Props/C07Fill concludes the same for `handleRequest`,
  `updateTXTimestamp` and histories, and uses it for the closed form of the fill.
-/
import ScionTime.Proofs.ServerHeap
namespace ScionTime.Server
open ScionTime.Time64

structure MExt (m m' : Map) : Prop where
  find : ∀ k, m.find k = m'.find k
  len : m.length = m'.length
  nd : (Map.keys m).Nodup
  nd' : (Map.keys m').Nodup

structure SExt (st st' : State) : Prop where
  heap : st.heap = st'.heap
  items : MExt st.items st'.items

theorem MExt.refl (m : Map) (h : (Map.keys m).Nodup) : MExt m m := ⟨fun _ => rfl, rfl, h, h⟩
theorem SExt.refl (st : State) (h : (Map.keys st.items).Nodup) : SExt st st := ⟨rfl, MExt.refl _ h⟩

theorem MExt.modify {m m' : Map} (h : MExt m m') (k : Nat) (f : Item → Item) :
    MExt (m.modify k f) (m'.modify k f) where
  find k' := by rw [Map.find_modify, Map.find_modify, h.find]
  len := by rw [Map.length_modify, Map.length_modify, h.len]
  nd := by rw [Map.keys_modify]; exact h.nd
  nd' := by rw [Map.keys_modify]; exact h.nd'

theorem Map.erase_of_find_none (m : Map) (k : Nat) (h : m.find k = none) : m.erase k = m := by
  induction m with
  | nil => rfl
  | cons p m ih =>
    obtain ⟨k0, it⟩ := p
    by_cases h0 : k0 = k
    · rw [Map.find_cons, if_pos h0] at h
      cases h
    · rw [Map.find_cons, if_neg h0] at h
      unfold Map.erase
      rw [if_neg h0, ih h]

theorem MExt.erase {m m' : Map} (h : MExt m m') (k : Nat) : MExt (m.erase k) (m'.erase k) where
  find k' := by rw [Map.find_erase m h.nd, Map.find_erase m' h.nd', h.find]
  len := by
    cases hf : m.find k with
    | none =>
      rw [Map.erase_of_find_none m k hf, Map.erase_of_find_none m' k ((h.find k).symm.trans hf)]
      exact h.len
    | some it =>
      have h1 := Map.length_erase m k it hf
      have h2 := Map.length_erase m' k it ((h.find k).symm.trans hf)
      have := h.len
      omega
  nd := Map.nodup_erase m h.nd k
  nd' := Map.nodup_erase m' h.nd' k

theorem MExt.cons {m m' : Map} (h : MExt m m') (k : Nat) (it : Item) (hf : m.find k = none) :
    MExt ((k, it) :: m) ((k, it) :: m') where
  find k' := by rw [Map.find_cons, Map.find_cons, h.find]
  len := congrArg (· + 1) h.len
  nd := List.nodup_cons.2 ⟨(Map.find_none_iff m k).1 hf, h.nd⟩
  nd' := List.nodup_cons.2 ⟨(Map.find_none_iff m' k).1 ((h.find k).symm.trans hf), h.nd'⟩

theorem SExt.cons {st st' : State} (h : SExt st st') (k : Nat) (it : Item) (hf : st.items.find k = none) :
    SExt { st with items := (k, it) :: st.items } { st' with items := (k, it) :: st'.items } :=
  ⟨h.heap, h.items.cons k it hf⟩

theorem kv_ext {st st' : State} (h : SExt st st') (i : Nat) : kv st i = kv st' i := by
  unfold kv hkey qv; rw [h.heap, h.items.find]

theorem less_ext {st st' : State} (h : SExt st st') (i j : Nat) : less st i j = less st' i j := by
  unfold less; rw [kv_ext h, kv_ext h]

theorem swap_ext {st st' : State} (h : SExt st st') (i j : Nat) : SExt (swap st i j) (swap st' i j) := by
  unfold swap hkey
  rw [h.heap]
  exact ⟨rfl, (h.items.modify _ _).modify _ _⟩

theorem up_ext (f : Nat) {st st' : State} (h : SExt st st') (j : Nat) : SExt (up st j f) (up st' j f) := by
  induction f generalizing st st' j with
  | zero => exact h
  | succ f ih =>
    unfold up
    simp only [less_ext h]
    split
    · exact h
    · exact ih (swap_ext h _ _) _

theorem child_ext {st st' : State} (h : SExt st st') (i n : Nat) : child st i n = child st' i n := by
  unfold child; rw [less_ext h]

theorem down_ext (f : Nat) {st st' : State} (h : SExt st st') (i n : Nat) :
    SExt (down st i n f).1 (down st' i n f).1 ∧ (down st i n f).2 = (down st' i n f).2 := by
  induction f generalizing st st' i with
  | zero => exact ⟨h, rfl⟩
  | succ f ih =>
    unfold down
    simp only [child_ext h, less_ext h]
    split
    · exact ⟨h, rfl⟩
    · split
      · exact ⟨h, rfl⟩
      · exact ih (swap_ext h _ _) _

theorem fixn_ext {st st' : State} (h : SExt st st') (i n : Nat) :
    SExt (fixn st i n) (fixn st' i n) := by
  unfold fixn
  have hd := down_ext n h i n
  rw [hd.2]
  split
  · exact hd.1
  · exact up_ext _ hd.1 _

theorem fix_ext {st st' : State} (h : SExt st st') (i : Nat) : SExt (fix st i) (fix st' i) := by
  show SExt (fixn st i st.heap.size) (fixn st' i st'.heap.size)
  rw [h.heap]
  exact fixn_ext h i _

theorem fixQval_ext {st st' : State} (h : SExt st st') (id : Nat) (v : T64) (q : Nat) :
    SExt (fixQval st id v q) (fixQval st' id v q) := by
  unfold fixQval
  apply fix_ext
  exact ⟨h.heap, h.items.modify _ _⟩

theorem push_ext {st st' : State} (h : SExt st st') (k : Nat) : SExt (push st k) (push st' k) := by
  unfold push
  rw [h.heap]
  apply up_ext
  exact ⟨rfl, h.items.modify _ _⟩

theorem popMin_ext {st st' : State} (h : SExt st st') :
    SExt (popMin st).1 (popMin st').1 ∧ (popMin st).2 = (popMin st').2 := by
  unfold popMin hkey
  simp only [h.heap]
  have hd := down_ext (st'.heap.size - 1) (swap_ext h 0 (st'.heap.size - 1)) 0 (st'.heap.size - 1)
  simp only [hd.1.heap]
  exact ⟨⟨rfl, hd.1.items.erase _⟩, trivial⟩

theorem remove_ext {st st' : State} (h : SExt st st') (i key : Nat) :
    SExt (remove st i key) (remove st' i key) := by
  rw [remove_eq, remove_eq, h.heap]
  split
  · have hf := fixn_ext (swap_ext h i (st'.heap.size - 1)) i (st'.heap.size - 1)
    exact ⟨congrArg Array.pop hf.heap, hf.items.erase _⟩
  · exact ⟨congrArg Array.pop h.heap, h.items.erase _⟩

theorem hrFix_ext {st st' : State} (h : SExt st st') (id q : Nat) (mx : Option (Nat × T64)) (v : T64) :
    SExt (hrFix st id q mx v) (hrFix st' id q mx v) := by
  unfold hrFix
  split
  · split
    · exact fixQval_ext h _ _ _
    · exact h
  · exact h

theorem utxFix_ext {st st' : State} (h : SExt st st') (id q : Nat) (m0 m1 : Option (Nat × T64)) (v : T64) :
    SExt (utxFix st id q m0 m1 v) (utxFix st' id q m0 m1 v) := by
  unfold utxFix
  split
  · split
    · exact fixQval_ext h _ _ _
    · exact h
  · exact h

theorem evict_ext {st st' : State} (h : SExt st st') (cap : Nat) (v : T64) :
    SExt (evict cap st v).1 (evict cap st' v).1 ∧ (evict cap st v).2 = (evict cap st' v).2 := by
  unfold evict
  simp only [h.items.len, kv_ext h]
  have hp := popMin_ext h
  split
  · exact ⟨hp.1, congrArg some hp.2⟩
  · exact ⟨h, rfl⟩

theorem keys_down (f : Nat) (st : State) (i n : Nat) :
    Map.keys (down st i n f).1.items = Map.keys st.items := by
  induction f generalizing st i with
  | zero => rfl
  | succ f ih =>
    unfold down
    split
    · rfl
    · split
      · rfl
      · rw [ih, keys_swap]

theorem find_none_evict (cap : Nat) (st : State) (v : T64) (k : Nat) (h : st.items.find k = none) :
    (evict cap st v).1.items.find k = none := by
  rw [Map.find_none_iff] at *
  unfold evict
  split
  · intro hm
    have := (Map.keys_erase_sublist _ _).subset hm
    rw [keys_down, keys_swap] at this
    exact h this
  · exact h

end ScionTime.Server
