/-
  Lemmas for the ties of the slice-valued leaves:
  the prelude's sort is the model's, lengths, `len`, bounds-checked indexing. Core Lean only.
-/
import ScionTime.Model.GoPrelude
import ScionTime.Proofs.Sort
import ScionTime.Proofs.GoPrelude
namespace ScionTime.LeafSlices
open ScionTime ScionTime.GoLemmas

theorem insertI64_eq (a : Int64) (l : List Int64) : Go.insertI64 a l = Timemath.insertBy Int64.toInt a l := by
  induction l with
  | nil => rfl
  | cons b l ih => simp [Go.insertI64, Timemath.insertBy, ih]

theorem sortI64_eq (l : List Int64) : Go.sortI64 l = Timemath.sort64 l := by
  induction l with
  | nil => rfl
  | cons a l ih =>
    simp only [Go.sortI64, Timemath.sort64, Timemath.sortBy, insertI64_eq]
    rw [ih]; rfl

theorem length_sort64 (l : List Int64) : (Timemath.sort64 l).length = l.length :=
  Timemath.sortBy_length _ l

theorem len_toInt {α : Type} (l : List α) (h : l.length < 4611686018427387904) : (Go.len l).toInt = l.length := by
  unfold Go.len
  exact Int64.toInt_ofNat_of_lt (by omega)

theorem len_beq_zero {α : Type} (l : List α) (h : l.length < 4611686018427387904) :
    (Go.len l == (0 : Int64)) = l.isEmpty := by
  rw [Bool.eq_iff_iff, beq_iff_eq, ← Int64.toInt_inj, len_toInt l h, List.isEmpty_iff_length_eq_zero]
  exact Int.natCast_eq_zero

theorem idx_in (s : List Int64) (i : Int64) (k : Nat) (hi : i.toInt = k) (hk : k < s.length) :
    Go.idx? s i = some (s.getD k 0) := by
  unfold Go.idx?
  have : 0 ≤ i.toInt ∧ i.toInt < s.length := by omega
  rw [if_pos this]
  have : i.toInt.toNat = k := by omega
  rw [this]
  simp [List.getD, hk]

end ScionTime.LeafSlices
