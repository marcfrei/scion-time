/-
  Helper lemmas for Props/C08CsptpCli.lean: one iteration of the client's receive loop
  (`CsptpCliLoop.iter`) in closed form — a classification of the datagram (`classify`) that
  depends on the datagram, its source, the sequence id and (for the partial overwrite) the old
  `resptlv` only, applied to the loop variables (`applyCls`).
-/
import ScionTime.Model.CsptpCliLoop
import ScionTime.Proofs.CsptpSrv
namespace ScionTime.CsptpCliLoop
open ScionTime.Wire ScionTime.Csptp ScionTime.CsptpClient

/-- what the loop body makes of one datagram -/
inductive Cls where
  /-- a failure path: error, log message, whether `respmsg0Ok` / `respmsg1Ok` were cleared before,
      and the new value of `resptlv` if the TLV decoder had already written to it -/
  | failed (err log : String) (reset0 reset1 : Bool) (tlv : Option ResponseTLV)
  | sync (msg : Message)
  | followUp (msg : Message) (tlv : ResponseTLV)
deriving Repr, DecidableEq

def classify (seq : Nat) (tlv0 : ResponseTLV) (wire : List Nat) (otherFlags : Nat) (src : Src) : Cls :=
  if CsptpSrv.recvFlags wire.length otherFlags ≠ 0 then .failed "flags" logRead false false none else
  if wire.length < minMessageLength then .failed "packet" logStructure false false none else
  match decodeMessage (wire.take minMessageLength) with
  | .panic _ => .failed "size" logDecode false false none
  | .err _ => .failed "size" logDecode false false none
  | .ok msg =>
    if wire.length ≠ msg.messageLength then .failed "packet" logUnexpected false false none else
    if msg.sequenceID ≠ seq then .failed "packet" logUnexpected false false none else
    if msg.sdoIDMessageType = messageTypeSync then
      if src ≠ .event then .failed "source" logSource true false none else
      if wire.length - minMessageLength ≠ 0 then .failed "packet" logUnexpected true false none else
      .sync msg
    else if msg.sdoIDMessageType = messageTypeFollowUp then
      if src ≠ .general then .failed "source" logSource false true none else
      if !(decodeInto tlv0 (wire.drop minMessageLength)).2 then
        .failed "tlv-size" logDecode false true (some (decodeInto tlv0 (wire.drop minMessageLength)).1) else
      if !isResponseKind (decodeInto tlv0 (wire.drop minMessageLength)).1 then
        .failed "packet" logUnexpected false true (some (decodeInto tlv0 (wire.drop minMessageLength)).1) else
      if wire.length - minMessageLength ≠ encodedTLVLength (decodeInto tlv0 (wire.drop minMessageLength)).1.flagField then
        .failed "packet" logUnexpected false true (some (decodeInto tlv0 (wire.drop minMessageLength)).1) else
      .followUp msg (decodeInto tlv0 (wire.drop minMessageLength)).1
    else .failed "packet" logUnexpected false false none

/-- the buffer after the read -/
def Loop.recv (st : Loop) (wire : List Nat) : Loop := { st with backing := CsptpSrv.recvInto st.backing wire }
/-- what a failure path did to the loop variables before it failed -/
def Loop.clear (st : Loop) (r0 r1 : Bool) (tlv : Option ResponseTLV) : Loop :=
  { st with ok0 := (bif r0 then false else st.ok0), ok1 := (bif r1 then false else st.ok1), tlv := tlv.getD st.tlv }
def Loop.keepSync (st : Loop) (rxt : Int) (msg : Message) : Loop := { st with rx0 := rxt, m0 := msg, ok0 := true }
def Loop.keepFollowUp (st : Loop) (tlv : ResponseTLV) (rxt : Int) (msg : Message) : Loop :=
  { st with tlv := tlv, rx1 := rxt, m1 := msg, ok1 := true }
/-- the `for` post statement -/
def Loop.bump (st : Loop) : Loop := { st with numRetries := st.numRetries + 1 }

def applyCls (dl : Bool) (st : Loop) (c : Cls) (rxt : Int) (before : Bool) : Step :=
  match c with
  | .failed err log r0 r1 tlv => failPath dl (st.clear r0 r1 tlv) before err log
  | .sync msg => endOfBody (st.keepSync rxt msg)
  | .followUp msg tlv => endOfBody (st.keepFollowUp tlv rxt msg)

def Result.kind : Result → String
  | .ok _ _ => "ok"
  | .err e _ => "err:" ++ e
  | .pending _ _ => "pending"
  | .panic c => "panic:" ++ c
def Result.trace : Result → List String
  | .ok _ t => t
  | .err _ t => t
  | .pending _ t => t
  | .panic _ => []
def Result.state? : Result → Option Loop
  | .ok st _ => some st
  | .pending st _ => some st
  | _ => none

/-- the state an iteration leaves behind, if it leaves one -/
def Step.state? : Step → Option Loop
  | .retry st _ => some st
  | .next st => some st
  | .done st => some st
  | _ => none

def Step.isPanic : Step → Bool
  | .panic _ => true
  | _ => false

def Step.isDone : Step → Bool
  | .done _ => true
  | _ => false

theorem iter_readErr (dl : Bool) (seq : Nat) (st : Loop) (before : Bool) :
    iter dl seq st (.readErr before) = failPath dl st before "read" logRead := rfl

theorem ite_eq_applyCls {c : Prop} [Decidable c] {s t : Step} {a b : Cls} {dl : Bool} {st : Loop} {rxt : Int} {before : Bool}
    (h1 : c → s = applyCls dl st a rxt before) (h2 : ¬c → t = applyCls dl st b rxt before) :
    (if c then s else t) = applyCls dl st (if c then a else b) rxt before :=
  ite_eq_ite (f := id) (g := (applyCls dl st · rxt before)) Iff.rfl h1 h2

theorem iter_dgram (dl : Bool) (seq : Nat) (st : Loop) (wire : List Nat) (f : Nat) (src : Src) (rxt : Int)
    (before : Bool) (hb : st.backing.length = maxMessageLength) :
    iter dl seq st (.dgram wire f src rxt before) =
      applyCls dl (st.recv wire) (classify seq st.tlv wire f src) rxt before := by
  unfold iter classify
  simp only
  refine ite_eq_applyCls (fun _ => rfl) fun hf => ?_
  have hwl : wire.length ≤ maxMessageLength := (CsptpSrv.recvFlags_zero_iff.mp (Decidable.not_not.mp hf)).1
  rw [Nat.min_eq_left hwl]
  refine ite_eq_applyCls (fun _ => rfl) fun hs => ?_
  have h44 : minMessageLength ≤ wire.length := Nat.le_of_not_lt hs
  rw [CsptpSrv.sliceTo_ok _ _ (by rw [CsptpSrv.recvInto_length _ _ hb]; decide)]
  simp only
  rw [CsptpSrv.recvInto_take _ _ _ (Nat.le_min.mpr ⟨h44, Nat.le_trans h44 hwl⟩)]
  rcases CsptpSrv.msg_decode_cases (wire.take minMessageLength) with hm | ⟨m, hm⟩ <;> rw [hm]
  · rfl
  simp only
  refine ite_eq_applyCls (fun _ => rfl) fun _ => ?_
  refine ite_eq_applyCls (fun _ => rfl) fun _ => ?_
  refine ite_eq_applyCls (fun _ => ?_) fun _ => ?_
  · refine ite_eq_applyCls (fun _ => rfl) fun _ => ?_
    exact ite_eq_applyCls (fun _ => rfl) fun _ => rfl
  refine ite_eq_applyCls (fun _ => ?_) fun _ => rfl
  refine ite_eq_applyCls (fun _ => rfl) fun _ => ?_
  rw [CsptpSrv.sliceFrom_ok _ _ _ h44]
  simp only
  rw [CsptpSrv.recvInto_take _ _ _ (Nat.le_min.mpr ⟨Nat.le_refl _, hwl⟩), List.take_of_length_le (Nat.le_refl _)]
  refine ite_eq_applyCls (fun _ => rfl) fun _ => ?_
  refine ite_eq_applyCls (fun _ => rfl) fun _ => ?_
  exact ite_eq_applyCls (fun _ => rfl) fun _ => rfl

theorem failPath_cases (dl : Bool) (st : Loop) (before : Bool) (err log : String) :
    failPath dl st before err log = .retry st.bump log ∨ failPath dl st before err log = .fail err := by
  unfold failPath
  split
  · exact .inl rfl
  · exact .inr rfl

theorem endOfBody_cases (st : Loop) :
    (endOfBody st = .done st ∧ st.ok0 = true ∧ st.ok1 = true) ∨
    (endOfBody st = .next st.bump ∧ (st.ok0 = false ∨ st.ok1 = false)) := by
  unfold endOfBody Loop.bump
  cases h0 : st.ok0 <;> cases h1 : st.ok1 <;> simp

/-- what an iteration entered with `n` retries may end in; `before`: the clock read of a failure path -/
def Step.Checked (dl : Bool) (n : Nat) (before : Bool) : Step → Prop
  | .retry st' _ => dl = true ∧ n ≠ maxNumRetries ∧ before = true ∧
      st'.backing.length = maxMessageLength ∧ st'.numRetries = n + 1
  | .next st' => st'.backing.length = maxMessageLength ∧ st'.numRetries = n + 1
  | .done st' => st'.backing.length = maxMessageLength ∧ st'.ok0 = true ∧ st'.ok1 = true
  | .fail _ => True
  | .panic _ => False

theorem failPath_spec (dl : Bool) (st : Loop) (before : Bool) (err log : String) (hb : st.backing.length = maxMessageLength) :
    (failPath dl st before err log).Checked dl st.numRetries before := by
  unfold failPath
  exact ite_ind (fun h => ⟨h.2.1, h.1, h.2.2, hb, rfl⟩) fun _ => trivial

theorem endOfBody_spec (dl : Bool) (st : Loop) (before : Bool) (hb : st.backing.length = maxMessageLength) :
    (endOfBody st).Checked dl st.numRetries before := by
  unfold endOfBody
  exact ite_ind (fun h => ⟨hb, Bool.and_eq_true_iff.mp h⟩) fun _ => ⟨hb, rfl⟩

theorem iter_spec (dl : Bool) (seq : Nat) (st : Loop) (e : Ev) (hb : st.backing.length = maxMessageLength) :
    (iter dl seq st e).Checked dl st.numRetries (match e with | .readErr b => b | .dgram _ _ _ _ b => b) := by
  cases e with
  | readErr before => exact failPath_spec dl st before "read" logRead hb
  | dgram wire f src rxt before =>
    rw [iter_dgram dl seq st wire f src rxt before hb]
    have hlen : (st.recv wire).backing.length = maxMessageLength := CsptpSrv.recvInto_length _ _ hb
    cases classify seq st.tlv wire f src with
    | failed err log r0 r1 tlv => exact failPath_spec dl ((st.recv wire).clear r0 r1 tlv) before err log hlen
    | sync m => exact endOfBody_spec dl ((st.recv wire).keepSync rxt m) before hlen
    | followUp m t => exact endOfBody_spec dl ((st.recv wire).keepFollowUp t rxt m) before hlen

theorem decodeInto_ok {old : ResponseTLV} {b : List Nat} (h : (decodeInto old b).2 = true) :
    decodeResponseTLV b = .ok (decodeInto old b).1 := by
  unfold decodeInto at h ⊢
  rcases CsptpSrv.resp_decode_cases b with hd | ⟨t', hd⟩
  · rw [hd] at h
    simp only at h
    split at h <;> cases h
  · rw [hd]

theorem decodeInto_of_ok {old t : ResponseTLV} {b : List Nat} (h : decodeResponseTLV b = .ok t) :
    decodeInto old b = (t, true) := by
  unfold decodeInto; rw [h]

theorem decodeInto_of_err {old : ResponseTLV} {b : List Nat} {e : String} (h : decodeResponseTLV b = .err e) :
    (decodeInto old b).2 = false := by
  unfold decodeInto; rw [h]; simp only; split <;> rfl

theorem not_isResponseKind_iff (t : ResponseTLV) :
    (t.type ≠ tlvTypeOrganizationExtension ∨ t.organizationID ≠ orgIDMeinberg ∨
      t.organizationSubType ≠ orgSubTypeResponse) ↔ (!isResponseKind t) = true := by
  simp only [isResponseKind, Bool.not_eq_true', Bool.and_eq_false_iff, beq_eq_false_iff_ne, or_assoc]

/-- what `classify` has checked of a datagram it accepts; a failure path that has written to
    `resptlv` has cleared `respmsg1Ok` before -/
def Cls.Checked (seq : Nat) (wire : List Nat) (f : Nat) (src : Src) : Cls → Prop
  | .failed _ _ _ r1 tlv => tlv = none ∨ r1 = true
  | .sync m => f = 0 ∧ src = .event ∧ wire.length = minMessageLength ∧ decodeMessage wire = .ok m ∧
      m.sequenceID = seq ∧ m.sdoIDMessageType = messageTypeSync ∧ m.messageLength = minMessageLength
  | .followUp m t => f = 0 ∧ src = .general ∧ wire.length ≤ maxMessageLength ∧
      decodeMessage (wire.take minMessageLength) = .ok m ∧ m.sequenceID = seq ∧
      m.sdoIDMessageType = messageTypeFollowUp ∧ m.messageLength = wire.length ∧
      decodeResponseTLV (wire.drop minMessageLength) = .ok t ∧ isResponseKind t = true ∧
      wire.length = minMessageLength + encodedTLVLength t.flagField

theorem classify_spec (seq : Nat) (tlv0 : ResponseTLV) (wire : List Nat) (f : Nat) (src : Src) :
    (classify seq tlv0 wire f src).Checked seq wire f src := by
  unfold classify
  refine ite_ind (fun _ => .inl rfl) fun hf => ?_
  have hf0 := CsptpSrv.recvFlags_zero_iff.mp (Decidable.not_not.mp hf)
  refine ite_ind (fun _ => .inl rfl) fun hs => ?_
  rcases CsptpSrv.msg_decode_cases (wire.take minMessageLength) with hm | ⟨m, hm⟩ <;> rw [hm]
  · exact .inl rfl
  refine ite_ind (fun _ => .inl rfl) fun hl => ite_ind (fun _ => .inl rfl) fun hq => ?_
  refine ite_ind (fun hty => ?_) fun _ => ite_ind (fun hty => ?_) fun _ => .inl rfl
  · refine ite_ind (fun _ => .inl rfl) fun hsrc => ite_ind (fun _ => .inl rfl) fun hz => ?_
    have hw : wire.length = minMessageLength := by omega
    rw [List.take_of_length_le (Nat.le_of_eq hw)] at hm
    exact ⟨hf0.2, Decidable.not_not.mp hsrc, hw, hm, Decidable.not_not.mp hq, hty, by omega⟩
  · refine ite_ind (fun _ => .inl rfl) fun hsrc => ite_ind (fun _ => .inr rfl) fun hok => ?_
    refine ite_ind (fun _ => .inr rfl) fun hk => ite_ind (fun _ => .inr rfl) fun hlen => ?_
    exact ⟨hf0.2, Decidable.not_not.mp hsrc, hf0.1, hm, Decidable.not_not.mp hq, hty, by omega,
      decodeInto_ok (by simpa using hok), by simpa using hk, by omega⟩

end ScionTime.CsptpCliLoop
