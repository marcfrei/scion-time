namespace ScionTime

/-- `refine ite_ind (fun h => ?_) fun h => ?_` takes an `if` cascade one test at a time by
    unification alone; `split` rewrites the whole remaining term at every test, which on the
    handlers and loops of the model is a hundred times slower to check. -/
theorem ite_ind {α : Sort _} {P : α → Prop} {c : Prop} [Decidable c] {a b : α}
    (ha : c → P a) (hb : ¬ c → P b) : P (if c then a else b) := by
  by_cases h : c
  · rw [if_pos h]; exact ha h
  · rw [if_neg h]; exact hb h

/-- two cascades that test equivalent conditions in the same order: one step down both -/
theorem ite_eq_ite {α β γ : Sort _} {f : α → γ} {g : β → γ} {c c' : Prop} [Decidable c] [Decidable c']
    {a b : α} {a' b' : β} (hc : c ↔ c') (h1 : c → f a = g a') (h2 : ¬c → f b = g b') :
    f (if c then a else b) = g (if c' then a' else b') := by
  by_cases h : c
  · rw [if_pos h, if_pos (hc.mp h)]; exact h1 h
  · rw [if_neg h, if_neg (mt hc.mpr h)]; exact h2 h

end ScionTime
