/-
  The server handler's decision, case by case (for Props/C20Srv).
-/
import ScionTime.Model.NtskeSrv
namespace ScionTime.NtskeSrv
open ScionTime.Ntske

inductive VerdictOf (c : Conn) : Verdict → Prop where
  | noStream : c.quic = true → c.streamOk = false → VerdictOf c .noStream
  | badRequest {d e} : readData c.request {} = (d, some e) → VerdictOf c (.badRequest e)
  | exportFailed {d} : readData c.request {} = (d, none) → c.exportOk = false →
      VerdictOf c .exportFailed
  | noCookie {d} : readData c.request {} = (d, none) → c.exportOk = true →
      c.cookies.filterMap id = [] → VerdictOf c .noCookie
  | respond {d} : readData c.request {} = (d, none) → c.exportOk = true →
      c.cookies.filterMap id ≠ [] →
      VerdictOf c (.respond ([.nextProto ntpv4, .algorithm [aesSivCmac256], .server c.localIP false,
        .port (c.localPort % 65536) false] ++ (c.cookies.filterMap id).map .cookie ++ [.end_]))

theorem verdict_spec (c : Conn) : VerdictOf c (verdict c) := by
  unfold verdict
  split
  · next h => exact .noStream h.1 (by simpa using h.2)
  split
  · next hr => exact .badRequest hr
  next hr =>
  cases hx : c.exportOk
  · exact .exportFailed hr hx
  unfold serverMsg
  by_cases hck : c.cookies.filterMap id = []
  · simpa [hck] using VerdictOf.noCookie hr hx hck
  · simpa [hck] using VerdictOf.respond hr hx hck

end ScionTime.NtskeSrv
