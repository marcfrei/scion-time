/-
  Proofs/C19Clock.lean — helper lemmas for Props/C19Clock.lean (Model/SysClock.lean, Model/PllClock.lean).
-/
import ScionTime.Model.PllClock
import ScionTime.Proofs.C19
namespace ScionTime.SysClock

/-- What an execution of the expiry goroutine `id` is: the goroutine is removed from `pending`,
    nothing else of the state changes, and `afterFreq` is restored iff its adjustment is the
    registered one. -/
theorem expire_some {c : State} {id : Nat} {o : Outcome} (h : expire c id = some o) :
    ∃ a, c.pending.find? (fun a => a.id = id) = some a ∧
      o = .ok { c with pending := c.pending.filter (fun b => b.id ≠ id) }
        (match c.adjustment with
         | some cur => if cur.id = a.id then [.setFrequency a.afterFreq] else []
         | none => []) := by
  unfold expire at h
  cases hf : c.pending.find? (fun a => decide (a.id = id)) with
  | none => simp [hf] at h
  | some a =>
    refine ⟨a, rfl, ?_⟩
    simp only [hf] at h
    cases hc : c.adjustment with
    | none => simp only [hc] at h; exact (Option.some.inj h).symm
    | some cur =>
      simp only [hc] at h
      split at h <;> rename_i hi <;> simp only [hi, if_true, if_false] <;> exact (Option.some.inj h).symm

end ScionTime.SysClock

/-- An update on a clock object whose epoch is not the one the PLL has recorded restarts the start-up
    sequence and makes no call on the clock. -/
theorem ScionTime.PllClock.update_restarts (p : Pll.State) (c : SysClock.State) (h : SysClock.epoch c ≠ p.epoch)
    (now off : Int) (w pw : F64.F64) :
    PllClock.update { pll := p, clk := c } now off w pw =
      .ok { pll := { p with epoch := SysClock.epoch c, mode := 1, t0 := now, t := now }, clk := c } [] := by
  unfold PllClock.update
  rw [Pll.step_start (by rw [Pll.syncEpoch_new h]), Pll.syncEpoch_new h]
  simp [PllClock.calls]
