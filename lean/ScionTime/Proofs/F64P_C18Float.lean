/-
  Proofs/F64P_C18Float.lean — helper lemmas for Props/F64P_C18Float.lean: the scale factor of
  Model/F64P_UnixutilFloat.lean as a double.
-/
import ScionTime.Model.F64P_UnixutilFloat
import ScionTime.Proofs.F64Conv
namespace ScionTime.F64P_C18Float
open ScionTime.F64 ScionTime.F64P_UnixutilFloat

/-- the scale factor `65536.0 * 1e6` is an exact double -/
theorem scaleF_eq : scaleF = .fin 65536000000 := by
  unfold scaleF
  rw [ofInt_exact (i := scale) (by decide) (by decide)]; unfold scale; simp

end ScionTime.F64P_C18Float
