/- helper lemmas for Props/C06Ident (core Lean only) -/
import ScionTime.Model.ClientId
namespace ScionTime.ClientId

theorem clientIdScion_toList (ia host : String) :
    (clientIdScion ia host).toList = clientIdScionL ia.toList host.toList := by
  simp [clientIdScion, clientIdScionL, sep, sepChar, String.toList_append]

theorem not_mem_toDigits_of_ne_digitChar (c : Char) (hc : ∀ k, Nat.digitChar k ≠ c) (b : Nat) (hb : 1 < b) (n : Nat) :
    c ∉ Nat.toDigits b n := by
  induction n using Nat.strongRecOn with
  | _ n ih =>
    rw [Nat.toDigits_eq_if hb]
    split
    · simpa using (hc n).symm
    · rw [List.mem_append, not_or]
      exact ⟨ih (n / b) (Nat.div_lt_self (by omega) hb), by simpa using (hc _).symm⟩

theorem takeWhile_ne_append (c : Char) (l r : List Char) (h : c ∉ l) :
    (l ++ c :: r).takeWhile (· != c) = l := by
  induction l with
  | nil => simp
  | cons a s ih =>
    have ha : a ≠ c := fun e => h (e ▸ List.mem_cons_self)
    simp [ha, ih fun hm => h (List.mem_cons_of_mem _ hm)]

theorem split_at_sep (c : Char) (l₁ l₂ r₁ r₂ : List Char) (n₁ : c ∉ l₁) (n₂ : c ∉ l₂)
    (e : l₁ ++ c :: r₁ = l₂ ++ c :: r₂) : l₁ = l₂ ∧ r₁ = r₂ := by
  have h := congrArg (List.takeWhile (· != c)) e
  rw [takeWhile_ne_append c l₁ r₁ n₁, takeWhile_ne_append c l₂ r₂ n₂] at h
  subst h
  exact ⟨rfl, List.cons_inj_right c |>.mp (List.append_cancel_left e)⟩

/-- value of a lower-case hex digit character -/
def hexVal (c : Char) : Nat := if c.toNat < 58 then c.toNat - 48 else c.toNat - 87

def ofHexChars (l : List Char) (init : Nat) : Nat := l.foldl (fun acc c => 16 * acc + hexVal c) init

theorem hexVal_digitChar (n : Nat) (h : n < 16) : hexVal (Nat.digitChar n) = n := by
  match n, h with
  | 0, _ | 1, _ | 2, _ | 3, _ | 4, _ | 5, _ | 6, _ | 7, _ | 8, _ | 9, _
  | 10, _ | 11, _ | 12, _ | 13, _ | 14, _ | 15, _ => decide
  | n + 16, h => omega

theorem ofHexChars_append (l m : List Char) (init : Nat) :
    ofHexChars (l ++ m) init = ofHexChars m (ofHexChars l init) := by
  simp [ofHexChars]

theorem ofHexChars_toDigits (n : Nat) : ofHexChars (Nat.toDigits 16 n) 0 = n := by
  induction n using Nat.strongRecOn with
  | _ n ih =>
    rw [Nat.toDigits_eq_if (by decide)]
    split
    · rename_i h; simp [ofHexChars, hexVal_digitChar n h]
    · rename_i h
      rw [ofHexChars_append, ih (n / 16) (by omega)]
      simp only [ofHexChars, List.foldl_cons, List.foldl_nil]
      rw [hexVal_digitChar _ (Nat.mod_lt _ (by decide))]
      omega

theorem toDigits16_inj (a b : Nat) (h : Nat.toDigits 16 a = Nat.toDigits 16 b) : a = b := by
  have := congrArg (fun l => ofHexChars l 0) h
  simpa [ofHexChars_toDigits] using this

theorem toDigits10_inj (a b : Nat) (h : Nat.toDigits 10 a = Nat.toDigits 10 b) : a = b := by
  have := congrArg (fun l => Nat.ofDigitChars 10 l 0) h
  simpa using this

theorem asText_inj (a b : Nat) (ha : a < 281474976710656) (hb : b < 281474976710656)
    (h : asText a = asText b) : a = b := by
  unfold asText at h
  have hc := not_mem_toDigits_of_ne_digitChar ':' (fun _ => Nat.digitChar_ne ':' (by decide))
  have c10 := hc 10 (by decide)
  have c16 := hc 16 (by decide)
  split at h <;> split at h
  · exact toDigits10_inj _ _ h
  · exfalso
    have : ':' ∈ Nat.toDigits 10 a := by rw [h]; simp
    exact c10 _ this
  · exfalso
    have : ':' ∈ Nat.toDigits 10 b := by rw [← h]; simp
    exact c10 _ this
  · have h1 := split_at_sep ':' _ _ _ _ (c16 _) (c16 _) h
    have h2 := split_at_sep ':' _ _ _ _ (c16 _) (c16 _) h1.2
    have e1 := toDigits16_inj _ _ h1.1
    have e2 := toDigits16_inj _ _ h2.1
    have e3 := toDigits16_inj _ _ h2.2
    omega

/-- `addr.IA.String()` is injective on 64-bit ISD-AS values -/
theorem iaText_inj (a b : Nat) (ha : a < 18446744073709551616) (hb : b < 18446744073709551616)
    (h : iaText a = iaText b) : a = b := by
  unfold iaText at h
  have hd := not_mem_toDigits_of_ne_digitChar '-' (fun _ => Nat.digitChar_ne '-' (by decide)) 10 (by decide)
  have h1 := split_at_sep '-' _ _ _ _ (hd _) (hd _) h
  have e1 := toDigits10_inj _ _ h1.1
  have e2 := asText_inj _ _ (Nat.mod_lt _ (by decide)) (Nat.mod_lt _ (by decide)) h1.2
  omega

end ScionTime.ClientId
