/-
  Proofs/LeafC17.lean — the shapes the leaf translator gives the conditionals of
  `(*NtimedFilter).Do`, flattened: an `if` that updates one field of the receiver, an `if`
  that assigns two locals at once (a pair), and the branch number tested against 4.
-/
import ScionTime.Gen.Leaf
namespace ScionTime.LeafTieC17
open ScionTime.Gen.Leaf

theorem ite_pair {α β : Type} (c : Prop) [Decidable c] (a a' : α) (b b' : β) :
    (if c then (a, b) else (a', b')) = (if c then a else a', if c then b else b') := by
  split <;> rfl

theorem ite_navg (c : Prop) [Decidable c] (f : S_NtimedFilter) (v : F64.F64) :
    (if c then { f with navg := v } else f) = { f with navg := if c then v else f.navg } := by
  split <;> rfl

/-- The branch number is an `int64` in the code and a `Nat` in the model. -/
theorem branch_ne4 (a b c : Prop) [Decidable a] [Decidable b] [Decidable c] :
    ((if a then (1 : Int64) else if b then 2 else if c then 3 else 4) != 4)
      = decide ((if a then 1 else if b then 2 else if c then 3 else 4) ≠ 4) := by
  by_cases a <;> by_cases b <;> by_cases c <;> simp [*]

end ScionTime.LeafTieC17
