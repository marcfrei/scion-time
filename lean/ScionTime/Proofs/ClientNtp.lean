/-
  Helper lemmas about Model/ClientNtp.lean: the loop bodies as chains of refusal sites, what
  `accept` implies, and that the receive loop accepts only through `classify … = accept`, after
  at most one retry.
-/
import ScionTime.Model.ClientFlow
import ScionTime.Proofs.NtpMath
namespace ScionTime.ClientNtp
open ScionTime.Time64 ScionTime.NtpMath ScionTime.ClientFlow

theorem Step.isAccept_false {s : Step} (h : ∀ a, s ≠ .accept a) : s.isAccept = false := by
  cases s <;> first | rfl | exact absurd rfl (h _)

theorem validateTimestamps_cases (t0 t1 t2 t3 : Int) :
    (validateTimestamps t0 t1 t2 t3 = .panic ∧ t3 < t0) ∨
    (validateTimestamps t0 t1 t2 t3 = .errResponse ∧ t2 < t1) ∨
    (validateTimestamps t0 t1 t2 t3 = .ok ∧ t0 ≤ t3 ∧ t1 ≤ t2) := by
  unfold validateTimestamps
  by_cases h1 : sub64 t3 t0 < 0
  · rw [if_pos h1]; rw [sub64_neg_iff] at h1; exact .inl ⟨rfl, by omega⟩
  by_cases h2 : sub64 t2 t1 < 0
  · rw [if_neg h1, if_pos h2]; rw [sub64_neg_iff] at h2; exact .inr (.inl ⟨rfl, by omega⟩)
  rw [if_neg h1, if_neg h2]; rw [sub64_neg_iff] at h1 h2
  exact .inr (.inr ⟨rfl, by omega, by omega⟩)

theorem validMetadata_true (lvm st : Nat) (h : validMetadata lvm st = true) :
    leap lvm ≠ 3 ∧ (version lvm = 3 ∨ version lvm = 4) ∧ mode lvm = 4 ∧ 1 ≤ st ∧ st ≤ 15 := by
  unfold validMetadata at h
  by_cases h1 : leap lvm = 3
  · rw [if_pos h1] at h; cases h
  by_cases h2 : version lvm ≠ 3 ∧ version lvm ≠ 4
  · rw [if_neg h1, if_pos h2] at h; cases h
  by_cases h3 : mode lvm ≠ 4
  · rw [if_neg h1, if_neg h2, if_pos h3] at h; cases h
  by_cases h4 : st = 0 ∨ st > 15
  · rw [if_neg h1, if_neg h2, if_neg h3, if_pos h4] at h; cases h
  omega

/-- the tuple the NTP stage builds for payload `p` -/
def tupleOf (prev : Prev) (req : Req) (cTx1 cRx : Int) (p : Payload) : Accepted :=
  let il := req.interleaved && p.pkt.origin == req.rx
  { il := il
    t0 := if il then toTime prev.cTx req.cTx0 else cTx1
    t1 := if il then toTime prev.sRx req.cTx0 else toTime p.pkt.rx req.cTx0
    t2 := toTime p.pkt.tx req.cTx0
    t3 := if il then toTime prev.cRx req.cTx0 else cRx
    cRx := cRx
    sRx64 := p.pkt.rx }

variable (cfg : Cfg) (sc : ScionCtx) (prev : Prev) (req : Req) (cTx1 cRx : Int) (p : Payload)
  (d : ScionDgram)

theorem tupleOf_basic (h : (req.interleaved && p.pkt.origin == req.rx) = false) :
    tupleOf prev req cTx1 cRx p =
      ⟨false, cTx1, toTime p.pkt.rx req.cTx0, toTime p.pkt.tx req.cTx0, cRx, cRx, p.pkt.rx⟩ := by
  simp [tupleOf, h]

theorem tupleOf_interleaved (h : (req.interleaved && p.pkt.origin == req.rx) = true) :
    tupleOf prev req cTx1 cRx p =
      ⟨true, toTime prev.cTx req.cTx0, toTime prev.sRx req.cTx0, toTime p.pkt.tx req.cTx0,
        toTime prev.cRx req.cTx0, cRx, p.pkt.rx⟩ := by
  simp [tupleOf, h]

/-- the NTP stage behind its refusal sites: `ValidateResponseMetadata`, `ValidateResponseTimestamps` -/
def ntpEval (p : Payload) (a : Accepted) : Step :=
  if !validMetadata p.pkt.lvm p.pkt.stratum then .fatal .response
  else match validateTimestamps a.t0 a.t1 a.t2 a.t3 with
    | .panic => .panic
    | .errResponse => .fatal .response
    | .ok => .accept a

theorem ntpEval_cases (p : Payload) (a : Accepted) :
    (ntpEval p a = .panic ∧ a.t3 < a.t0) ∨ ntpEval p a = .fatal .response ∨
    (ntpEval p a = .accept a ∧ validMetadata p.pkt.lvm p.pkt.stratum = true ∧
      a.t0 ≤ a.t3 ∧ a.t1 ≤ a.t2) := by
  unfold ntpEval
  cases hm : validMetadata p.pkt.lvm p.pkt.stratum
  · exact .inr (.inl rfl)
  rcases validateTimestamps_cases a.t0 a.t1 a.t2 a.t3 with ⟨h, h'⟩ | ⟨h, _⟩ | ⟨h, h'⟩ <;> rw [h]
  · exact .inl ⟨rfl, h'⟩
  · exact .inr (.inl rfl)
  · exact .inr (.inr ⟨rfl, rfl, h'⟩)

theorem ntpEval_ne_skip (p : Payload) (a : Accepted) (e : ErrKind) : ntpEval p a ≠ .skip e := by
  unfold ntpEval
  split
  · nofun
  · split <;> nofun

/-- One `if` at a time, by `rw`: `split` is very slow on a definition with `let`s. -/
theorem ntpStage_cases :
    (∃ s, siteNtp cfg req p = some s ∧ (s ∈ ipSites ∧ s ∈ scionSites) ∧
      ntpStage cfg prev req cTx1 cRx p = .skip s.err) ∨
    (siteNtp cfg req p = none ∧
      ntpStage cfg prev req cTx1 cRx p = ntpEval p (tupleOf prev req cTx1 cRx p) ∧ 48 ≤ p.len ∧
      (cfg.nts = true → p.ntsDecodeOk = true ∧ p.ntsUidEq = true ∧ p.ntsOpenOk = true) ∧
      ((req.interleaved = true ∧ p.pkt.origin = req.rx) ∨ p.pkt.origin = req.tx)) := by
  unfold siteNtp ntpStage
  by_cases h1 : p.len < 48
  · exact .inl ⟨.size, if_pos h1, by decide, if_pos h1⟩
  rw [if_neg h1, if_neg h1]
  by_cases h2 : (cfg.nts && !p.ntsDecodeOk) = true
  · exact .inl ⟨.ntsDecode, if_pos h2, by decide, if_pos h2⟩
  rw [if_neg h2, if_neg h2]
  by_cases h3 : (cfg.nts && !(p.ntsUidEq && p.ntsOpenOk)) = true
  · exact .inl ⟨.ntsProcess, if_pos h3, by decide, if_pos h3⟩
  rw [if_neg h3, if_neg h3]
  dsimp only
  by_cases h4 : (!(req.interleaved && p.pkt.origin == req.rx) && p.pkt.origin != req.tx) = true
  · exact .inl ⟨.origin, if_pos h4, by decide, if_pos h4⟩
  rw [if_neg h4, if_neg h4]
  refine .inr ⟨rfl, rfl, by omega, fun hn => ?_, ?_⟩
  · simpa [hn] using And.intro h2 h3
  · simpa [Decidable.or_iff_not_imp_left] using h4

theorem siteNtp_agrees :
    (∀ s, siteNtp cfg req p = some s →
      ntpStage cfg prev req cTx1 cRx p = .skip s.err ∧ s ∈ ipSites ∧ s ∈ scionSites) ∧
    (siteNtp cfg req p = none → ∀ e, ntpStage cfg prev req cTx1 cRx p ≠ .skip e) := by
  rcases ntpStage_cases cfg prev req cTx1 cRx p with ⟨s, hs, hm, hc⟩ | ⟨hs, hc, _⟩
  · rw [hs, hc]
    exact ⟨fun _ h => by cases h; exact ⟨rfl, hm⟩, nofun⟩
  · rw [hs, hc]
    exact ⟨nofun, fun _ => ntpEval_ne_skip p _⟩

theorem ntpStage_accept (a : Accepted) (h : ntpStage cfg prev req cTx1 cRx p = .accept a) :
    48 ≤ p.len ∧
    (cfg.nts = true → p.ntsDecodeOk = true ∧ p.ntsUidEq = true ∧ p.ntsOpenOk = true) ∧
    ((req.interleaved = true ∧ p.pkt.origin = req.rx) ∨ p.pkt.origin = req.tx) ∧
    validMetadata p.pkt.lvm p.pkt.stratum = true ∧
    a = tupleOf prev req cTx1 cRx p ∧ a.t0 ≤ a.t3 ∧ a.t1 ≤ a.t2 := by
  rcases ntpStage_cases cfg prev req cTx1 cRx p with ⟨_, _, _, hc⟩ | ⟨_, hc, hl, hn, ho⟩ <;> rw [h] at hc
  · cases hc
  rcases ntpEval_cases p (tupleOf prev req cTx1 cRx p) with he | he | ⟨he, hm, ht⟩ <;> rw [← hc] at he
  · cases he.1
  · cases he
  · cases he
    exact ⟨hl, hn, ho, hm, rfl, ht⟩

theorem ntpStage_basic_no_panic (hb : req.interleaved = false) (hle : cTx1 ≤ cRx) :
    ntpStage cfg prev req cTx1 cRx p ≠ .panic := by
  intro h
  rcases ntpStage_cases cfg prev req cTx1 cRx p with ⟨_, _, _, hc⟩ | ⟨_, hc, _⟩ <;> rw [h] at hc
  · cases hc
  rcases ntpEval_cases p (tupleOf prev req cTx1 cRx p) with ⟨_, ht⟩ | he | ⟨he, _⟩
  · simp only [tupleOf, hb, Bool.false_and, Bool.false_eq_true, if_false] at ht
    omega
  · rw [← hc] at he; cases he
  · rw [← hc] at he; cases he

/-- a failed read and unexpected flags are refusals like the loop body's -/
def Event.step {D : Type} (classify : Int → D → Step) : Event D → Step
  | .dgram d cRx _ => classify cRx d
  | .readErr _ => .skip .read
  | .badFlags _ => .skip .flags

/-- `timebase.Now().Before(deadline)` at this event -/
def Event.before {D : Type} : Event D → Bool
  | .dgram _ _ b | .readErr b | .badFlags b => b

section loop
variable {D : Type} (classify : Int → D → Step) (dl : Bool)

theorem runLoop_cons (r n : Nat) (e : Event D) (rest : List (Event D)) :
    runLoop classify dl r n (e :: rest) =
      match e.step classify with
      | .skip k =>
        if mayRetry r dl e.before then runLoop classify dl (r + 1) (n + 1) rest else .error k (n + 1)
      | .fatal k => .error k (n + 1)
      | .panic => .panic (n + 1)
      | .accept a => .accepted a (n + 1) := by
  cases e <;> rfl

theorem Event.step_accept {e : Event D} {a : Accepted} (h : e.step classify = .accept a) :
    ∃ d cRx b, e = .dgram d cRx b ∧ classify cRx d = .accept a := by
  cases e with
  | dgram d cRx b => exact ⟨d, cRx, b, rfl, h⟩
  | _ b => cases h

theorem runLoop_cons_accepted {r n m : Nat} {e : Event D} {rest : List (Event D)} {a : Accepted}
    (h : runLoop classify dl r n (e :: rest) = .accepted a m) :
    (e.step classify = .accept a ∧ m = n + 1) ∨
    (mayRetry r dl e.before = true ∧ runLoop classify dl (r + 1) (n + 1) rest = .accepted a m) := by
  rw [runLoop_cons] at h
  generalize e.step classify = s at h ⊢
  cases s <;> dsimp only at h
  · by_cases hr : mayRetry r dl e.before = true
    · rw [if_pos hr] at h; exact .inr ⟨hr, h⟩
    · rw [if_neg hr] at h; cases h
  · cases h
  · cases h
  · cases h; exact .inl ⟨rfl, rfl⟩

theorem runLoop_accepted (evs : List (Event D)) :
    ∀ (r n : Nat) (a : Accepted) (m : Nat), runLoop classify dl r n evs = .accepted a m →
      ∃ d cRx b, Event.dgram d cRx b ∈ evs ∧ classify cRx d = .accept a := by
  induction evs with
  | nil => intro r n a m h; cases h
  | cons e rest ih =>
    intro r n a m h
    rcases runLoop_cons_accepted classify dl h with ⟨hs, _⟩ | ⟨_, h⟩
    · obtain ⟨d, cRx, b, rfl, hc⟩ := Event.step_accept classify hs
      exact ⟨d, cRx, b, List.mem_cons_self, hc⟩
    · obtain ⟨d, cRx, b, hm, hc⟩ := ih _ _ _ _ h
      exact ⟨d, cRx, b, List.mem_cons_of_mem _ hm, hc⟩

/-- "one retry, then return": from retry count `r ≤ maxNumRetries` the loop returns after at most
    `maxNumRetries + 1 - r` further events. -/
theorem runLoop_consumes (evs : List (Event D)) : ∀ r n : Nat, r ≤ maxNumRetries →
    (∀ a m, runLoop classify dl r n evs = .accepted a m → m ≤ n + (maxNumRetries + 1 - r)) ∧
    (∀ k m, runLoop classify dl r n evs = .error k m → m ≤ n + (maxNumRetries + 1 - r)) := by
  induction evs with
  | nil => intro r n _; simp [runLoop]
  | cons e rest ih =>
    intro r n hr
    simp only [maxNumRetries] at hr ih ⊢
    rw [runLoop_cons]
    cases e.step classify with
    | skip k =>
      dsimp only
      by_cases hm : mayRetry r dl e.before = true
      · rw [if_pos hm]
        have h0 : r = 0 := by
          simp only [mayRetry, maxNumRetries, Bool.and_eq_true, bne_iff_ne] at hm
          omega
        subst h0
        obtain ⟨ha, he⟩ := ih 1 (n + 1) (Nat.le_refl _)
        exact ⟨fun a m h => by have := ha a m h; omega, fun k m h => by have := he k m h; omega⟩
      · rw [if_neg hm]; constructor <;> intro _ _ hh <;> cases hh; omega
    | fatal k => constructor <;> intro _ _ hh <;> cases hh; omega
    | panic => constructor <;> intro _ _ hh <;> cases hh
    | accept a => constructor <;> intro _ _ hh <;> cases hh; omega

end loop

theorem prev_of_no_offset (cfg : Cfg) (prev : Prev) (reference : String) (cTx1 : Int) (out : Outcome) :
    out.hasOffset = false →
      (match out with
        | .accepted a _ => updatePrev cfg prev reference cTx1 a
        | _ => prev) = prev := by
  cases out <;> first | exact fun _ => rfl | nofun

theorem scionRxTime_within (d : ScionDgram) (cTx1 cRx : Int) (hle : cTx1 ≤ cRx) :
    cTx1 ≤ scionRxTime d cTx1 cRx ∧ scionRxTime d cTx1 cRx ≤ cRx := by
  unfold scionRxTime
  split
  · split
    · split <;> omega
    · omega
  · omega

theorem classifyIP_accept (cfg : Cfg) (server : Nat) (prev : Prev) (req : Req) (cTx1 cRx : Int)
    (d : IpDgram) (a : Accepted) (h : classifyIP cfg server prev req cTx1 cRx d = .accept a) :
    d.src = server ∧ ntpStage cfg prev req cTx1 cRx d.payload = .accept a := by
  unfold classifyIP at h
  split at h
  · cases h
  · rename_i hs
    exact ⟨by simpa using hs, h⟩

theorem unmapIP_some {x a : List Nat} (h : unmapIP x = some a) :
    (x.length = 4 ∨ x.length = 16) ∧ (a.length = 4 ∨ a.length = 16) ∧
    (x = a ∨ x = v4mappedPrefix ++ a) := by
  unfold unmapIP at h
  by_cases h4 : x.length = 4
  · rw [if_pos h4] at h; cases h; exact ⟨.inl h4, .inl h4, .inl rfl⟩
  by_cases h16 : x.length = 16
  · rw [if_neg h4, if_pos h16] at h
    refine ⟨.inr h16, ?_⟩
    by_cases hp : x.take 12 = v4mappedPrefix
    · rw [if_pos hp] at h; cases h
      exact ⟨.inl (by simp [h16]), .inr (by rw [← hp, List.take_append_drop])⟩
    · rw [if_neg hp] at h; cases h; exact ⟨.inr h16, .inl rfl⟩
  · rw [if_neg h4, if_neg h16] at h; cases h

theorem unmapIP_len (b : List Nat) (h : b.length = 4 ∨ b.length = 16) :
    ∃ a, unmapIP b = some a ∧ (a.length = 4 ∨ a.length = 16) := by
  unfold unmapIP
  rcases h with h | h
  · exact ⟨b, if_pos h, .inl h⟩
  · rw [if_neg (by omega), if_pos h]
    split
    · exact ⟨_, rfl, .inl (by simp [h])⟩
    · exact ⟨b, rfl, .inr h⟩

theorem ntsDestination_some {held : List Nat × Nat} {parsed : Option (List Nat)} {port p : Nat} {ip : List Nat}
    (h : ntsDestination held parsed port = some (ip, p)) :
    p = port ∧ ∃ lit, parsed = some lit ∧ unmapIP lit = some ip := by
  cases parsed with
  | none => cases h
  | some lit =>
    obtain ⟨a, ha, hp⟩ := Option.map_eq_some_iff.mp h
    cases hp
    exact ⟨rfl, lit, rfl, ha⟩

theorem addrValid_true (h : addrValid sc d = true) :
    d.srcIA = sc.remoteIA ∧ equalsIP d.srcHost sc.remoteHost = true ∧
    d.dstIA = sc.localIA ∧ equalsIP d.dstHost sc.localHost = true := by
  simpa [addrValid, and_assoc] using h

theorem classifySCION_cases :
    (∃ s, siteSCION cfg sc req d = some s ∧ s ∈ scionSites ∧
      classifySCION cfg sc prev req cTx1 cRx d = .skip s.err) ∨
    (siteSCION cfg sc req d = siteNtp cfg req d.payload ∧
      classifySCION cfg sc prev req cTx1 cRx d =
        ntpStage cfg prev req cTx1 (scionRxTime d cTx1 cRx) d.payload ∧
      (∀ au, (d.decoded.length ≥ 3 && secondLast d.decoded == some .e2e) = true →
        sc.keyAvailable = true → d.authOpt = some au → au.spi = spiServer → au.alg = algCMAC →
        au.macOk = true) ∧
      d.decodeOk = true ∧ 2 ≤ d.decoded.length ∧ lastLayer d.decoded = some .udp ∧
      d.udpLength ≤ d.bufLen ∧ addrValid sc d = true) := by
  unfold siteSCION classifySCION classifySCIONWith
  by_cases h1 : (!d.decodeOk) = true
  · exact .inl ⟨.layers, if_pos h1, by decide, if_pos h1⟩
  rw [if_neg h1, if_neg h1]
  by_cases h2 : (!(decide (d.decoded.length ≥ 2) &&
      (lastLayer d.decoded == some .udp || lastLayer d.decoded == some .scmp))) = true
  · exact .inl ⟨.type, if_pos h2, by decide, if_pos h2⟩
  rw [if_neg h2, if_neg h2]
  by_cases h3 : (lastLayer d.decoded == some .scmp) = true
  · exact .inl ⟨.scmp, if_pos h3, by decide, if_pos h3⟩
  rw [if_neg h3, if_neg h3]
  by_cases h4 : d.bufLen < d.udpLength
  · exact .inl ⟨.udplen, if_pos h4, by decide, if_pos h4⟩
  rw [if_neg h4, if_neg h4]
  have a1 : ¬ (addrCheck sc d == none) = true := by simp [addrCheck]
  rw [if_neg a1]
  cases h5 : addrValid sc d
  · exact .inl ⟨.addr, rfl, by decide, by simp [addrCheck, h5, Site.err]⟩
  have a2 : ¬ (addrCheck sc d != some true) = true := by simp [addrCheck, h5]
  rw [if_neg a2, if_neg (by decide)]
  have hg : d.decodeOk = true ∧ 2 ≤ d.decoded.length ∧ lastLayer d.decoded = some .udp ∧
      d.udpLength ≤ d.bufLen ∧ true = true := by
    simp only [Bool.not_eq_true', Bool.not_eq_false, Bool.and_eq_true, Bool.or_eq_true,
      decide_eq_true_eq, beq_iff_eq] at h1 h2 h3
    exact ⟨h1, h2.1, h2.2.resolve_right h3, by omega, rfl⟩
  -- the checks passed so far go with whichever outcome of the authenticator part is no refusal
  refine Or.imp_right (And.imp_right (And.imp_right fun h => ⟨h, hg⟩)) ?_
  dsimp only
  by_cases hk : (decide (d.decoded.length ≥ 3) && secondLast d.decoded == some .e2e &&
      sc.keyAvailable) = true
  · rw [if_pos hk, if_pos hk]
    cases hau : d.authOpt with
    | none => exact .inr ⟨rfl, rfl, fun _ _ _ h => nomatch h⟩
    | some au =>
      dsimp only
      by_cases hw : (!au.wellFormed) = true
      · exact .inl ⟨.authlen, if_pos hw, by decide, if_pos hw⟩
      rw [if_neg hw, if_neg hw]
      by_cases hs : (au.spi == spiServer && au.alg == algCMAC) = true
      · rw [if_pos hs, if_pos hs]
        cases hm : au.macOk
        · exact .inl ⟨.authmac, rfl, by decide, rfl⟩
        · exact .inr ⟨rfl, rfl, fun _ _ _ h _ _ => by cases h; exact hm⟩
      · rw [if_neg hs, if_neg hs]
        exact .inr ⟨rfl, rfl, fun _ _ _ h hspi halg => absurd (by cases h; simp [hspi, halg]) hs⟩
  · rw [if_neg hk, if_neg hk]
    exact .inr ⟨rfl, rfl, fun _ he hkey => absurd (by rw [he, hkey]; rfl) hk⟩

theorem classifySCION_accept (a : Accepted) (h : classifySCION cfg sc prev req cTx1 cRx d = .accept a) :
    d.decodeOk = true ∧ 2 ≤ d.decoded.length ∧ lastLayer d.decoded = some .udp ∧
    d.udpLength ≤ d.bufLen ∧
    d.srcIA = sc.remoteIA ∧ equalsIP d.srcHost sc.remoteHost = true ∧
    d.dstIA = sc.localIA ∧ equalsIP d.dstHost sc.localHost = true ∧
    (∀ au, (d.decoded.length ≥ 3 && secondLast d.decoded == some .e2e) = true → sc.keyAvailable = true →
        d.authOpt = some au → au.spi = spiServer → au.alg = algCMAC → au.macOk = true) ∧
    ntpStage cfg prev req cTx1 (scionRxTime d cTx1 cRx) d.payload = .accept a := by
  rcases classifySCION_cases cfg sc prev req cTx1 cRx d with
    ⟨_, _, _, hs⟩ | ⟨_, hn, hau, h1, h2, h3, h4, hv⟩
  · rw [h] at hs; cases hs
  · obtain ⟨v1, v2, v3, v4⟩ := addrValid_true sc d hv
    exact ⟨h1, h2, h3, h4, v1, v2, v3, v4, hau, hn ▸ h⟩

variable (reference : String) (now : Int)

theorem mkRequest_cTx0 :
    (mkRequest cfg prev reference now).cTx0 = now := by
  unfold mkRequest; split <;> rfl

theorem mkRequest_basic_tx
    (h : (mkRequest cfg prev reference now).interleaved = false) :
    (mkRequest cfg prev reference now).tx = ofTime now := by
  unfold mkRequest at h ⊢
  split
  · rename_i hc; rw [if_pos hc] at h; cases h
  · rfl

theorem mkRequest_interleaved
    (h : (mkRequest cfg prev reference now).interleaved = true) :
    prev.reference = reference ∧ cfg.interleavedMode = true ∧
    (mkRequest cfg prev reference now).origin = prev.sRx ∧
    (mkRequest cfg prev reference now).rx = prev.cRx ∧ (mkRequest cfg prev reference now).tx = prev.cTx := by
  unfold mkRequest at h ⊢
  split
  · rename_i hc
    simp only [Bool.and_eq_true, beq_iff_eq] at hc
    exact ⟨hc.1.2.symm, hc.1.1, rfl, rfl, rfl⟩
  · rename_i hc; rw [if_neg hc] at h; cases h

end ScionTime.ClientNtp
