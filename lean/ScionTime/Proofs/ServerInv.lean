/-
  The structural invariant of the timestamp store (everything except heap order) and
  its preservation by the heap routines, `handleRequest` and `updateTX`.
-/
import ScionTime.Proofs.ServerHeap
import ScionTime.Proofs.ServerScan
namespace ScionTime.Server
open ScionTime.Time64

/-- per-item invariant (does not mention `qidx`); `P` is any predicate that every entry
    written by `handleRequest`/`updateTX` satisfies (used for C06: tx later than rx) -/
structure ItemOk (P : Entry → Prop) (icap : Nat) (k : Nat) (buf : List Entry) (qval : T64) : Prop where
  len_pos : 1 ≤ buf.length
  len_le : buf.length ≤ icap
  distinct : (buf.map (·.rx)).Nodup
  qval_ge : ∀ e ∈ buf, le64 e.rx qval
  owner : ∀ e ∈ buf, e.owner = k
  good : ∀ e ∈ buf, P e

theorem ItemOk.of_forall {P : Entry → Prop} {icap k : Nat} {buf : List Entry} {q : T64}
    (h1 : 1 ≤ buf.length) (h2 : buf.length ≤ icap) (h3 : (buf.map (·.rx)).Nodup)
    (h : ∀ e ∈ buf, le64 e.rx q ∧ e.owner = k ∧ P e) : ItemOk P icap k buf q :=
  ⟨h1, h2, h3, fun e he => (h e he).1, fun e he => (h e he).2.1, fun e he => (h e he).2.2⟩

def ItemsOk (P : Entry → Prop) (icap : Nat) (m : Map) : Prop :=
  ∀ k it, m.find k = some it → ItemOk P icap k it.buf it.qval

structure Inv0 (P : Entry → Prop) (cap icap : Nat) (st : State) : Prop where
  wf : WF st
  size : st.items.length ≤ cap
  items : ItemsOk P icap st.items

theorem itemsOk_same {P : Entry → Prop} {icap : Nat} {m m' : Map} (h : Same m m') (ok : ItemsOk P icap m) :
    ItemsOk P icap m' := by
  intro k it' hf
  obtain ⟨it, h1, h2, h3⟩ := same_find h hf
  rw [← h2, ← h3]; exact ok k it h1

theorem inv0_init (P : Entry → Prop) (cap icap : Nat) : Inv0 P cap icap init := by
  refine ⟨⟨by simp [init, Map.keys], rfl, ?_, ?_⟩, by simp [init], ?_⟩
  · intro i hi; simp [init] at hi
  · intro k q hq; simp [init, pos] at hq
  · intro k it h; simp [init] at h

theorem nodup_set_notin {α} : ∀ (l : List α) (i : Nat) (x : α), l.Nodup → x ∉ l → (l.set i x).Nodup := by
  intro l
  induction l with
  | nil => intro i x h _; simp
  | cons a l ih =>
    intro i x h hx
    rw [List.nodup_cons] at h
    cases i with
    | zero =>
      simp only [List.set_cons_zero, List.nodup_cons]
      exact ⟨fun hm => hx (List.mem_cons_of_mem _ hm), h.2⟩
    | succ i =>
      simp only [List.set_cons_succ, List.nodup_cons]
      refine ⟨?_, ih i x h.2 (fun hm => hx (List.mem_cons_of_mem _ hm))⟩
      intro hm
      rcases List.mem_or_eq_of_mem_set hm with hm | hm
      · exact h.1 hm
      · subst hm; exact hx (List.mem_cons_self)

theorem pos_modify (m : Map) (k : Nat) (f : Item → Item) (hf : ∀ it, (f it).qidx = it.qidx) (k' : Nat) :
    pos (m.modify k f) k' = pos m k' := by
  unfold pos
  rw [Map.find_modify]
  by_cases h : k = k'
  · simp only [h, if_true, Option.map_map]
    cases Map.find m k' <;> simp [hf]
  · simp [h]

theorem wf_modify (st : State) (h : WF st) (k : Nat) (f : Item → Item)
    (hf : ∀ it, (f it).qidx = it.qidx) : WF { st with items := st.items.modify k f } := by
  refine ⟨?_, ?_, ?_, ?_⟩
  · simp only [Map.keys_modify]; exact h.nodup
  · simp only [Map.length_modify]; exact h.len
  · intro i hi; simp only [hkey, pos_modify _ _ _ hf]; exact h.fwd i hi
  · intro k' q hq; simp only [pos_modify _ _ _ hf] at hq; exact h.bwd k' q hq

theorem kv_modify_ne (st : State) (h : WF st) (k : Nat) (f : Item → Item) (it : Item)
    (hit : st.items.find k = some it) (x : Nat) (hx : x < st.heap.size) (hne : x ≠ it.qidx) :
    kv { st with items := st.items.modify k f } x = kv st x := by
  have : ¬ k = hkey st x := fun e =>
    hne (h.inj hx (h.slot hit).1 (e.symm.trans (h.slot hit).2.symm))
  show qv (st.items.modify k f) (hkey st x) = qv st.items (hkey st x)
  unfold qv
  rw [Map.find_modify, if_neg this]

theorem hkey_up_gt (f : Nat) (st : State) (j x : Nat) (hj : j < st.heap.size) (hx : j < x) :
    hkey (up st j f) x = hkey st x := by
  induction f generalizing st j with
  | zero => rfl
  | succ f ih =>
    unfold up
    simp only
    split
    · rfl
    · rw [ih _ _ (by rw [size_swap]; omega) (by omega)]
      rw [hkey_swap st _ _ x (by omega) hj, if_neg (by omega), if_neg (by omega)]

theorem hkey_down_ge (f : Nat) (st : State) (i n x : Nat) (hn : n ≤ st.heap.size) (hx : n ≤ x) :
    hkey (down st i n f).1 x = hkey st x := by
  induction f generalizing st i with
  | zero => rfl
  | succ f ih =>
    unfold down
    split
    · rfl
    · split
      · rfl
      · have hc := child_spec st i n (by omega)
        rw [ih _ _ (by rw [size_swap]; exact hn)]
        rw [hkey_swap st _ _ x (by omega) (by omega), if_neg (by omega), if_neg (by omega)]

theorem hkey_fixn_ge (st : State) (h : WF st) (i n x : Nat) (hi : i < n) (hn : n ≤ st.heap.size)
    (hx : n ≤ x) : hkey (fixn st i n) x = hkey st x := by
  have hd := hkey_down_ge n st i n x hn hx
  unfold fixn
  split
  · exact hd
  · rw [hkey_up_gt _ _ _ _ (by rw [(keeps_down n st i n h hn).size]; omega) (by omega)]; exact hd

/-- removing the last heap slot together with its map entry -/
theorem wf_dropLast (st : State) (h : WF st) (hpos : 0 < st.heap.size) :
    WF { items := st.items.erase (hkey st (st.heap.size - 1)), heap := st.heap.pop } := by
  have hn : st.heap.size - 1 < st.heap.size := by omega
  refine ⟨Map.nodup_erase _ h.nodup _, ?_, ?_, ?_⟩
  · obtain ⟨it, hf, _⟩ := Option.map_eq_some_iff.1 (h.fwd _ hn)
    have := Map.length_erase _ _ _ hf
    have := h.len
    simp only [Array.size_pop]
    omega
  · intro i hi
    simp only [Array.size_pop] at hi
    rw [hkey_pop _ _ _ hi]
    unfold pos
    rw [Map.find_erase _ h.nodup]
    have : ¬ hkey st (st.heap.size - 1) = hkey st i := fun e => by
      have := h.inj hn (by omega) e; omega
    simp only [this, if_false]
    exact h.fwd i (by omega)
  · intro k q hq
    unfold pos at hq
    rw [Map.find_erase _ h.nodup] at hq
    by_cases e : hkey st (st.heap.size - 1) = k
    · simp [e] at hq
    · simp only [e, if_false] at hq
      obtain ⟨a, b⟩ := h.bwd k q hq
      have hq' : q < st.heap.size - 1 := by
        have : q ≠ st.heap.size - 1 := fun c => e (by rw [← c]; exact b)
        omega
      simp only [Array.size_pop]
      exact ⟨hq', by rw [hkey_pop _ _ _ hq']; exact b⟩

theorem fixQval_spec (st : State) (h : WF st) (id : Nat) (it : Item) (hit : st.items.find id = some it)
    (v : T64) :
    WF (fixQval st id v it.qidx) ∧ (fixQval st id v it.qidx).heap.size = st.heap.size ∧
      (fixQval st id v it.qidx).items.length = st.items.length ∧
      Same (setQval st.items id v) (fixQval st id v it.qidx).items := by
  have hq : it.qidx < st.heap.size := (h.slot hit).1
  have w1 : WF { st with items := setQval st.items id v } := wf_modify st h id _ (fun _ => rfl)
  have k : Keeps { st with items := setQval st.items id v } (fixQval st id v it.qidx) :=
    keeps_fixn _ w1 it.qidx _ hq (Nat.le_refl _)
  exact ⟨k.wf, k.size, k.wf.len.trans (k.size.trans h.len.symm), k.same⟩

/-- the final `Pop` with `delete(tss, k)`, after heap routines have brought `k` to the last slot -/
theorem dropLast_spec {st st1 : State} (h : WF st) (k1 : Keeps st st1) (hpos : 0 < st.heap.size)
    {k : Nat} (hk : hkey st1 (st.heap.size - 1) = k) :
    WF { items := st1.items.erase k, heap := st1.heap.pop } ∧
      (st1.items.erase k).length + 1 = st.items.length ∧
      (∀ k', k' ≠ k → ((st1.items.erase k).find k').map core = (st.items.find k').map core) ∧
      (st1.items.erase k).find k = none := by
  have hs : st1.heap.size = st.heap.size := k1.size
  have w := wf_dropLast st1 k1.wf (by omega)
  rw [hs, hk] at w
  refine ⟨w, ?_, ?_, ?_⟩
  · have a1 := w.len
    simp only [Array.size_pop] at a1
    have a2 := h.len
    omega
  · intro k' hk'
    rw [Map.find_erase _ k1.wf.nodup, if_neg (Ne.symm hk')]
    exact (k1.same k').symm
  · rw [Map.find_erase _ k1.wf.nodup]; simp

theorem popMin_pre (st : State) (h : WF st) (hpos : 0 < st.heap.size) :
    Keeps st (down (swap st 0 (st.heap.size - 1)) 0 (st.heap.size - 1) (st.heap.size - 1)).1 := by
  have k1 := keeps_swap st h 0 (st.heap.size - 1) hpos (by omega)
  exact k1.trans (keeps_down _ _ 0 _ k1.wf (by rw [k1.size]; omega))

theorem popMin_spec (st : State) (h : WF st) (hpos : 0 < st.heap.size) :
    WF (popMin st).1 ∧ (popMin st).1.items.length + 1 = st.items.length ∧
      (∀ k, k ≠ (popMin st).2 → ((popMin st).1.items.find k).map core = (st.items.find k).map core) ∧
      (popMin st).1.items.find (popMin st).2 = none :=
  dropLast_spec h (popMin_pre st h hpos) hpos rfl

/-- `heap.Remove` up to its final `Pop`: the item of `id` has been brought to the last slot,
    by `fixn` after a swap unless it was there. -/
theorem remove_pre (st : State) (h : WF st) (id : Nat) (it : Item)
    (hit : st.items.find id = some it) :
    ∃ st1, remove st it.qidx id = { items := st1.items.erase id, heap := st1.heap.pop } ∧
      Keeps st st1 ∧ hkey st1 (st.heap.size - 1) = id ∧
      (st1 = st ∨ it.qidx < st.heap.size - 1 ∧
        st1 = fixn (swap st it.qidx (st.heap.size - 1)) it.qidx (st.heap.size - 1)) := by
  obtain ⟨hq, hkq⟩ := h.slot hit
  have hn : st.heap.size - 1 < st.heap.size := by omega
  by_cases hne : st.heap.size - 1 = it.qidx
  · refine ⟨st, ?_, Keeps.refl h, by rw [hne]; exact hkq, Or.inl rfl⟩
    rw [remove_eq, if_neg (fun c => c hne)]
  · have hlt : it.qidx < st.heap.size - 1 := by omega
    have k1 := keeps_swap st h it.qidx (st.heap.size - 1) hq hn
    refine ⟨_, ?_, k1.trans (keeps_fixn _ k1.wf _ _ (by rw [k1.size]; exact hq)
      (by rw [k1.size]; omega)), ?_, Or.inr ⟨hlt, rfl⟩⟩
    · rw [remove_eq, if_pos hne]
    · rw [hkey_fixn_ge _ k1.wf _ _ _ hlt (by rw [k1.size]; omega) (Nat.le_refl _),
        hkey_swap st _ _ _ hq hn, if_pos rfl, hkq]

theorem remove_spec (st : State) (h : WF st) (id : Nat) (it : Item) (hit : st.items.find id = some it) :
    WF (remove st it.qidx id) ∧ (remove st it.qidx id).items.length + 1 = st.items.length ∧
      (∀ k, k ≠ id → ((remove st it.qidx id).items.find k).map core = (st.items.find k).map core) ∧
      (remove st it.qidx id).items.find id = none := by
  obtain ⟨st1, e, k, hk, _⟩ := remove_pre st h id it hit
  rw [e]
  exact dropLast_spec h k (by have := (h.slot hit).1; omega) hk

theorem kv_push (st : State) (h : WF st) (id : Nat) (it : Item) (hnone : st.items.find id = none)
    (x : Nat) (hx : x ≤ st.heap.size) :
    kv { items := setQidx ((id, it) :: st.items) id st.heap.size, heap := st.heap.push id } x =
      if x = st.heap.size then it.qval else kv st x := by
  unfold kv
  rw [hkey_push]
  show qv (setQidx ((id, it) :: st.items) id st.heap.size) _ = _
  rw [← qv_same (same_setQidx ((id, it) :: st.items) id st.heap.size)]
  unfold qv
  rw [Map.find_cons]
  by_cases e : x = st.heap.size
  · rw [if_pos e, if_pos e, if_pos rfl]
  · rw [if_neg e, if_neg e, if_neg (h.absent hnone (by omega)).symm]

theorem push_spec (st : State) (h : WF st) (id : Nat) (it : Item) (hnone : st.items.find id = none) :
    WF (push { st with items := (id, it) :: st.items } id) ∧
      (push { st with items := (id, it) :: st.items } id).items.length = st.items.length + 1 ∧
      Same ((id, it) :: st.items) (push { st with items := (id, it) :: st.items } id).items := by
  unfold push
  simp only
  have w1 : WF { items := setQidx ((id, it) :: st.items) id st.heap.size, heap := st.heap.push id } := by
    have hp : ∀ k, pos (setQidx ((id, it) :: st.items) id st.heap.size) k =
        if id = k then some st.heap.size else pos st.items k := by
      intro k
      rw [pos_setQidx]
      by_cases e : id = k
      · simp [e, Map.find_cons]
      · simp only [e, if_false]; unfold pos; rw [Map.find_cons]; simp [e]
    refine ⟨?_, ?_, ?_, ?_⟩
    · unfold setQidx
      rw [Map.keys_modify]
      exact List.nodup_cons.2 ⟨(Map.find_none_iff _ _).1 hnone, h.nodup⟩
    · unfold setQidx; rw [Map.length_modify]
      simp only [List.length_cons, Array.size_push]
      have := h.len; omega
    · intro i hi
      simp only [Array.size_push] at hi
      rw [hp, hkey_push]
      by_cases e : i = st.heap.size
      · rw [if_pos e, if_pos rfl, e]
      · rw [if_neg e, if_neg (h.absent hnone (by omega)).symm]
        exact h.fwd i (by omega)
    · intro k q hq
      rw [hp] at hq
      simp only [Array.size_push]
      rw [hkey_push]
      by_cases e : id = k
      · rw [if_pos e] at hq
        cases hq
        exact ⟨by omega, by rw [if_pos rfl, e]⟩
      · rw [if_neg e] at hq
        obtain ⟨a, b⟩ := h.bwd k q hq
        exact ⟨by omega, by rw [if_neg (by omega)]; exact b⟩
  have k := keeps_up (st.heap.size + 1) _ st.heap.size w1 (by simp)
  refine ⟨k.wf, ?_, (same_setQidx _ _ _).trans k.same⟩
  have := k.wf.len
  have := k.size
  have := h.len
  simp only [Array.size_push] at *
  omega

end ScionTime.Server
