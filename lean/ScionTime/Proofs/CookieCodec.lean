/-
  Helper lemmas for the cookie TLV codec (C10 cookie_roundtrip, C14Nts cookie round trips).
-/
import ScionTime.Model.Cookies
namespace ScionTime.Nts

theorem drop4' (a b c e : Nat) (l : Bytes) (n : Nat) : (a :: b :: c :: e :: l).drop (4 + n) = l.drop n := by
  have : 4 + n = n + 1 + 1 + 1 + 1 := by omega
  rw [this]; rfl

/-- what a TLV of type `t` with length field `l` and the bytes `v` behind its header stores -/
def tlvPut (t0 t1 t2 t l : Nat) (v : Bytes) (st : TlvSt) : TlvSt :=
  if t = t0 then { st with num := some (u16 (v.getD 0 0) (v.getD 1 0)) }
  else if t = t1 then { st with x := some (v.take l) }
  else if t = t2 then { st with y := some (v.take l) }
  else st

/-- one step of the loop on a TLV that lies inside the input (and has its two bytes, for `t0`):
    the same in both code versions -/
theorem tlvLoop_cons (chk : Bool) (t0 t1 t2 fuel a b c d : Nat) (v : Bytes) (st : TlvSt)
    (hl : u16 c d ≤ v.length) (h2 : u16 a b = t0 → 2 ≤ u16 c d) :
    tlvLoop chk t0 t1 t2 (fuel + 1) (a :: b :: c :: d :: v) st =
      tlvLoop chk t0 t1 t2 fuel (v.drop (u16 c d)) (tlvPut t0 t1 t2 (u16 a b) (u16 c d) v st) := by
  have hl' : ¬ u16 c d > v.length := by omega
  conv => lhs; unfold tlvLoop
  simp only [hl', decide_false, Bool.and_false, Bool.false_eq_true, if_false, tlvPut]
  by_cases h0 : u16 a b = t0
  · have h2' : ¬ u16 c d < 2 := by have := h2 h0; omega
    simp only [if_pos h0, h2', decide_false, Bool.and_false, Bool.false_eq_true, if_false]
    match v, hl, hl' with
    | n1 :: n0 :: v', _, _ => rfl
    | [], hl, _ => simp only [List.length_nil] at hl; have := h2 h0; omega
    | [_], hl, _ => simp only [List.length_cons, List.length_nil] at hl; have := h2 h0; omega
  · simp only [if_neg h0]
    rw [apply_ite (tlvLoop chk t0 t1 t2 fuel _), apply_ite (tlvLoop chk t0 t1 t2 fuel _)]

theorem tlvLoop_refused (t0 t1 t2 fuel a b c d : Nat) (v : Bytes) (st : TlvSt)
    (h : v.length < u16 c d ∨ (u16 a b = t0 ∧ u16 c d < 2)) :
    tlvLoop true t0 t1 t2 (fuel + 1) (a :: b :: c :: d :: v) st = .err .cookieData := by
  unfold tlvLoop
  by_cases hl : u16 c d > v.length
  · simp only [hl, decide_true, Bool.and_self, if_true]
  · obtain ⟨h0, h2⟩ := h.resolve_left (by omega)
    simp only [hl, decide_false, Bool.and_false, Bool.false_eq_true, if_false, if_pos h0, h2, decide_true, Bool.and_self, if_true]

/-- one step on a whole TLV `t | |v| | v`; the 2-byte field `t0` is the case `v = be16 num` -/
theorem tlv_step (chk : Bool) (t0 t1 t2 fuel t : Nat) (v tail : Bytes) (st : TlvSt)
    (ht : t < 65536) (h0 : t = t0 → 2 ≤ v.length) (hv : v.length < 65536) :
    tlvLoop chk t0 t1 t2 (fuel + 1) (be16 t ++ be16 v.length ++ v ++ tail) st =
      tlvLoop chk t0 t1 t2 fuel tail (tlvPut t0 t1 t2 t v.length (v ++ tail) st) := by
  have e : be16 t ++ be16 v.length ++ v ++ tail =
      (t / 256 % 256) :: (t % 256) :: (v.length / 256 % 256) :: (v.length % 256) :: (v ++ tail) := by
    simp [be16]
  rw [e, tlvLoop_cons _ _ _ _ _ _ _ _ _ _ _ (by rw [u16_be16 _ hv, List.length_append]; omega)
      (by rw [u16_be16 _ ht, u16_be16 _ hv]; exact h0),
    u16_be16 t ht, u16_be16 _ hv, List.drop_left]

theorem decodeTLV_encodeTLV (chk : Bool) (t0 t1 t2 : Nat) (c : Triple)
    (h0 : t0 < 65536) (h1 : t1 < 65536) (h2 : t2 < 65536) (h10 : t1 ≠ t0) (h20 : t2 ≠ t0) (h21 : t2 ≠ t1)
    (hn : c.num < 65536) (hx : c.x.length < 65536) (hy : c.y.length < 65536) :
    decodeTLV chk t0 t1 t2 (encodeTLV t0 t1 t2 c) = .ok c := by
  have hlen : (encodeTLV t0 t1 t2 c).length + 1 = (c.x.length + c.y.length + 11) + 1 + 1 + 1 + 1 := by
    simp [encodeTLV, be16]; omega
  unfold decodeTLV
  rw [hlen]
  have e : encodeTLV t0 t1 t2 c =
      be16 t0 ++ be16 (be16 c.num).length ++ be16 c.num ++
        (be16 t1 ++ be16 c.x.length ++ c.x ++ (be16 t2 ++ be16 c.y.length ++ c.y ++ [])) := by
    simp [encodeTLV, be16, Nat.mod_eq_of_lt hx, Nat.mod_eq_of_lt hy]
  rw [e, tlv_step chk t0 t1 t2 _ t0 (be16 c.num) _ _ h0 (fun _ => Nat.le_refl 2) (show 2 < 65536 by decide),
    tlv_step chk t0 t1 t2 _ t1 c.x _ _ h1 (fun h => absurd h h10) hx,
    tlv_step chk t0 t1 t2 _ t2 c.y _ _ h2 (fun h => absurd h h20) hy]
  simp [tlvLoop, tlvPut, h10, h20, h21, be16, u16_be16 c.num hn]

theorem encodeTLV_length (t0 t1 t2 : Nat) (c : Triple) :
    (encodeTLV t0 t1 t2 c).length = 14 + c.x.length + c.y.length := by
  simp [encodeTLV, be16]; omega

/-- bytes a decoder state accounts for: 6 for the 2-byte field, 4 + length for each byte string -/
def TlvSt.size (st : TlvSt) : Nat :=
  (match st.num with | some _ => 6 | none => 0) +
  (match st.x with | some x => 4 + x.length | none => 0) +
  (match st.y with | some y => 4 + y.length | none => 0)

theorem tlvPut_size (t0 t1 t2 t l : Nat) (v : Bytes) (st : TlvSt) (hl : l ≤ v.length) (h2 : t = t0 → 2 ≤ l) :
    (tlvPut t0 t1 t2 t l v st).size ≤ st.size + 4 + l := by
  unfold tlvPut
  by_cases h0 : t = t0
  · have := h2 h0
    rw [if_pos h0]; unfold TlvSt.size; cases st.num <;> simp only <;> omega
  rw [if_neg h0]
  by_cases h1 : t = t1
  · rw [if_pos h1]; unfold TlvSt.size; cases st.x <;> simp only [List.length_take] <;> omega
  rw [if_neg h1]
  by_cases h2 : t = t2
  · rw [if_pos h2]; unfold TlvSt.size; cases st.y <;> simp only [List.length_take] <;> omega
  · rw [if_neg h2]; omega

/-- every decoded field was read from its own TLV: the fields of the result fit in the input -/
theorem tlvLoop_size (t0 t1 t2 : Nat) :
    ∀ (fuel : Nat) (rest : Bytes) (st r : TlvSt), tlvLoop true t0 t1 t2 fuel rest st = .ok r →
      r.size ≤ st.size + rest.length := by
  intro fuel
  induction fuel with
  | zero => intro rest st r h; cases h
  | succ fuel ih =>
    intro rest st r h
    match rest, h with
    | [], h => simp only [tlvLoop, Res.ok.injEq] at h; subst h; exact Nat.le_add_right _ _
    | [_], h | [_, _], h | [_, _, _], h => simp [tlvLoop] at h
    | a :: b :: c :: d :: v, h =>
      by_cases hc : v.length < u16 c d ∨ (u16 a b = t0 ∧ u16 c d < 2)
      · rw [tlvLoop_refused _ _ _ _ _ _ _ _ _ _ hc] at h; cases h
      · have hl : u16 c d ≤ v.length := by omega
        have h2 : u16 a b = t0 → 2 ≤ u16 c d := by omega
        rw [tlvLoop_cons _ _ _ _ _ _ _ _ _ _ _ hl h2] at h
        have h3 := ih _ _ _ h
        have h4 := tlvPut_size t0 t1 t2 _ _ v st hl h2
        simp only [List.length_drop, List.length_cons] at h3 ⊢
        omega

/-- a cookie that decodes is at least as long as its three TLVs -/
theorem decodeTLV_size (t0 t1 t2 : Nat) (b : Bytes) (c : Triple) (h : decodeTLV true t0 t1 t2 b = .ok c) :
    14 + c.x.length + c.y.length ≤ b.length := by
  unfold decodeTLV at h
  cases hl : tlvLoop true t0 t1 t2 (b.length + 1) b {} with
  | ok st =>
    rw [hl] at h
    have hs := tlvLoop_size t0 t1 t2 _ _ _ _ hl
    simp only at h
    cases hn : st.num <;> cases hx : st.x <;> cases hy : st.y <;> simp only [hn, hx, hy] at h <;> try (simp at h)
    rename_i n x y
    subst h
    simp only [TlvSt.size, hn, hx, hy] at hs
    show 14 + x.length + y.length ≤ b.length
    omega
  | err _ | panic _ | hang => rw [hl] at h; simp at h

end ScionTime.Nts
